/-
  Rivia.Model.Path — transcription of `src/sys/fs/path.rs` (and the `std::path` pieces it uses,
  DESIGN Appendix B) over `Str = List Char`.  The model is of the code that exists: defects are
  reproduced (e.g. `trimPrefix` slices a byte string at a *character* count).
-/
import Rivia.Model.Str
import Rivia.Model.Outcome

namespace Rivia
open Str

/-- `std::path::Component` on Unix. -/
inductive Comp where
  | root | cur | parent
  | normal (s : Str)
  deriving DecidableEq, Repr, Inhabited

/-- `Component::as_os_str`. -/
def Comp.str : Comp → Str
  | .root => ['/']
  | .cur => ['.']
  | .parent => ['.', '.']
  | .normal s => s

def splitSlash (s : Str) : List Str := splitOn '/' s

/-- A piece between separators that is a real body component (not empty, not `.`). -/
def isBody (p : Str) : Bool := !(p == [] || p == ['.'])

def bodyComp (p : Str) : Option Comp :=
  if p = [] ∨ p = ['.'] then none
  else if p = ['.', '.'] then some .parent
  else some (.normal p)

def isRooted : Str → Bool
  | '/' :: _ => true
  | _ => false

/-- `Path::components()` for Unix: repeated separators and inner `.` dropped, a leading `.` of a
    relative path kept as `CurDir`, trailing separator dropped. -/
def components (s : Str) : List Comp :=
  if isRooted s then .root :: (splitSlash s).filterMap bodyComp
  else (if (splitSlash s).head? = some ['.'] then [.cur] else []) ++ (splitSlash s).filterMap bodyComp

def endsWithSlash : Str → Bool
  | [] => false
  | [c] => c == '/'
  | _ :: cs => endsWithSlash cs

/-- `PathBuf::push`: an absolute argument replaces the buffer; otherwise a separator is inserted
    iff the buffer is non-empty and does not end in one. -/
def push (buf p : Str) : Str :=
  if isRooted p then p
  else if buf ≠ [] ∧ endsWithSlash buf = false then buf ++ '/' :: p
  else buf ++ p

/-- `iter.collect::<PathBuf>()` over components = successive `push`. -/
def render (cs : List Comp) : Str := cs.foldl (fun b c => push b c.str) []

/-- Drop trailing elements satisfying `p`. -/
def dropTrailing {α} (p : α → Bool) (l : List α) : List α := (l.reverse.dropWhile p).reverse

/-- `Path::parent()` at the string level: the sub-slice that ends with the second-to-last
    component; `none` if there is no component or the last one is the root. -/
def parentStr (s : Str) : Option Str :=
  match splitSlash s with
  | [] => none
  | p0 :: rest =>
    let rest' := dropTrailing (fun p => !isBody p) rest
    match rest'.reverse with
    | [] =>
      -- the last component is `p0` itself
      if isRooted s then none else if p0 = [] then none else some []
    | _ :: before =>
      let rest'' := dropTrailing (fun p => !isBody p) before.reverse
      if rest'' = [] ∧ isRooted s then some ['/'] else some (joinWith '/' (p0 :: rest''))

/-- `PathBuf::pop`: truncate to the parent if there is one. -/
def pop (buf : Str) : Str :=
  match parentStr buf with
  | some p => p
  | none => buf

/-! ### clean -/

structure CleanSt where
  cnt : Nat
  prev : Option Comp
  buf : Str
  deriving Repr, DecidableEq

/-- One iteration of the `for component in path.components()` loop of `clean`.
    `none` = the `prev.unwrap()` would panic. -/
def cleanStep (st : CleanSt) (c : Comp) : Option CleanSt :=
  if c = .cur ∧ st.cnt = 0 then some st
  else if c = .parent ∧ st.cnt > 0 ∧ st.prev ≠ some .parent then
    match st.prev with
    | none => none
    | some .root => some st
    | some (.normal _) =>
      let b := pop st.buf
      some { cnt := st.cnt - 1, prev := (components b).getLast?, buf := b }
    | some _ => some st
  else some { cnt := st.cnt + 1, prev := some c, buf := push st.buf c.str }

def cleanFold : CleanSt → List Comp → Option CleanSt
  | st, [] => some st
  | st, c :: cs => match cleanStep st c with
    | none => none
    | some st' => cleanFold st' cs

/-- `sys::clean`; `none` = panic. -/
def cleanO (s : Str) : Option Str :=
  match cleanFold ⟨0, none, []⟩ (components s) with
  | none => none
  | some st => if st.buf = [] then some ['.'] else some st.buf

/-! ### simple helpers -/

/-- `trim_prefix` as written: `&base[prefix.len()..]` (byte slicing; `none` = panic). -/
def trimPrefixO (path pre : Str) : Option Str :=
  if pre.isPrefixOf path then dropBytes path (byteLen pre) else some path

/-- `trim_suffix` as written: `&base[..base.len() - suffix.len()]` (`none` = panic). -/
def trimSuffixO (path suf : Str) : Option Str :=
  if suf.isSuffixOf path then takeBytes path (byteLen path - byteLen suf) else some path

/-- `trim_prefix` on characters. `Lemmas.trimPrefixO_eq_spec` shows the byte slicing above never
    panics and equals this (a prefix always ends on a char boundary). -/
def trimPrefix (path pre : Str) : Str :=
  if pre.isPrefixOf path then path.drop pre.length else path

/-- `trim_suffix` on characters (see `trimPrefix`). -/
def trimSuffix (path suf : Str) : Str :=
  if suf.isSuffixOf path then path.take (path.length - suf.length) else path

/-- remove every leading separator (`str::trim_start_matches('/')`) -/
def stripSlashes : Str → Str
  | '/' :: r => stripSlashes r
  | s => s

/-- `mash`: trim all leading separators of `base`, `join`, re-collect the components. -/
def mash (dir base : Str) : Str := render (components (push dir (stripSlashes base)))

def isAbsolute (s : Str) : Bool := isRooted s

def base (s : Str) : Outcome Str :=
  match (components s).getLast? with
  | some c => .ok c.str
  | none => .err .iterItemNotFound

def first (s : Str) : Outcome Str :=
  match (components s).head? with
  | some c => .ok c.str
  | none => .err .iterItemNotFound

def dir (s : Str) : Outcome Str :=
  match parentStr s with
  | some p => .ok p
  | none => .err .parentNotFound

def concat (p v : Str) : Str := p ++ v

def fileName (s : Str) : Option Str :=
  match (components s).getLast? with
  | some (.normal n) => some n
  | _ => none

/-- `Path::extension`: after the last `.` of the file name; none without a dot or when the only
    dot is the first byte. -/
def extension (s : Str) : Option Str :=
  match fileName s with
  | none => none
  | some n =>
    let r := n.reverse
    let afterRev := r.takeWhile (· ≠ '.')
    match r.dropWhile (· ≠ '.') with
    | [] => none
    | _ :: beforeRev => if beforeRev = [] then none else some afterRev.reverse

def ext (s : Str) : Outcome Str :=
  match extension s with
  | some e => .ok e
  | none => .err .extensionNotFound

def trimExt (s : Str) : Outcome Str :=
  match extension s with
  | some e => Outcome.ofPanicOption (trimSuffixO s ('.' :: e))
  | none => .ok s

def name (s : Str) : Outcome Str :=
  match trimExt s with
  | .ok t => base t
  | .err k => .err k
  | .panic => .panic
  | .hang => .hang

def has (p v : Str) : Bool := Str.contains p v
def hasPrefix (p v : Str) : Bool := v.isPrefixOf p
def hasSuffix (p v : Str) : Bool := v.isSuffixOf p
def isEmpty (p : Str) : Bool := p == []
def last (s : Str) : Outcome Str := base s

def parsePaths (s : Str) : List Str := (splitOn ':' s).filter (· ≠ [])

/-- `components().drop(1).as_path()`: rest after the first component with leading/trailing
    non-components trimmed. -/
def trimFirst (s : Str) : Str :=
  match splitSlash s with
  | [] => []
  | _ :: rest =>
    joinWith '/' (dropTrailing (fun p => !isBody p) (rest.dropWhile (fun p => !isBody p)))

/-- `components().drop(-1).as_path()`. -/
def trimLast (s : Str) : Str := (parentStr s).getD []

def proto (s : String) : Str := s.toList

def trimProtocol (s : Str) : Str :=
  match findIdx s ['/', '/'] with
  | none => s
  | some i =>
    let pre := s.take (i + 2)
    let suf := s.drop (i + 2)
    let l := lower pre
    let l := trimStartMatches l (proto "file://")
    let l := trimStartMatches l (proto "ftp://")
    let l := trimStartMatches l (proto "http://")
    let l := trimStartMatches l (proto "https://")
    if l ≠ [] then pre ++ suf else suf

/-! ### relative -/

def relLoop : List Comp → List Comp → List Comp → List Comp
  | [], [], acc => acc
  | [], _ :: ys, acc => relLoop [] ys (acc ++ [.parent])
  | a :: xs, [], acc => acc ++ a :: xs
  | a :: xs, b :: ys, acc =>
    if acc.isEmpty ∧ a = b then relLoop xs ys acc
    else acc ++ (.parent :: ys.map (fun _ => Comp.parent)) ++ a :: xs

def relative (p b : Str) : Str :=
  if components p = components b then p
  else render (relLoop (components p) (components b) [])

/-! ### expand -/

abbrev Env := Str → Option Str

def homeDir (env : Env) : Outcome Str :=
  match env (proto "HOME") with
  | some h => .ok h
  | none => .err .var

def isVarChar (x : Char) : Bool := x ≠ '$' && x ≠ '}'

/-- The per-component `$VAR` / `${VAR}` scanner of `expand`. -/
def expandSeg (env : Env) : Nat → Str → Str → Outcome Str
  | 0, _, acc => .ok acc
  | _ + 1, [], acc => .ok acc
  | f + 1, cs, acc =>
    let lit := cs.takeWhile (· ≠ '$')
    let acc := acc ++ lit
    match cs.dropWhile (· ≠ '$') with
    | [] => .ok acc
    | _ :: rest =>
      let rest := if rest.head? = some '{' then rest.tail else rest
      let var := rest.takeWhile isVarChar
      let rest := rest.dropWhile isVarChar
      let rest := if rest.head? = some '}' then rest.tail else rest
      if var = [] then .err .invalidExpansion
      else match env var with
        | none => .err .var
        | some v => expandSeg env f rest (acc ++ v)

def expandComps (env : Env) : List Comp → Str → Outcome Str
  | [], buf => .ok buf
  | .normal y :: cs, buf =>
    match expandSeg env (y.length + 1) y [] with
    | .ok s => expandComps env cs (push buf s)
    | .err k => .err k
    | .panic => .panic
    | .hang => .hang
  | c :: cs, buf => expandComps env cs (push buf c.str)

def expand (env : Env) (s : Str) : Outcome Str :=
  let cnt := s.count '~'
  let stage1 : Outcome Str :=
    if cnt > 1 then .err .multipleHomeSymbols
    else if cnt = 1 ∧ !(hasPrefix s ['~', '/']) ∧ s ≠ ['~'] then .err .invalidExpansion
    else if cnt = 1 ∧ s = ['~'] then homeDir env
    else if cnt = 1 then
      match homeDir env with
      | .ok h => match dropBytes s 2 with
        | some r => .ok (mash h r)
        | none => .panic
      | o => o
    else .ok s
  match stage1 with
  | .ok p => if p.any (· == '$') then expandComps env (components p) [] else .ok p
  | o => o

/-! ### abs (Memfs::_abs; Stdfs::abs is transcribed separately in Stdfs.lean) -/

def absLoop : Nat → Str → Str → Outcome Str
  | 0, curr, _ => .ok curr
  | f + 1, curr, p =>
    match (components p).head? with
    | none => .ok curr
    | some .cur => absLoop f curr (trimFirst p)
    | some .parent =>
      if curr = ['/'] then .err .parentNotFound
      else match dir curr with
        | .ok d => absLoop f d (trimFirst p)
        | .err k => .err k
        | .panic => .panic
        | .hang => .hang
    | some _ => .ok (mash curr p)

def absWith (env : Env) (cwd : Str) (s : Str) : Outcome Str :=
  if s = [] then .err .empty
  else match expand env s with
    | .ok p =>
      match cleanO (trimProtocol p) with
      | none => .panic
      | some c =>
        if isAbsolute c then .ok c
        else absLoop ((components c).length + 1) cwd c
    | .err k => .err k
    | .panic => .panic
    | .hang => .hang

end Rivia

namespace Rivia

/-! ### Stdfs::abs — transcribed separately from `src/sys/fs/stdfs/mod.rs` (the code is a second
    copy of the pipeline: empty check, expand, trim_protocol, clean, walk leading `.`/`..` against the
    process cwd, mash) -/

def absLoopStd : Nat → Str → Str → Outcome Str
  | 0, curr, _ => .ok curr
  | f + 1, curr, p =>
    match (components p).head? with
    | none => .ok curr
    | some .cur => absLoopStd f curr (trimFirst p)
    | some .parent =>
      if curr = ['/'] then .err .parentNotFound
      else match dir curr with
        | .ok d => absLoopStd f d (trimFirst p)
        | .err k => .err k
        | .panic => .panic
        | .hang => .hang
    | some _ => .ok (mash curr p)

def absStdWith (env : Env) (cwd : Str) (s : Str) : Outcome Str :=
  if isEmpty s then .err .empty
  else match expand env s with
    | .ok p =>
      match cleanO (trimProtocol p) with
      | none => .panic
      | some c =>
        if isAbsolute c then .ok c
        else absLoopStd ((components c).length + 1) cwd c
    | .err k => .err k
    | .panic => .panic
    | .hang => .hang

end Rivia
