/-
  Rivia.Lemmas.Conc — helper lemmas for C04 (atomic single-section calls under a scheduler):
  a successful scheduled run is a chain of `after` steps, so it equals the sequential run in the
  induced order; on the sequential model, the content of a file after a run of `append_all` calls.
-/
import Rivia.Model.Conc
import Rivia.Lemmas.MemfsBase

namespace Rivia.Lemmas
open Rivia Rivia.Memfs Rivia.Conc Rivia.File

theorem sections_length {op : Op} {gs : List GKind} (h : sections op = some gs) : gs.length = 1 := by
  cases op <;> cases h <;> rfl

/-! ## schedules -/

/-- the induced order with every call tagged by the thread that makes it -/
def inducedTagged : List (List Op) → List Nat → List (Nat × Op)
  | _, [] => []
  | todo, i :: is =>
    match todo[i]? with
    | some (op :: rest) => (i, op) :: inducedTagged (todo.set i rest) is
    | _ => []

/-- the results of thread `i` inside a tagged result list -/
def resultsOf (i : Nat) (l : List ((Nat × Op) × Outcome Val)) : List (Outcome Val) :=
  l.filterMap (fun x => if x.1.1 = i then some x.2 else none)

theorem inducedTagged_map_snd (todo : List (List Op)) (sched : List Nat) :
    (inducedTagged todo sched).map Prod.snd = induced todo sched := by
  induction sched generalizing todo with
  | nil => rfl
  | cons i is ih =>
    simp only [inducedTagged, induced]
    cases todo[i]? with
    | none => rfl
    | some l =>
      cases l with
      | nil => rfl
      | cons op rest => simp [ih]

/-- the configuration after thread `i` made the call `op` (its remaining calls being `rest`) -/
def after (env : Env) (c : Cfg) (i : Nat) (op : Op) (rest : List Op) : Cfg :=
  ⟨(step env c.st op).2, c.todo.set i rest, c.done.set i ((c.done[i]?.getD []) ++ [(step env c.st op).1])⟩

@[simp] theorem after_st (env : Env) (c : Cfg) (i : Nat) (op : Op) (rest : List Op) :
    (after env c i op rest).st = (step env c.st op).2 := rfl
@[simp] theorem after_todo (env : Env) (c : Cfg) (i : Nat) (op : Op) (rest : List Op) :
    (after env c i op rest).todo = c.todo.set i rest := rfl
@[simp] theorem after_done (env : Env) (c : Cfg) (i : Nat) (op : Op) (rest : List Op) :
    (after env c i op rest).done = c.done.set i ((c.done[i]?.getD []) ++ [(step env c.st op).1]) := rfl

theorem stepThread_of_todo {env : Env} {c : Cfg} {i : Nat} {op : Op} {rest : List Op}
    (h : c.todo[i]? = some (op :: rest)) :
    stepThread env c i = some (after env c i op rest) := by
  unfold stepThread
  rw [h]
  rfl

theorem runSchedule_of_todo {env : Env} {c : Cfg} {i : Nat} {op : Op} {rest : List Op}
    (h : c.todo[i]? = some (op :: rest)) (is : List Nat) :
    runSchedule env c (i :: is) = runSchedule env (after env c i op rest) is := by
  simp only [runSchedule, stepThread_of_todo h]

theorem runSchedule_induction {env : Env} {c' : Cfg}
    {motive : (c : Cfg) → (sched : List Nat) → runSchedule env c sched = some c' → Prop}
    (nil : motive c' [] rfl)
    (cons : ∀ c i is op rest (hop : c.todo[i]? = some (op :: rest))
      (hrun : runSchedule env (after env c i op rest) is = some c'),
      motive (after env c i op rest) is hrun →
      motive c (i :: is) ((runSchedule_of_todo hop is).trans hrun))
    (c : Cfg) (sched : List Nat) (h : runSchedule env c sched = some c') : motive c sched h := by
  induction sched generalizing c with
  | nil => cases h; exact nil
  | cons i is ih =>
    cases hi : c.todo[i]? with
    | none => simp [runSchedule, stepThread, hi] at h
    | some l =>
      cases l with
      | nil => simp [runSchedule, stepThread, hi] at h
      | cons op rest =>
        have hrun := (runSchedule_of_todo hi is).symm.trans h
        exact cons c i is op rest hi hrun (ih _ hrun)

theorem runSeq_cons (env : Env) (s : State) (op : Op) (ops : List Op) :
    runSeq env s (op :: ops) =
      ((runSeq env (step env s op).2 ops).1, (step env s op).1 :: (runSeq env (step env s op).2 ops).2) := by
  simp only [runSeq]

theorem runSchedule_state {env : Env} {c c' : Cfg} {sched : List Nat}
    (h : runSchedule env c sched = some c') :
    c'.st = (runSeq env c.st (induced c.todo sched)).1 := by
  induction c, sched, h using runSchedule_induction with
  | nil => rfl
  | cons c i is op rest hop _ ih =>
    simp only [induced, hop, runSeq_cons]
    exact ih

theorem runSchedule_tagged_fst {env : Env} {c c' : Cfg} {sched : List Nat}
    (h : runSchedule env c sched = some c') :
    (inducedTagged c.todo sched).map Prod.fst = sched := by
  induction c, sched, h using runSchedule_induction with
  | nil => rfl
  | cons c i is op rest hop _ ih =>
    simp only [inducedTagged, hop, List.map_cons]
    exact congrArg _ ih

theorem runSchedule_induced_length {env : Env} {c c' : Cfg} {sched : List Nat}
    (h : runSchedule env c sched = some c') : (induced c.todo sched).length = sched.length := by
  rw [← inducedTagged_map_snd, List.length_map, ← List.length_map (f := Prod.fst),
    runSchedule_tagged_fst h]

theorem runSeq_length (env : Env) (ops : List Op) : ∀ s, (runSeq env s ops).2.length = ops.length := by
  induction ops with
  | nil => intro s; rfl
  | cons op ops ih => intro s; simp [runSeq_cons, ih]

theorem runSchedule_done {env : Env} {c c' : Cfg} {sched : List Nat}
    (h : runSchedule env c sched = some c') (i : Nat) :
    c'.done[i]? = (c.done[i]?).map (fun l => l ++ resultsOf i
      ((inducedTagged c.todo sched).zip (runSeq env c.st (induced c.todo sched)).2)) := by
  induction c, sched, h using runSchedule_induction with
  | nil => simp [inducedTagged, resultsOf]
  | cons c j is op rest hop _ ih =>
    rw [ih]
    simp only [after, inducedTagged, induced, hop, runSeq_cons, List.zip_cons_cons]
    by_cases hij : j = i
    · subst hij
      by_cases hlt : j < c.done.length
      · simp [hlt, resultsOf]
      · have : c.done[j]? = none := by simp at hlt; simp [hlt]
        simp [hlt]
    · rw [List.getElem?_set_ne hij]
      cases c.done[i]? with
      | none => rfl
      | some l => simp [resultsOf, hij]

theorem runSchedule_interleaving_ext {env : Env} {c c' : Cfg} {sched : List Nat}
    (h : runSchedule env c sched = some c') (l : List Op) (hl : Interleaving c'.todo l) :
    Interleaving c.todo (induced c.todo sched ++ l) := by
  induction c, sched, h using runSchedule_induction with
  | nil => exact hl
  | cons c i is op rest hop _ ih =>
    simp only [induced, hop, List.cons_append]
    exact Interleaving.cons c.todo i op rest _ hop ih

theorem runSchedule_todo_split {env : Env} {c c' : Cfg} {sched : List Nat}
    (h : runSchedule env c sched = some c') (i : Nat) :
    c.todo[i]? = (c'.todo[i]?).map (fun r =>
      ((inducedTagged c.todo sched).filterMap (fun x => if x.1 = i then some x.2 else none)) ++ r) := by
  induction c, sched, h using runSchedule_induction with
  | nil => simp [inducedTagged]
  | cons c j is op rest hop _ ih =>
    simp only [inducedTagged, hop]
    by_cases hij : j = i
    · subst hij
      have hlt : j < c.todo.length := by
        rcases Nat.lt_or_ge j c.todo.length with h | h
        · exact h
        · simp [List.getElem?_eq_none h] at hop
      rw [after, List.getElem?_set_self hlt] at ih
      cases hc : c'.todo[j]? with
      | none => rw [hc] at ih; cases ih
      | some r =>
        rw [hc, Option.map_some, Option.some.injEq] at ih
        rw [hop, Option.map_some, List.filterMap_cons, if_pos rfl, List.cons_append, ← ih]
    · rw [after, List.getElem?_set_ne hij] at ih
      rw [ih]
      cases c'.todo[i]? with
      | none => rfl
      | some r => simp [hij]

theorem runSchedule_todo_length {env : Env} {c c' : Cfg} {sched : List Nat}
    (h : runSchedule env c sched = some c') :
    c'.todo.length = c.todo.length ∧ c'.done.length = c.done.length := by
  induction c, sched, h using runSchedule_induction with
  | nil => exact ⟨rfl, rfl⟩
  | cons c i is op rest _ _ ih => simpa [after] using ih

/-! ### interleavings are permutations of the program -/

theorem flatten_set_perm (ls : List (List Op)) :
    ∀ (i : Nat) (op : Op) (rest : List Op), ls[i]? = some (op :: rest) →
      ls.flatten.Perm (op :: (ls.set i rest).flatten) := by
  induction ls with
  | nil => intro i op rest h; simp at h
  | cons l ls ih =>
    intro i op rest h
    cases i with
    | zero =>
      simp only [List.getElem?_cons_zero, Option.some.injEq] at h
      subst h
      simp
    | succ i =>
      simp only [List.getElem?_cons_succ] at h
      have := ih i op rest h
      simp only [List.set_cons_succ, List.flatten_cons]
      exact ((List.Perm.append_left l this).trans List.perm_middle)

theorem interleaving_perm {ls : List (List Op)} {l : List Op} (h : Interleaving ls l) :
    l.Perm ls.flatten := by
  induction h with
  | nil ls h => rw [List.flatten_eq_nil_iff.mpr h]
  | cons ls i op rest l hi _ ih =>
    exact (List.Perm.cons op ih).trans (flatten_set_perm ls i op rest hi).symm

/-- completeness of the schedule model: every order-preserving merge of the threads' programs is the
    induced order of some schedule, and that schedule runs to completion -/
theorem interleaving_exists_schedule {env : Env} {ls : List (List Op)} {l : List Op}
    (h : Interleaving ls l) :
    ∀ (s : State) (done : List (List (Outcome Val))),
      ∃ sched c', runSchedule env ⟨s, ls, done⟩ sched = some c' ∧ induced ls sched = l ∧
        ∀ x ∈ c'.todo, x = [] := by
  induction h with
  | nil ls h => intro s done; exact ⟨[], _, rfl, rfl, h⟩
  | cons ls i op rest l hi _ ih =>
    intro s done
    obtain ⟨sched, c', hrun, hind, hall⟩ := ih (step env s op).2
      (done.set i ((done[i]?.getD []) ++ [(step env s op).1]))
    refine ⟨i :: sched, c', (runSchedule_of_todo (c := ⟨s, ls, done⟩) hi sched).trans hrun, ?_, hall⟩
    simp only [induced, hi, hind]

/-! ### progress -/

theorem exists_pending_of_ne (ls : List (List Op)) (h : ¬ ∀ l ∈ ls, l = []) :
    ∃ (i : Nat) (op : Op) (rest : List Op), ls[i]? = some (op :: rest) := by
  induction ls with
  | nil => exact absurd (by simp) h
  | cons l ls ih =>
    cases l with
    | cons op rest => exact ⟨0, op, rest, rfl⟩
    | nil =>
      have : ¬ ∀ l ∈ ls, l = [] := by
        intro hh; apply h; intro x hx
        simp only [List.mem_cons] at hx
        rcases hx with rfl | hx
        · rfl
        · exact hh x hx
      obtain ⟨i, op, rest, hi⟩ := ih this
      exact ⟨i + 1, op, rest, by simpa using hi⟩

theorem exists_complete_schedule (env : Env) :
    ∀ (n : Nat) (c : Cfg), c.todo.flatten.length = n →
      ∃ sched c', runSchedule env c sched = some c' ∧ ∀ l ∈ c'.todo, l = [] := by
  intro n
  induction n with
  | zero =>
    intro c hc
    exact ⟨[], c, rfl, List.flatten_eq_nil_iff.mp (List.length_eq_zero_iff.mp hc)⟩
  | succ n ih =>
    intro c hc
    by_cases hall : ∀ l ∈ c.todo, l = []
    · exact ⟨[], c, rfl, hall⟩
    · obtain ⟨i, op, rest, hi⟩ := exists_pending_of_ne _ hall
      have hlen := (flatten_set_perm c.todo i op rest hi).length_eq
      rw [List.length_cons] at hlen
      obtain ⟨sched, c', hrun, hdone⟩ := ih (after env c i op rest)
        (show (c.todo.set i rest).flatten.length = n by omega)
      exact ⟨i :: sched, c', (runSchedule_of_todo hi sched).trans hrun, hdone⟩

/-! ## `append_all` on the sequential model -/

/-! ### reading successful runs of the `M` monad -/

theorem bind_ok {α β} {m : M α} {f : α → M β} {s : State} {b : β} {s' : State}
    (h : (m >>= f) s = (.ok b, s')) : ∃ a s1, m s = (.ok a, s1) ∧ f a s1 = (.ok b, s') := by
  change M.bind m f s = _ at h
  unfold M.bind at h
  split at h
  · rename_i a s1 hm; exact ⟨a, s1, hm, h⟩
  all_goals (simp at h)

theorem pure_ok {α} {a b : α} {s s' : State} (h : (pure a : M α) s = (.ok b, s')) : a = b ∧ s = s' := by
  change M.pure a s = _ at h
  simp only [M.pure, Prod.mk.injEq, Outcome.ok.injEq] at h
  exact ⟨h.1, h.2⟩

theorem getEntry_ok {p : FsPath} {o : Option Entry} {s s' : State} (h : getEntry p s = (.ok o, s')) :
    o = alLookup p s.entries ∧ s = s' := by
  simp only [getEntry, Prod.mk.injEq, Outcome.ok.injEq] at h
  exact ⟨h.1.symm, h.2⟩

theorem getFile_ok {p : FsPath} {o : Option Bytes} {s s' : State} (h : getFile p s = (.ok o, s')) :
    o = alLookup p s.files ∧ s = s' := by
  simp only [getFile, Prod.mk.injEq, Outcome.ok.injEq] at h
  exact ⟨h.1.symm, h.2⟩

theorem ite_app {α β} (c : Prop) [Decidable c] (f g : α → β) (a : α) :
    (ite c f g) a = ite c (f a) (g a) := by
  split <;> rfl

theorem ite_ok {α β} {c : Prop} [Decidable c] {f g : α → β} {a : α} {r : β}
    (h : (ite c f g) a = r) : (c ∧ f a = r) ∨ (¬ c ∧ g a = r) := by
  by_cases hc : c
  · rw [if_pos hc] at h; exact .inl ⟨hc, h⟩
  · rw [if_neg hc] at h; exact .inr ⟨hc, h⟩

theorem fail_ok {α} {k : ErrKind} {s s' : State} {a : α} (h : M.fail k s = (.ok a, s')) : False := by
  simp [M.fail] at h

theorem modify_ok {f : State → State} {u : Unit} {s s' : State} (h : M.modify f s = (.ok u, s')) :
    s' = f s := by
  simp only [M.modify, Prod.mk.injEq] at h
  exact h.2.symm

theorem setFile_ok {p : FsPath} {b : Bytes} {u : Unit} {s s' : State} (h : setFile p b s = (.ok u, s')) :
    s' = { s with files := alInsert p b s.files } := modify_ok h

theorem setEntry_ok {p : FsPath} {e : Entry} {u : Unit} {s s' : State} (h : setEntry p e s = (.ok u, s')) :
    s' = { s with entries := alInsert p e s.entries } := modify_ok h

theorem liftO_ok {α} {o : Outcome α} {a : α} {s s' : State} (h : M.liftO o s = (.ok a, s')) :
    o = .ok a ∧ s = s' := by
  simp only [M.liftO, Prod.mk.injEq] at h
  exact h

theorem syncM_eq (p : FsPath) (data : Bytes) (s : State) :
    syncM p data s =
      match alLookup p s.entries with
      | some _ =>
        (match alLookup p s.files with
         | some _ => (.ok (), { s with files := alInsert p data s.files })
         | none => (.ok (), s))
      | none => (.err .ioNotFound, s) := by
  unfold syncM
  change M.bind (getEntry p) _ s = _
  unfold M.bind
  simp only [getEntry]
  cases alLookup p s.entries with
  | none => rfl
  | some e =>
    simp only
    change M.bind (getFile p) _ s = _
    unfold M.bind
    simp only [getFile]
    cases alLookup p s.files with
    | none => rfl
    | some b => rfl

theorem absM_ok {env : Env} {p : Str} {k : FsPath} {s s' : State} (h : absM env p s = (.ok k, s')) : s = s' := by
  rw [← absM_state env p s, h]

theorem mapVal_ok {α} {f : α → Val} {m : M α} {s s' : State} {v : Val}
    (h : mapVal f m s = (.ok v, s')) : ∃ a, m s = (.ok a, s') := by
  unfold mapVal at h
  split at h
  · rename_i a s1 hm
    simp only [Prod.mk.injEq] at h
    exact ⟨a, by rw [hm, h.2]⟩
  all_goals simp at h

/-! ### `append_all` never changes the working directory (any outcome) -/

/-- the computation never changes the working directory, whatever its outcome -/
def PresCwd {α} (m : M α) : Prop := ∀ s, (m s).2.cwd = s.cwd

theorem PresCwd.bind {α β} {m : M α} {f : α → M β} (hm : PresCwd m) (hf : ∀ a, PresCwd (f a)) :
    PresCwd (m >>= f) := by
  intro s
  change (M.bind m f s).2.cwd = _
  unfold M.bind
  have := hm s
  cases hms : m s with
  | mk o s1 =>
    rw [hms] at this
    cases o with
    | ok a => simp only; rw [hf a s1]; exact this
    | err _ => exact this
    | panic => exact this
    | hang => exact this

theorem PresCwd.pure {α} (a : α) : PresCwd (pure a : M α) := fun _ => rfl
theorem PresCwd.fail {α} (k : ErrKind) : PresCwd (M.fail k : M α) := fun _ => rfl
theorem PresCwd.getEntry (p : FsPath) : PresCwd (getEntry p) := fun _ => rfl
theorem PresCwd.getFile (p : FsPath) : PresCwd (getFile p) := fun _ => rfl
theorem PresCwd.setEntry (p : FsPath) (e : Entry) : PresCwd (setEntry p e) := fun _ => rfl
theorem PresCwd.setFile (p : FsPath) (b : Bytes) : PresCwd (setFile p b) := fun _ => rfl
theorem PresCwd.liftO {α} (o : Outcome α) : PresCwd (M.liftO o) := fun _ => rfl
theorem PresCwd.ite {α} {c : Prop} [Decidable c] {a b : M α} (ha : PresCwd a) (hb : PresCwd b) :
    PresCwd (if c then a else b) := by
  split <;> assumption

theorem PresCwd.absM (env : Env) (p : Str) : PresCwd (absM env p) := fun s => by
  rw [absM_state]

theorem PresCwd.add (e : Entry) : PresCwd (add e) := by
  unfold Memfs.add
  refine .ite (.pure _) (.bind (.getEntry _) fun od => ?_)
  split
  · refine .ite (.fail _) (.bind (.getEntry _) fun ox => ?_)
    split
    · exact .ite (.fail _) (.ite (.fail _) (.ite (.fail _) (.pure _)))
    · have hjp : ∀ u : Unit, PresCwd (do
            Memfs.setEntry e.path e
            match (← Memfs.getEntry e.path.dropLast) with
            | some parent =>
              let (isNew, parent') ← M.liftO (parent.addChild (baseName e.path))
              Memfs.setEntry e.path.dropLast parent'
              if !isNew then M.fail .existsAlready else return e.path
            | none => return e.path) := by
        intro u
        refine .bind (.setEntry _ _) fun _ => .bind (.getEntry _) fun op => ?_
        split
        · refine .bind (.liftO _) fun x => ?_
          exact .bind (.setEntry _ _) fun _ => .ite (.fail _) (.pure _)
        · exact .pure _
      refine .ite (.bind (.setFile _ _) fun u => hjp u) (hjp ())
  · exact .fail _

theorem PresCwd.syncM (p : FsPath) (data : Bytes) : PresCwd (syncM p data) := by
  intro s
  rw [syncM_eq]
  cases alLookup p s.entries with
  | none => rfl
  | some _ => cases alLookup p s.files <;> rfl

theorem PresCwd.appendAllM (env : Env) (p : Str) (d : Bytes) : PresCwd (appendAllM env p d) := by
  unfold Memfs.appendAllM
  refine .bind (.absM _ _) fun k => .bind (.add _) fun _ => .bind (.getFile _) fun ob => ?_
  split
  · refine .bind (.syncM _ _) fun _ => ?_
    intro s
    exact PresCwd.syncM _ _ s
  · exact .fail _

/-- `append_all` never changes the working directory, whatever it returns -/
theorem step_appendAll_cwd (env : Env) (s : State) (p : Str) (d : Bytes) :
    (step env s (.appendAll p d)).2.cwd = s.cwd := by
  show (mapVal (fun _ => Val.unit) (appendAllM env p d) s).2.cwd = _
  rw [mapVal_snd]
  exact PresCwd.appendAllM env p d s

/-! ### content of the appended file -/

/-- content of the file stored under key `k` -/
def contentOf (s : State) (k : FsPath) : Option Bytes := alLookup k s.files

/-- the key a user path resolves to in state `s` (`Memfs::_abs`; depends on `s.cwd` only) -/
def keyOf (env : Env) (s : State) (p : Str) : Option FsPath :=
  match absM env p s with
  | (.ok k, _) => some k
  | _ => none

/-- what the first successful `append_all` on key `k` appends to: the stored bytes when `k` has an
    entry, nothing when it has none (`_add` then creates the file with empty content) -/
def appendBase (s : State) (k : FsPath) : Bytes :=
  match alLookup k s.entries with
  | some _ => (contentOf s k).getD []
  | none => []

/-- the chunk an `append_all` call carries -/
def chunkOf : Op → Bytes
  | .appendAll _ d => d
  | _ => []

theorem keyOf_cwd {env : Env} {s s' : State} (h : s'.cwd = s.cwd) (p : Str) :
    keyOf env s' p = keyOf env s p := by
  unfold keyOf absM
  rw [h]
  cases absWith env (renderP s.cwd) p <;> rfl

theorem keyOf_of_absM {env : Env} {s s' : State} {p : Str} {k : FsPath} (h : absM env p s = (.ok k, s')) :
    keyOf env s p = some k := by
  unfold keyOf; rw [h]

/-- `_add` of a regular file on a successful run: nothing changes, or the entry was missing and the
    file now exists with empty content -/
theorem add_file_ok {e : Entry} {r : FsPath} {s s1 : State}
    (hf : e.file = true) (hl : e.link = false)
    (h : add e s = (.ok r, s1)) :
    s1 = s ∨ (alLookup e.path s.entries = none ∧ alLookup e.path s1.files = some []) := by
  unfold add at h
  rcases ite_ok h with ⟨_, h2⟩ | ⟨_, h2⟩
  · exact .inl (pure_ok h2).2.symm
  · clear h
    obtain ⟨od, s2, h1, h3⟩ := bind_ok h2
    clear h2
    obtain ⟨rfl, rfl⟩ := getEntry_ok h1
    cases hd : alLookup (List.dropLast e.path) s.entries with
    | none => rw [hd] at h3; exact (fail_ok h3).elim
    | some d =>
      rw [hd] at h3
      simp only at h3
      rcases ite_ok h3 with ⟨_, h4⟩ | ⟨_, h4⟩
      · exact (fail_ok h4).elim
      · clear h3
        obtain ⟨ox, s2, h5, h6⟩ := bind_ok h4
        clear h4
        obtain ⟨rfl, rfl⟩ := getEntry_ok h5
        cases hx : alLookup e.path s.entries with
        | some x =>
          rw [hx] at h6
          simp only at h6
          rcases ite_ok h6 with ⟨_, h7⟩ | ⟨_, h7⟩
          · exact (fail_ok h7).elim
          rcases ite_ok h7 with ⟨_, h8⟩ | ⟨_, h8⟩
          · exact (fail_ok h8).elim
          rcases ite_ok h8 with ⟨_, h9⟩ | ⟨_, h9⟩
          · exact (fail_ok h9).elim
          exact .inl (pure_ok h9).2.symm
        | none =>
          rw [hx] at h6
          simp only [hf, hl, Bool.not_false, Bool.and_self, if_true] at h6
          obtain ⟨u1, s2, h7, h8⟩ := bind_ok h6
          clear h6
          obtain ⟨u2, s3, h9, h10⟩ := bind_ok h8
          clear h8
          obtain ⟨op, s4, h11, h12⟩ := bind_ok h10
          clear h10
          obtain ⟨rfl, rfl⟩ := getEntry_ok h11
          have e2 := setFile_ok h7
          have e3 := setEntry_ok h9
          subst e2 e3
          cases hp : alLookup (List.dropLast e.path) (alInsert e.path e s.entries) with
          | none =>
            simp only [hp] at h12
            obtain ⟨-, rfl⟩ := pure_ok h12
            exact .inr ⟨rfl, alLookup_alInsert_self _ _ _⟩
          | some parent =>
            simp only [hp] at h12
            obtain ⟨x, s5, h13, h14⟩ := bind_ok h12
            clear h12
            obtain ⟨-, rfl⟩ := liftO_ok h13
            obtain ⟨u3, s6, h15, h16⟩ := bind_ok h14
            clear h14
            have e6 := setEntry_ok h15
            subst e6
            rcases ite_ok h16 with ⟨_, h17⟩ | ⟨_, h17⟩
            · exact (fail_ok h17).elim
            obtain ⟨-, rfl⟩ := pure_ok h17
            exact .inr ⟨rfl, alLookup_alInsert_self _ _ _⟩

theorem appendAllM_ok {env : Env} {p : Str} {d : Bytes} {s s' : State} {u : Unit}
    (h : appendAllM env p d s = (.ok u, s')) :
    ∃ k, absM env p s = (.ok k, s) ∧ (alLookup k s'.entries).isSome ∧
      contentOf s' k = some (appendBase s k ++ d) := by
  unfold appendAllM at h
  obtain ⟨k, s1, h1, h2⟩ := bind_ok h
  clear h
  obtain rfl := absM_ok h1
  obtain ⟨r, s2, h3, h4⟩ := bind_ok h2
  clear h2
  obtain ⟨ob, s3, h5, h6⟩ := bind_ok h4
  clear h4
  obtain ⟨rfl, rfl⟩ := getFile_ok h5
  have hadd := add_file_ok (e := mkFileEntry k) rfl rfl h3
  cases hb : alLookup k s2.files with
  | none => rw [hb] at h6; exact (fail_ok h6).elim
  | some b =>
    rw [hb] at h6
    simp only at h6
    obtain ⟨u1, s4, h7, h8⟩ := bind_ok h6
    clear h6
    rw [syncM_eq] at h7
    cases he : alLookup k s2.entries with
    | none => rw [he] at h7; simp at h7
    | some ent =>
      rw [he, hb] at h7
      simp only [Prod.mk.injEq, true_and] at h7
      subst h7
      rw [syncM_eq] at h8
      simp only [he, alLookup_alInsert_self, Prod.mk.injEq, true_and] at h8
      subst h8
      refine ⟨k, h1, by simp [he], ?_⟩
      have hbase : appendBase s k = b := by
        unfold appendBase contentOf
        rcases hadd with rfl | ⟨hn, hs⟩
        · rw [he, hb]; rfl
        · have hn' : alLookup k s.entries = none := hn
          have hs' : alLookup k s2.files = some [] := hs
          rw [hn']
          rw [hb] at hs'
          exact (Option.some.inj hs').symm
      rw [hbase]
      exact alLookup_alInsert_self _ _ _

/-- the sequential content fact for one successful `append_all` -/
theorem step_appendAll_ok {env : Env} {p : Str} {d : Bytes} {s : State} {k : FsPath}
    (hk : keyOf env s p = some k)
    (hok : (step env s (.appendAll p d)).1.isOk = true) :
    (alLookup k (step env s (.appendAll p d)).2.entries).isSome = true ∧
    contentOf (step env s (.appendAll p d)).2 k = some (appendBase s k ++ d) := by
  cases hst : step env s (.appendAll p d) with
  | mk o s' =>
    rw [hst] at hok
    cases o with
    | ok v =>
      obtain ⟨u, h2⟩ := mapVal_ok (f := fun _ => Val.unit) (m := appendAllM env p d) hst
      obtain ⟨k', habs, hent, hfile⟩ := appendAllM_ok h2
      obtain rfl : k' = k := Option.some.inj ((keyOf_of_absM habs).symm.trans hk)
      exact ⟨hent, hfile⟩
    | err _ => cases hok
    | panic => cases hok
    | hang => cases hok

theorem runSeq_appends_cwd {env : Env} (ops : List Op) :
    ∀ (s : State), (∀ op ∈ ops, ∃ p d, op = .appendAll p d) → (runSeq env s ops).1.cwd = s.cwd := by
  induction ops with
  | nil => intro s _; rfl
  | cons op ops ih =>
    intro s hops
    obtain ⟨p, d, rfl⟩ := hops op List.mem_cons_self
    rw [runSeq_cons, ih _ fun op h => hops op (List.mem_cons_of_mem _ h)]
    exact step_appendAll_cwd env s p d

theorem appendBase_of_entry {s : State} {k : FsPath} {c : Bytes}
    (he : (alLookup k s.entries).isSome = true) (hc : contentOf s k = some c) : appendBase s k = c := by
  unfold appendBase
  cases h : alLookup k s.entries with
  | none => rw [h] at he; cases he
  | some e => rw [hc]; rfl

theorem runSeq_appends {env : Env} {p : Str} {k : FsPath} (op : Op) (ops : List Op) :
    ∀ (s : State), (∀ x ∈ op :: ops, ∃ d, x = .appendAll p d) →
      (∀ o ∈ (runSeq env s (op :: ops)).2, o.isOk = true) → keyOf env s p = some k →
      contentOf (runSeq env s (op :: ops)).1 k =
        some (appendBase s k ++ ((op :: ops).map chunkOf).flatten) := by
  induction ops generalizing op with
  | nil =>
    intro s hops hok hk
    obtain ⟨d, rfl⟩ := hops _ List.mem_cons_self
    refine (step_appendAll_ok hk (hok _ List.mem_cons_self)).2.trans ?_
    simp [chunkOf]
  | cons op' ops ih =>
    intro s hops hok hk
    obtain ⟨d, rfl⟩ := hops _ List.mem_cons_self
    rw [runSeq_cons] at hok ⊢
    obtain ⟨hent, hcont⟩ := step_appendAll_ok hk (hok _ List.mem_cons_self)
    rw [ih op' _ (fun x h => hops x (List.mem_cons_of_mem _ h))
      (fun o h => hok o (List.mem_cons_of_mem _ h))
      ((keyOf_cwd (step_appendAll_cwd env s p d) p).trans hk), appendBase_of_entry hent hcont]
    simp only [List.map_cons, chunkOf, List.flatten_cons, List.append_assoc]

/-! ### from the per-thread result lists back to the sequential results -/

theorem inducedTagged_tag_lt (sched : List Nat) :
    ∀ (todo : List (List Op)), ∀ x ∈ inducedTagged todo sched, x.1 < todo.length := by
  induction sched with
  | nil => intro todo x hx; simp [inducedTagged] at hx
  | cons i is ih =>
    intro todo x hx
    simp only [inducedTagged] at hx
    split at hx
    · rename_i op rest hop
      have hlt : i < todo.length := by
        rcases Nat.lt_or_ge i todo.length with h | h
        · exact h
        · simp [List.getElem?_eq_none h] at hop
      simp only [List.mem_cons] at hx
      rcases hx with rfl | hx
      · exact hlt
      · simpa using ih _ x hx
    · simp at hx

theorem runSchedule_results_mem_done {env : Env} {s : State} {todo : List (List Op)} {sched : List Nat}
    {c' : Cfg} (h : runSchedule env ⟨s, todo, todo.map (fun _ => [])⟩ sched = some c')
    {o : Outcome Val} (ho : o ∈ (runSeq env s (induced todo sched)).2) :
    ∃ l ∈ c'.done, o ∈ l := by
  have hlen : (runSeq env s (induced todo sched)).2.length ≤ (inducedTagged todo sched).length := by
    rw [runSeq_length, ← inducedTagged_map_snd, List.length_map]; exact Nat.le_refl _
  rw [← List.map_snd_zip (l₁ := inducedTagged todo sched) hlen] at ho
  obtain ⟨x, hx, rfl⟩ := List.mem_map.mp ho
  have hlt := inducedTagged_tag_lt sched todo _ (List.of_mem_zip hx).1
  have hd := runSchedule_done h x.1.1
  have h0 : (todo.map (fun _ => ([] : List (Outcome Val))))[x.1.1]? = some [] := by
    simp [List.getElem?_map, List.getElem?_eq_getElem hlt]
  simp only [h0, Option.map_some, List.nil_append] at hd
  refine ⟨_, List.mem_of_getElem? hd, ?_⟩
  exact List.mem_filterMap.mpr ⟨x, hx, by simp⟩

/-! ### domain predicate and witnesses for the content statement -/

/-- no orphan data under `k`: stored bytes only where there is an entry (decidable; part of the
    C03 index-agreement invariant, true of every state reached from `Memfs.init`) -/
def NoOrphan (s : State) (k : FsPath) : Prop :=
  (alLookup k s.entries).isSome = true ∨ contentOf s k = none

instance (s : State) (k : FsPath) : Decidable (NoOrphan s k) := by
  unfold NoOrphan; exact inferInstance

theorem appendBase_of_noOrphan {s : State} {k : FsPath} (h : NoOrphan s k) :
    appendBase s k = (contentOf s k).getD [] := by
  unfold appendBase
  cases he : alLookup k s.entries with
  | some e => rfl
  | none =>
    rcases h with h | h
    · rw [he] at h; simp at h
    · simp [h]

/-- an environment without variables -/
def env0 : Env := fun _ => none

/-- an orphan state: bytes stored under `/f` but no entry for it (violates the C03 invariant) -/
def orphan : State := { Memfs.init with files := [([['f']], [1])] }

/-- a two-thread program of appends to `/f` (non-vacuity witness) -/
def appendProg : List (List Op) :=
  [[.appendAll ['/', 'f'] [1], .appendAll ['/', 'f'] [2]], [.appendAll ['/', 'f'] [3]]]

end Rivia.Lemmas
