/-
  Rivia.Lemmas.Returns — the predicates of the termination lemmas (Lemmas/Fuel*.lean, NoPanic.lean,
  MoveWf.lean) declared once more under the namespace `Rivia.Lemmas.Ret`, each with the words of its
  namesake in `Rivia.Lemmas`: the definitions unfold to the same terms, the structures are related by
  `invFacts_iff`, `rinv_iff`, `noPanic_iff` (`wp_iff` for `wp`), and the theorems are those of `Rivia.Lemmas`.
-/
import Rivia.Lemmas.MoveWf

namespace Rivia.Lemmas.Ret
open Rivia Rivia.Str Rivia.Memfs Rivia.Memfs.M Rivia.File Rivia.Spec

abbrev Ents := List (FsPath × Entry)

/-- listed child names -/
def names (e : Entry) : List Str := e.files.getD []

/-- strict prefix -/
def SPre (a b : FsPath) : Prop := a <+: b ∧ a ≠ b

instance (a b : FsPath) : Decidable (SPre a b) := by unfold SPre; infer_instance

theorem bindM_def {α β} (m : M α) (f : α → M β) : (m >>= f) = M.bind m f := rfl
theorem pureM_def {α} (a : α) : (Pure.pure a : M α) = M.pure a := rfl

/-- the clauses of `Spec.Inv` in usable form -/
structure InvFacts (s : State) : Prop where
  nodup : (s.entries.map (·.1)).Nodup
  parent : ∀ k e, (k, e) ∈ s.entries → k ≠ [] → ∃ pe, alLookup k.dropLast s.entries = some pe ∧
    pe.dir = true ∧ pe.link = false ∧ baseName k ∈ names pe
  listed : ∀ k e, (k, e) ∈ s.entries → ∀ n ∈ names e, (k ++ [n]) ∈ s.entries.map (·.1)
  pathField : ∀ k e, (k, e) ∈ s.entries → e.path = k
  filesDir : ∀ k e, (k, e) ∈ s.entries → e.files.isSome = e.dir
  namesNodup : ∀ k e, (k, e) ∈ s.entries → (names e).Nodup

theorem invFacts_iff {s : State} : InvFacts s ↔ Lemmas.InvFacts s :=
  ⟨fun h => ⟨h.nodup, h.parent, h.listed, h.pathField, h.filesDir, h.namesNodup⟩,
   fun h => ⟨h.nodup, h.parent, h.listed, h.pathField, h.filesDir, h.namesNodup⟩⟩

structure RInv (p0 : FsPath) (l : Ents) (W : List FsPath) : Prop where
  nodup : (l.map (·.1)).Nodup
  listed : ∀ k e, (k, e) ∈ l → ∀ n ∈ names e, (k ++ [n]) ∈ l.map (·.1)
  namesNodup : ∀ k e, (k, e) ∈ l → (names e).Nodup
  expanded : ∀ k e, (k, e) ∈ l → p0 <+: k → (∃ w ∈ W, SPre k w) → ∀ n ∈ names e, k ++ [n] ∈ W
  order : W.Pairwise (fun a b => ¬ a <+: b)
  under : ∀ w ∈ W, p0 <+: w

theorem rinv_iff {p0 : FsPath} {l : Ents} {W : List FsPath} : RInv p0 l W ↔ Lemmas.RInv p0 l W :=
  ⟨fun h => ⟨h.nodup, h.listed, h.namesNodup, h.expanded, h.order, h.under⟩,
   fun h => ⟨h.nodup, h.listed, h.namesNodup, h.expanded, h.order, h.under⟩⟩

/-- kept folded so that goals stay readable -/
def withEntries (s : State) (l : Ents) : State := { s with entries := l }
def withFiles (s : State) (l : List (FsPath × Bytes)) : State := { s with files := l }

@[simp] theorem withEntries_entries (s : State) (l : Ents) : (withEntries s l).entries = l := rfl
@[simp] theorem withEntries_files (s : State) (l : Ents) : (withEntries s l).files = s.files := rfl
@[simp] theorem withFiles_entries (s : State) (l : List (FsPath × Bytes)) :
    (withFiles s l).entries = s.entries := rfl
@[simp] theorem withFiles_files (s : State) (l : List (FsPath × Bytes)) : (withFiles s l).files = l := rfl

/-- if `m` returns `Ok` from `s`, the result and the new state satisfy `Q`; and `m` does not hang -/
def wp {α} (m : M α) (s : State) (Q : α → State → Prop) : Prop :=
  match m s with
  | (.ok a, s') => Q a s'
  | (.err _, _) => True
  | (.panic, _) => True
  | (.hang, _) => False

theorem wp_iff {α} {m : M α} {s : State} {Q : α → State → Prop} : wp m s Q ↔ Lemmas.wp m s Q := Iff.rfl

theorem wp_getFile {p : FsPath} {s : State} {Q : Option Bytes → State → Prop}
    (h : Q (alLookup p s.files) s) : wp (getFile p) s Q := h

/-- `m` never panics -/
structure NoPanic {α} (m : M α) : Prop where
  out : ∀ s, (m s).1 ≠ .panic

theorem noPanic_iff {α} {m : M α} : NoPanic m ↔ Lemmas.NoPanic m := ⟨fun h => ⟨h.out⟩, fun h => ⟨h.out⟩⟩

theorem NoPanic.listing (env : Env) (path : Str) (maxDepth : Option Nat) (dirs files : Bool) :
    NoPanic (listing env path maxDepth dirs files) :=
  noPanic_iff.2 (Lemmas.NoPanic.listing env path maxDepth dirs files)

/-- the resolved source of a `move_p` has no listed children (file, link, empty directory) or does
    not exist -/
def MoveSourceIsLeaf (env : Env) (s : State) (a : Str) : Prop :=
  match absM env a s with
  | (.ok sk, _) => (match alLookup sk s.entries with
    | some e => names e = []
    | none => True)
  | _ => True

instance (env : Env) (s : State) (a : Str) : Decidable (MoveSourceIsLeaf env s a) := by
  unfold MoveSourceIsLeaf
  split
  · split <;> infer_instance
  · infer_instance

/-- the destination key computed for every entry at/under the source lies outside the source
    subtree (`sk`, `dk` = resolved source and destination; nothing is required when the source is
    the root and the destination a directory: that call fails before moving anything) -/
def MoveDstOutside (st : State) (sk dk : FsPath) : Prop :=
  ∀ kv ∈ st.entries, sk <+: kv.1 → (isDirP st dk = true → sk ≠ []) →
    ¬ sk <+: dstOf dk kv.1 (if isDirP st dk = true then sk.dropLast else sk)

instance (st : State) (sk dk : FsPath) : Decidable (MoveDstOutside st sk dk) := by
  unfold MoveDstOutside; infer_instance

/-- for the resolved source `sk` and destination `dk`, every destination key that `move_p` computes
    for an entry at/under `sk` lies outside `sk` -/
def MoveOutside (env : Env) (s : State) (a b : Str) : Prop :=
  match absM env a s, absM env b s with
  | (.ok sk, _), (.ok dk, _) => MoveDstOutside s sk dk
  | _, _ => True

instance (env : Env) (s : State) (a b : Str) : Decidable (MoveOutside env s a b) := by
  unfold MoveOutside
  split <;> infer_instance

theorem step_moveP_leaf {env : Env} {s : State} {a : Str} (b : Str) (h : MoveSourceIsLeaf env s a) :
    (step env s (.moveP a b)).1 ≠ .hang :=
  Lemmas.step_moveP_leaf b h

theorem step_moveP_outside {env : Env} {s : State} {a b : Str} (hinv : Spec.Inv s)
    (h : MoveOutside env s a b) : (step env s (.moveP a b)).1 ≠ .hang :=
  Lemmas.step_moveP_outside hinv h

end Rivia.Lemmas.Ret
