/-
  Rivia.Lemmas.StdfsList — C02: the listings (`sim_listing1`, `sim_listingAll`).  The sorted pre-order walk
  of `Stdfs` (`listKids`) and the reference (`sortP` of the selected keys) both produce a strictly
  increasing list (component-wise lexicographic order `pathLt`) with the same members, hence the same list.
-/
import Rivia.Lemmas.StdfsMove

namespace Rivia.Lemmas.StdfsL
open Rivia Rivia.Memfs Rivia.File Rivia.Spec Rivia.Spec.TreeFs Rivia.Posix Rivia.Stdfs
open Rivia.Lemmas.RefineA (TEquiv)
open Rivia.Stdfs.SM

variable {env : Env} {t : T}

/-! ### the order of keys -/

theorem pathLt_cons (a b : Str) (as bs : FsPath) :
    pathLt (a :: as) (b :: bs) = if strLt a b then true else if strLt b a then false else pathLt as bs := rfl

theorem pathLt_iff_lt : ∀ a b : FsPath, pathLt a b = true ↔ a < b
  | [], [] => by simp [pathLt]
  | [], _ :: _ => by simp [pathLt]
  | _ :: _, [] => by simp [pathLt]
  | a :: as, b :: bs => by
    rw [List.cons_lt_cons_iff, pathLt_cons, ← pathLt_iff_lt as bs, ← strLt_iff_lt]
    rcases strLt_tricho a b with h | rfl | h
    · simp [h]
    · simp [strLt_irrefl]
    · have hne : a ≠ b := by rintro rfl; rw [strLt_irrefl] at h; cases h
      simp [strLt_asymm _ _ h, h, hne]

theorem pathLt_irrefl (a : FsPath) : pathLt a a = false := by
  cases h : pathLt a a with
  | false => rfl
  | true => exact absurd ((pathLt_iff_lt a a).1 h) (List.lt_irrefl a)

theorem pathLt_asymm (a b : FsPath) (h : pathLt a b = true) : pathLt b a = false := by
  cases hb : pathLt b a with
  | false => rfl
  | true => exact absurd ((pathLt_iff_lt b a).1 hb) (List.lt_asymm ((pathLt_iff_lt a b).1 h))

theorem pathLt_trans (a b c : FsPath) (h1 : pathLt a b = true) (h2 : pathLt b c = true) : pathLt a c = true :=
  (pathLt_iff_lt a c).2 (List.lt_trans ((pathLt_iff_lt a b).1 h1) ((pathLt_iff_lt b c).1 h2))

theorem pathLt_tricho (a b : FsPath) : pathLt a b = true ∨ a = b ∨ pathLt b a = true := by
  by_cases h1 : a < b
  · exact Or.inl ((pathLt_iff_lt a b).2 h1)
  · by_cases h2 : b < a
    · exact Or.inr (Or.inr ((pathLt_iff_lt b a).2 h2))
    · exact Or.inr (Or.inl (List.le_antisymm (List.not_lt.1 h2) (List.not_lt.1 h1)))

theorem pathLt_append_left (a x y : FsPath) : pathLt (a ++ x) (a ++ y) = pathLt x y := by
  induction a with
  | nil => rfl
  | cons z zs ih => rw [List.cons_append, List.cons_append, pathLt_cons]; simp [strLt_irrefl, ih]

theorem pathLt_append (a : FsPath) {x : FsPath} (hx : x ≠ []) : pathLt a (a ++ x) = true := by
  have := pathLt_append_left a [] x
  rw [List.append_nil] at this
  rw [this]
  cases x with
  | nil => exact absurd rfl hx
  | cons y ys => rfl

/-! ### strictly increasing lists are determined by their members -/

theorem sorted_nodup {l : List FsPath} (h : l.Pairwise (fun a b => pathLt a b = true)) : l.Nodup :=
  h.imp (fun hab e => by subst e; rw [pathLt_irrefl] at hab; cases hab)

theorem sorted_unique (l1 l2 : List FsPath) (h1 : l1.Pairwise (fun a b => pathLt a b = true))
    (h2 : l2.Pairwise (fun a b => pathLt a b = true)) (hm : ∀ x, x ∈ l1 ↔ x ∈ l2) : l1 = l2 :=
  List.Perm.eq_of_pairwise (fun a b _ _ hab hba => by rw [pathLt_asymm _ _ hab] at hba; cases hba) h1 h2
    ((List.perm_ext_iff_of_nodup (sorted_nodup h1) (sorted_nodup h2)).2 hm)

/-! ### insertion sort (`sortP`, `sortByName`) -/

section ins
variable {α : Type}

/-- insertion before the first element that `le` puts after `x`: the common shape of `insertP` and `insertBy` -/
def ins (le : α → α → Bool) (x : α) : List α → List α
  | [] => [x]
  | y :: ys => if le x y then x :: y :: ys else y :: ins le x ys

theorem mem_ins (le : α → α → Bool) (x y : α) : ∀ l : List α, y ∈ ins le x l ↔ y = x ∨ y ∈ l
  | [] => by simp [ins]
  | z :: zs => by
    unfold ins
    split
    · simp
    · rw [List.mem_cons, mem_ins le x y zs, List.mem_cons, or_left_comm]

theorem mem_sort (le : α → α → Bool) (y : α) : ∀ l : List α, y ∈ l.foldr (ins le) [] ↔ y ∈ l
  | [] => by simp
  | x :: xs => by rw [List.foldr_cons, mem_ins, mem_sort le y xs, List.mem_cons]

theorem pairwise_ins {R : α → α → Prop} (tr : ∀ a b c, R a b → R b c → R a c) {le : α → α → Bool} {x : α} :
    ∀ {l : List α}, l.Pairwise R → (∀ y ∈ l, if le x y = true then R x y else R y x) →
      (ins le x l).Pairwise R
  | [], _, _ => by simp [ins]
  | z :: zs, hs, hx => by
    rw [List.pairwise_cons] at hs
    have hz := hx z List.mem_cons_self
    unfold ins
    split
    · rename_i hle
      rw [if_pos hle] at hz
      refine List.pairwise_cons.2 ⟨fun y hy => ?_, List.pairwise_cons.2 hs⟩
      rcases List.mem_cons.1 hy with rfl | hy
      · exact hz
      · exact tr _ _ _ hz (hs.1 y hy)
    · rename_i hle
      rw [if_neg hle] at hz
      refine List.pairwise_cons.2 ⟨fun y hy => ?_,
        pairwise_ins tr hs.2 (fun y hy => hx y (List.mem_cons_of_mem _ hy))⟩
      rcases (mem_ins le x y zs).1 hy with rfl | hy
      · exact hz
      · exact hs.1 y hy

theorem pairwise_sort {R : α → α → Prop} (tr : ∀ a b c, R a b → R b c → R a c) (le : α → α → Bool) :
    ∀ l : List α, l.Pairwise (fun x y => if le x y = true then R x y else R y x) →
      (l.foldr (ins le) []).Pairwise R
  | [], _ => List.Pairwise.nil
  | x :: l, h => by
    rw [List.pairwise_cons] at h
    exact pairwise_ins tr (pairwise_sort tr le l h.2) (fun y hy => h.1 y ((mem_sort le y l).1 hy))

end ins

theorem insertP_eq : insertP = ins pathLt := by
  funext x l
  induction l with
  | nil => rfl
  | cons y ys ih => simp only [insertP, ins, ih]

theorem insertBy_eq (le : SEntry → SEntry → Bool) : insertBy le = ins le := by
  funext x l
  induction l with
  | nil => rfl
  | cons y ys ih => simp only [insertBy, ins, ih]

theorem mem_sortP (y : FsPath) (l : List FsPath) : y ∈ sortP l ↔ y ∈ l := by
  rw [sortP, insertP_eq]; exact mem_sort _ y l

theorem sorted_sortP (l : List FsPath) (hn : l.Nodup) : (sortP l).Pairwise (fun a b => pathLt a b = true) := by
  rw [sortP, insertP_eq]
  refine pairwise_sort pathLt_trans pathLt l (hn.imp fun {x y} hne => ?_)
  split
  · assumption
  · rename_i hxy
    exact ((pathLt_tricho x y).resolve_left hxy).resolve_left hne

def nameOf (e : SEntry) : Str := baseName e.path
def leName (a b : SEntry) : Bool := strLe (baseName a.path) (baseName b.path)
def ltName (a b : SEntry) : Prop := strLt (nameOf a) (nameOf b) = true

theorem sortByName_eq (l : List SEntry) : sortByName l = l.foldr (insertBy leName) [] := rfl

theorem mem_sortByName (y : SEntry) (l : List SEntry) : y ∈ sortByName l ↔ y ∈ l := by
  rw [sortByName_eq, insertBy_eq]; exact mem_sort _ y l

theorem sorted_sortByName (l : List SEntry) (hn : (l.map nameOf).Nodup) : (sortByName l).Pairwise ltName := by
  rw [sortByName_eq, insertBy_eq]
  refine pairwise_sort (R := ltName) (fun _ _ _ h1 h2 => strLt_trans _ _ _ h1 h2) leName l
    ((List.pairwise_map.1 hn).imp fun {x y} hne => ?_)
  show if (!strLt (nameOf y) (nameOf x)) = true then ltName x y else ltName y x
  cases hyx : strLt (nameOf y) (nameOf x) with
  | true => exact hyx
  | false => exact ((strLt_tricho (nameOf x) (nameOf y)).resolve_right (by simp [hne, hyx]))

/-! ### prefixes as appends -/

theorem isProperPrefix_iff (a k : FsPath) :
    isProperPrefix a k = true ↔ ∃ x, x ≠ [] ∧ k = a ++ x := by
  unfold isProperPrefix
  simp only [Bool.and_eq_true, decide_eq_true_eq, beq_iff_eq]
  constructor
  · rintro ⟨h1, h2⟩
    refine ⟨k.drop a.length, ?_, ?_⟩
    · intro h0
      have := congrArg List.length h0
      simp only [List.length_drop, List.length_nil] at this
      omega
    · conv => lhs; rw [← List.take_append_drop a.length k]
      rw [h2]
  · rintro ⟨x, hx, rfl⟩
    have : 0 < x.length := List.length_pos_iff.mpr hx
    refine ⟨by simp; omega, by simp⟩

theorem isProperPrefix_append (a : FsPath) {x : FsPath} (hx : x ≠ []) : isProperPrefix a (a ++ x) = true :=
  (isProperPrefix_iff a _).2 ⟨x, hx, rfl⟩

theorem isProperPrefix_trans {a b c : FsPath} (h1 : isProperPrefix a b = true) (h2 : isProperPrefix b c = true) :
    isProperPrefix a c = true := by
  obtain ⟨x, hx, rfl⟩ := (isProperPrefix_iff a b).1 h1
  obtain ⟨y, _, rfl⟩ := (isProperPrefix_iff _ c).1 h2
  rw [List.append_assoc]
  exact isProperPrefix_append a (by simp [hx])

/-! ### the entries of a directory -/

theorem keysRT_lookup (hrt : keysRT env t = true) {k : FsPath} {n : Node} (hg : get t k = some n) :
    resolve env t (renderP k) = .ok k := by
  unfold keysRT at hrt
  rw [List.all_eq_true] at hrt
  simpa using hrt _ (alLookup_mem hg)

theorem entryFrom_key (h : Ctx env t) (hrt : keysRT env t = true) {k : FsPath} {n : Node}
    (hg : get t k = some n) : ∃ e, entryFrom env t (renderP k) = .ok e ∧ EntryFor k n e :=
  entryFrom_of_get h (keysRT_lookup hrt hg) hg

/-- the nodes directly below `a` -/
def childNodes (t : T) (a : FsPath) : List (FsPath × Node) :=
  t.nodes.filter (fun kv => kv.1.length = a.length + 1 && isProperPrefix a kv.1)

theorem mem_childNodes {t : T} {a : FsPath} {kv : FsPath × Node} :
    kv ∈ childNodes t a ↔ kv ∈ t.nodes ∧ ∃ x, kv.1 = a ++ [x] := by
  unfold childNodes
  rw [List.mem_filter]
  simp only [Bool.and_eq_true, decide_eq_true_eq]
  constructor
  · rintro ⟨hm, hl, hp⟩
    refine ⟨hm, ?_⟩
    obtain ⟨x, hx, he⟩ := (isProperPrefix_iff a kv.1).1 hp
    have hlen := congrArg List.length he
    rw [List.length_append, hl] at hlen
    match x, hx, hlen with
    | [y], _, _ => exact ⟨y, he⟩
    | [], hx, _ => exact absurd rfl hx
    | _ :: _ :: _, _, hlen => simp at hlen
  · rintro ⟨hm, x, hx⟩
    refine ⟨hm, by rw [hx]; simp, ?_⟩
    rw [hx]; exact isProperPrefix_append a (by simp)

theorem readDir_dir (h : Ctx env t) {a : FsPath} (hd : isDir t a = true) :
    readDir t a = .ok ((childNodes t a).map (fun kv => baseName kv.1)) := by
  obtain ⟨n, hn, hk⟩ := isDir_iff.1 hd
  unfold readDir linkFuel
  rw [followFinal_nonlink h.wf hn (isLinkKind_dir hk)]
  simp only [hn, hk, ne_eq, not_true_eq_false, if_false]
  rfl

theorem sequenceO_map {α β γ : Type} (f : α → Outcome β) (ga : α → γ) (gb : β → γ) (P : α → β → Prop) :
    ∀ l : List α, (∀ x ∈ l, ∃ e, f x = .ok e ∧ gb e = ga x ∧ P x e) →
      ∃ es, sequenceO (l.map f) = .ok es ∧ es.map gb = l.map ga ∧ ∀ e ∈ es, ∃ x ∈ l, P x e := by
  intro l
  induction l with
  | nil => intro _; exact ⟨[], rfl, rfl, by simp⟩
  | cons x xs ih =>
    intro hall
    obtain ⟨e, he, hg, hp⟩ := hall x List.mem_cons_self
    obtain ⟨es, h1, h2, h3⟩ := ih (fun y hy => hall y (List.mem_cons_of_mem _ hy))
    refine ⟨e :: es, ?_, ?_, ?_⟩
    · simp only [List.map_cons, sequenceO, he, h1]
    · simp only [List.map_cons, hg, h2]
    · intro e' he'
      rcases List.mem_cons.1 he' with rfl | h0
      · exact ⟨x, List.mem_cons_self, hp⟩
      · obtain ⟨y, hy, hpy⟩ := h3 e' h0
        exact ⟨y, List.mem_cons_of_mem _ hy, hpy⟩

theorem alLookup_of_mem_nodup {β} {l : List (FsPath × β)} {kv : FsPath × β} (hn : (l.map (·.1)).Nodup)
    (hm : kv ∈ l) : alLookup kv.1 l = some kv.2 :=
  alLookup_of_mem hn hm

theorem child_get (h : Ctx env t) {a : FsPath} {kv : FsPath × Node} (hkv : kv ∈ childNodes t a) :
    get t kv.1 = some kv.2 ∧ ∃ x, kv.1 = a ++ [x] := by
  obtain ⟨hm, hx⟩ := mem_childNodes.1 hkv
  exact ⟨alLookup_of_mem_nodup h.wf.nodup hm, hx⟩

theorem childEntries_dir (h : Ctx env t) (hrt : keysRT env t = true) {a : FsPath} (hd : isDir t a = true) :
    ∃ es, childEntries env t a = .ok es ∧ es.map (·.path) = (childNodes t a).map (·.1) ∧
      ∀ e ∈ es, ∃ kv ∈ childNodes t a, EntryFor kv.1 kv.2 e := by
  unfold childEntries
  rw [readDir_dir h hd]
  simp only [List.map_map]
  apply sequenceO_map _ (fun kv : FsPath × Node => kv.1) (·.path) (fun kv e => EntryFor kv.1 kv.2 e)
  intro kv hkv
  obtain ⟨hg, x, hx⟩ := child_get h hkv
  obtain ⟨e, he, hef⟩ := entryFrom_key h hrt hg
  refine ⟨e, ?_, hef.path, hef⟩
  simp only [Function.comp, hx, baseName_snoc]
  rw [← hx]; exact he

theorem childNodes_names_nodup (h : Ctx env t) (a : FsPath) :
    ((childNodes t a).map (fun kv => baseName kv.1)).Nodup := by
  have hk : ((childNodes t a).map (·.1)).Nodup :=
    List.Nodup.sublist (List.Sublist.map _ List.filter_sublist) h.wf.nodup
  rw [List.Nodup, List.pairwise_map] at hk ⊢
  refine (List.Pairwise.and_mem.1 hk).imp fun {x y} ⟨hx, hy, hne⟩ hb => hne ?_
  obtain ⟨_, x1, h1⟩ := child_get h hx
  obtain ⟨_, y1, h2⟩ := child_get h hy
  rw [h1, h2, baseName_snoc, baseName_snoc] at hb
  rw [h1, h2, hb]

/-! ### the walk -/

def okOr (o : Outcome (List FsPath)) : List FsPath := match o with | .ok l => l | _ => []

/-- what one entry contributes to the listing -/
def block (want : SEntry → Bool) (below : SEntry → Outcome (List FsPath)) (c : SEntry) : List FsPath :=
  (if want c then [c.path] else []) ++ okOr (below c)

theorem foldl_listStep (want : SEntry → Bool) (below : SEntry → Outcome (List FsPath)) :
    ∀ (cs : List SEntry) (acc : List FsPath), (∀ c ∈ cs, ∃ L, below c = .ok L) →
      cs.foldl (listStep want below) (.ok acc) = .ok (acc ++ cs.flatMap (block want below)) := by
  intro cs
  induction cs with
  | nil => intro acc _; simp
  | cons c cs ih =>
    intro acc hall
    obtain ⟨L, hL⟩ := hall c List.mem_cons_self
    simp only [List.foldl_cons, listStep, hL, List.flatMap_cons, block, okOr]
    rw [ih _ (fun c' hc' => hall c' (List.mem_cons_of_mem _ hc'))]
    simp only [List.append_assoc]

/-- the depth limit `M` of a traversal started at a key of length `r`, as a bound on the length of keys -/
def inWindow (M : Option Nat) (r : Nat) (k : FsPath) : Prop := ∀ mx, M = some mx → k.length ≤ r + mx

theorem belowMax_iff {M : Option Nat} {d r : Nat} {a : FsPath} (hd : a.length = r + d) (x : Str) :
    belowMax d M = true ↔ inWindow M r (a ++ [x]) := by
  unfold inWindow
  cases M with
  | none => simp [belowMax]
  | some mx => simp [belowMax]; omega

/-- the members of the listing below `a` -/
def Desc (t : T) (wk : Kind → Bool) (M : Option Nat) (r : Nat) (a k : FsPath) : Prop :=
  ∃ m, get t k = some m ∧ isProperPrefix a k = true ∧ inWindow M r k ∧ wk m.kind = true

/-- what the walk below one entry is expected to deliver -/
def WalkOk (t : T) (wk : Kind → Bool) (M : Option Nat) (r : Nat) (a : FsPath) (o : Outcome (List FsPath)) : Prop :=
  ∃ L, o = .ok L ∧ L.Pairwise (fun x y => pathLt x y = true) ∧ ∀ k, k ∈ L ↔ Desc t wk M r a k

theorem desc_iff_child (h : Ctx env t) {wk : Kind → Bool} {M : Option Nat} {r : Nat} {a : FsPath}
    (hwin : ∀ x, inWindow M r (a ++ [x])) (k : FsPath) :
    Desc t wk M r a k ↔
      ∃ kv ∈ childNodes t a, (k = kv.1 ∧ wk kv.2.kind = true) ∨ Desc t wk M r kv.1 k := by
  constructor
  · rintro ⟨m, hm, hp, hin, hwk⟩
    obtain ⟨x, hx, rfl⟩ := (isProperPrefix_iff a k).1 hp
    match x, hx with
    | w :: z, _ =>
      by_cases hz : z = []
      · subst hz
        exact ⟨(a ++ [w], m), mem_childNodes.2 ⟨alLookup_mem hm, w, rfl⟩, Or.inl ⟨rfl, hwk⟩⟩
      · have hpp : isProperPrefix (a ++ [w]) (a ++ w :: z) = true := by
          have := isProperPrefix_append (a ++ [w]) hz
          rwa [List.append_assoc] at this
        obtain ⟨nc, hnc, _⟩ := isDir_iff.1 (ancestor_isDir h.wf hm hpp)
        exact ⟨(a ++ [w], nc), mem_childNodes.2 ⟨alLookup_mem hnc, w, rfl⟩, Or.inr ⟨m, hm, hpp, hin, hwk⟩⟩
  · rintro ⟨kv, hkv, hor⟩
    obtain ⟨hgc, x, hx⟩ := child_get h hkv
    have hpa : isProperPrefix a kv.1 = true := by rw [hx]; exact isProperPrefix_append a (by simp)
    rcases hor with ⟨rfl, hwk⟩ | ⟨m, hm, hp, hin, hwk⟩
    · exact ⟨kv.2, hgc, hpa, hx ▸ hwin x, hwk⟩
    · exact ⟨m, hm, isProperPrefix_trans hpa hp, hin, hwk⟩

theorem block_spec {want : SEntry → Bool} {wk : Kind → Bool} (hw : ∀ k n e, EntryFor k n e → want e = wk n.kind)
    {M : Option Nat} {r : Nat} {below : SEntry → Outcome (List FsPath)} {kv : FsPath × Node} {c : SEntry}
    (hef : EntryFor kv.1 kv.2 c) (hwalk : WalkOk t wk M r kv.1 (below c)) :
    (block want below c).Pairwise (fun x y => pathLt x y = true) ∧
      ∀ k, k ∈ block want below c ↔ (k = kv.1 ∧ wk kv.2.kind = true) ∨ Desc t wk M r kv.1 k := by
  obtain ⟨L, hL, hLs, hLm⟩ := hwalk
  unfold block
  rw [hL, hef.path, hw _ _ _ hef]
  cases wk kv.2.kind with
  | false => exact ⟨hLs, fun k => by simp [okOr, hLm]⟩
  | true =>
    refine ⟨List.pairwise_cons.2 ⟨fun y hy => ?_, hLs⟩, fun k => by simp [okOr, hLm]⟩
    obtain ⟨_, _, hp, _⟩ := (hLm y).1 hy
    obtain ⟨z, hz, rfl⟩ := (isProperPrefix_iff kv.1 y).1 hp
    exact pathLt_append _ hz

theorem entry_real_dir {k : FsPath} {n : Node} {e : SEntry} (he : EntryFor k n e) :
    (e.dir && !e.link) = decide (n.kind = .dir) := by
  rw [he.dir, he.link]
  cases n.kind with
  | dir => rfl
  | file => rfl
  | link b => cases b <;> rfl

theorem listKids_stop (h : Ctx env t) (want : SEntry → Bool) (wk : Kind → Bool) (M : Option Nat) (r f d : Nat)
    {a : FsPath} {n : Node} {e : SEntry} (hlen : a.length = r + d) (hg : get t a = some n)
    (he : EntryFor a n e) (hstop : ¬ (n.kind = .dir ∧ belowMax d M = true)) :
    WalkOk t wk M r a (listKids env t want M (f + 1) d e) := by
  refine ⟨[], ?_, List.Pairwise.nil, fun k => ?_⟩
  · rw [listKids, entry_real_dir he, if_neg]
    simpa using hstop
  · simp only [List.not_mem_nil, false_iff]
    rintro ⟨m, hm, hp, hin, _⟩
    by_cases hk : n.kind = .dir
    · obtain ⟨x, hx, rfl⟩ := (isProperPrefix_iff a k).1 hp
      match x, hx with
      | w :: z, _ =>
        refine hstop ⟨hk, (belowMax_iff hlen w).2 fun mx hmx => ?_⟩
        have := hin mx hmx
        simp only [List.length_append, List.length_cons, List.length_nil] at this ⊢
        omega
    · rw [get_below_none h.wf (isDir_false_of_kind hg hk) hp] at hm
      cases hm

theorem listKids_go (h : Ctx env t) (hrt : keysRT env t = true) (want : SEntry → Bool) (wk : Kind → Bool)
    (hw : ∀ k n e, EntryFor k n e → want e = wk n.kind) (M : Option Nat) (r f d : Nat)
    {a : FsPath} {n : Node} {e : SEntry} (hlen : a.length = r + d) (hg : get t a = some n)
    (he : EntryFor a n e) (hk : n.kind = .dir) (hbm : belowMax d M = true)
    (hch : ∀ kv ∈ childNodes t a, ∀ c, EntryFor kv.1 kv.2 c →
      WalkOk t wk M r kv.1 (listKids env t want M f (d + 1) c)) :
    WalkOk t wk M r a (listKids env t want M (f + 1) d e) := by
  obtain ⟨es, hes, hpaths, hents⟩ := childEntries_dir h hrt (isDir_of_get hg hk)
  have hsorted : ∀ c ∈ sortByName es, ∃ kv ∈ childNodes t a, EntryFor kv.1 kv.2 c ∧
      WalkOk t wk M r kv.1 (listKids env t want M f (d + 1) c) := by
    intro c hc
    obtain ⟨kv, hkv, hef⟩ := hents c ((mem_sortByName c es).1 hc)
    exact ⟨kv, hkv, hef, hch kv hkv c hef⟩
  refine ⟨(sortByName es).flatMap (block want (listKids env t want M f (d + 1))), ?_, ?_, fun k => ?_⟩
  · simp only [listKids, entry_real_dir he, hk, decide_true, hbm, Bool.and_self, if_true, he.path, hes]
    rw [foldl_listStep _ _ _ [] fun c hc => by obtain ⟨_, _, _, L, hL, _⟩ := hsorted c hc; exact ⟨L, hL⟩]
    rfl
  · -- the blocks are sorted, and they follow each other in the order of the names
    have hnames : (es.map nameOf).Nodup := by
      rw [show es.map nameOf = (es.map (·.path)).map baseName by rw [List.map_map]; rfl, hpaths,
        List.map_map]
      exact childNodes_names_nodup h a
    rw [List.pairwise_flatMap]
    refine ⟨fun c hc => ?_, (List.Pairwise.and_mem.1 (sorted_sortByName es hnames)).imp ?_⟩
    · obtain ⟨kv, _, hef, hwalk⟩ := hsorted c hc
      exact (block_spec hw hef hwalk).1
    · rintro c c' ⟨hc, hc', hlt⟩ x hx y hy
      -- members of a block extend the child's key
      have hext : ∀ c0 ∈ sortByName es, ∀ x0 ∈ block want (listKids env t want M f (d + 1)) c0,
          ∃ z, x0 = a ++ nameOf c0 :: z := by
        intro c0 hc0 x0 hx0
        obtain ⟨kv, hkv, hef, hwalk⟩ := hsorted c0 hc0
        obtain ⟨_, w, hw'⟩ := child_get h hkv
        have hn0 : nameOf c0 = w := by unfold nameOf; rw [hef.path, hw', baseName_snoc]
        rcases ((block_spec hw hef hwalk).2 x0).1 hx0 with ⟨rfl, _⟩ | ⟨_, _, hp, _⟩
        · exact ⟨[], by rw [hw', hn0]⟩
        · obtain ⟨z, _, rfl⟩ := (isProperPrefix_iff kv.1 x0).1 hp
          exact ⟨z, by rw [hw', hn0, List.append_assoc]; rfl⟩
      obtain ⟨z, rfl⟩ := hext c hc x hx
      obtain ⟨z', rfl⟩ := hext c' hc' y hy
      rw [pathLt_append_left, pathLt_cons, if_pos (show strLt (nameOf c) (nameOf c') = true from hlt)]
  · rw [List.mem_flatMap, desc_iff_child h (fun x => (belowMax_iff hlen x).1 hbm)]
    constructor
    · rintro ⟨c, hc, hkb⟩
      obtain ⟨kv, hkv, hef, hwalk⟩ := hsorted c hc
      exact ⟨kv, hkv, ((block_spec hw hef hwalk).2 k).1 hkb⟩
    · rintro ⟨kv, hkv, hor⟩
      obtain ⟨c, hces, hcp⟩ := List.mem_map.1 (hpaths ▸ List.mem_map.2 ⟨kv, hkv, rfl⟩ :
        kv.1 ∈ es.map (·.path))
      have hcs := (mem_sortByName c es).2 hces
      obtain ⟨kv', hkv', hef, hwalk⟩ := hsorted c hcs
      have hkk : kv' = kv := by
        have h1 := (child_get h hkv').1
        rw [← hef.path, hcp, (child_get h hkv).1] at h1
        exact Prod.ext (by rw [← hef.path, hcp]) (Option.some.inj h1).symm
      subst hkk
      exact ⟨c, hcs, ((block_spec hw hef hwalk).2 k).2 hor⟩

theorem listKids_spec (h : Ctx env t) (hrt : keysRT env t = true) (want : SEntry → Bool) (wk : Kind → Bool)
    (hw : ∀ k n e, EntryFor k n e → want e = wk n.kind) (M : Option Nat) (r : Nat) :
    ∀ (f d : Nat) (a : FsPath) (n : Node) (e : SEntry), a.length = r + d → get t a = some n → EntryFor a n e →
      (∀ k m, get t k = some m → isProperPrefix a k = true → k.length ≤ a.length + f) →
      WalkOk t wk M r a (listKids env t want M (f + 1) d e) := by
  intro f
  induction f with
  | zero =>
    intro d a n e hlen hg he hfuel
    by_cases hgo : n.kind = .dir ∧ belowMax d M = true
    · refine listKids_go h hrt want wk hw M r 0 d hlen hg he hgo.1 hgo.2 fun kv hkv c _ => ?_
      obtain ⟨hgc, x, hx⟩ := child_get h hkv
      have := hfuel kv.1 kv.2 hgc (by rw [hx]; exact isProperPrefix_append a (by simp))
      rw [hx] at this; simp at this; omega
    · exact listKids_stop h want wk M r 0 d hlen hg he hgo
  | succ f ih =>
    intro d a n e hlen hg he hfuel
    by_cases hgo : n.kind = .dir ∧ belowMax d M = true
    · refine listKids_go h hrt want wk hw M r (f + 1) d hlen hg he hgo.1 hgo.2 fun kv hkv c hef => ?_
      obtain ⟨hgc, x, hx⟩ := child_get h hkv
      have hpa : isProperPrefix a kv.1 = true := by rw [hx]; exact isProperPrefix_append a (by simp)
      refine ih (d + 1) kv.1 kv.2 c (by rw [hx]; simp; omega) hgc hef fun k m hm hp => ?_
      have := hfuel k m hm (isProperPrefix_trans hpa hp)
      rw [hx]; simp only [List.length_append, List.length_cons, List.length_nil]; omega
    · exact listKids_stop h want wk M r (f + 1) d hlen hg he hgo

theorem foldl_max_ge (l : List (FsPath × Node)) : ∀ init : Nat,
    init ≤ l.foldl (fun m kv => max m kv.1.length) init ∧
    ∀ kv ∈ l, kv.1.length ≤ l.foldl (fun m kv => max m kv.1.length) init := by
  induction l with
  | nil => intro init; simp
  | cons x xs ih =>
    intro init
    simp only [List.foldl_cons]
    obtain ⟨h1, h2⟩ := ih (max init x.1.length)
    refine ⟨by omega, fun kv hkv => ?_⟩
    rcases List.mem_cons.1 hkv with rfl | h0
    · omega
    · exact h2 kv h0

theorem walkFuel_ok {t : T} {k : FsPath} {m : Node} (hm : get t k = some m) :
    ∃ f, walkFuel t = f + 1 ∧ k.length ≤ f := by
  refine ⟨t.nodes.foldl (fun m kv => max m kv.1.length) 0 + 1, rfl, ?_⟩
  have := (foldl_max_ge t.nodes 0).2 _ (alLookup_mem hm)
  simp only at this; omega

/-! ### the six listing operations -/

/-- the depth limit of the two families of listings -/
def listDepth (all : Bool) : Option Nat := if all then none else some 1

theorem mem_spec_keys (h : Ctx env t) (a : FsPath) (all : Bool) (wantN : Node → Bool) (k : FsPath) :
    k ∈ (t.nodes.filter (fun kv => isProperPrefix a kv.1 && (all || kv.1.length = a.length + 1) && wantN kv.2)).map (·.1) ↔
      ∃ m, get t k = some m ∧ isProperPrefix a k = true ∧ (all = true ∨ k.length = a.length + 1) ∧ wantN m = true := by
  rw [List.mem_map]
  constructor
  · rintro ⟨kv, hkv, rfl⟩
    rw [List.mem_filter] at hkv
    simp only [Bool.and_eq_true, Bool.or_eq_true, decide_eq_true_eq] at hkv
    exact ⟨kv.2, alLookup_of_mem_nodup h.wf.nodup hkv.1, hkv.2.1.1, hkv.2.1.2, hkv.2.2⟩
  · rintro ⟨m, hm, hp, hal, hwn⟩
    refine ⟨(k, m), ?_, rfl⟩
    rw [List.mem_filter]
    simp only [Bool.and_eq_true, Bool.or_eq_true, decide_eq_true_eq]
    exact ⟨alLookup_mem hm, ⟨hp, hal⟩, hwn⟩

theorem inWindow_listDepth (all : Bool) {a k : FsPath} (hp : isProperPrefix a k = true) :
    inWindow (listDepth all) a.length k ↔ (all = true ∨ k.length = a.length + 1) := by
  obtain ⟨x, hx, rfl⟩ := (isProperPrefix_iff a k).1 hp
  have hl : 0 < x.length := List.length_pos_iff.mpr hx
  cases all with
  | true => simp [listDepth, inWindow]
  | false => simp [listDepth, inWindow]; omega

theorem walk_eq_listing (h : Ctx env t) (hrt : keysRT env t = true) (want : SEntry → Bool) (wk : Kind → Bool)
    (hw : ∀ k n e, EntryFor k n e → want e = wk n.kind) (all : Bool) (wantN : Node → Bool)
    {a : FsPath} {n : Node} {e : SEntry} (hg : get t a = some n) (he : EntryFor a n e)
    (hagree : ∀ k m, get t k = some m → isProperPrefix a k = true → (all = true ∨ k.length = a.length + 1) →
      wk m.kind = wantN m) :
    listKids env t want (listDepth all) (walkFuel t) 0 e =
      .ok (sortP ((t.nodes.filter (fun kv => isProperPrefix a kv.1 && (all || kv.1.length = a.length + 1) && wantN kv.2)).map (·.1))) := by
  obtain ⟨f, hf, hmax⟩ := walkFuel_ok hg
  have hfuel : ∀ k m, get t k = some m → isProperPrefix a k = true → k.length ≤ a.length + f := by
    intro k m hm _
    obtain ⟨f', hf', hmax'⟩ := walkFuel_ok hm
    omega
  obtain ⟨L, hL, hsorted, hmem⟩ :=
    listKids_spec h hrt want wk hw (listDepth all) a.length f 0 a n e rfl hg he hfuel
  rw [hf, hL]
  congr 1
  refine sorted_unique _ _ hsorted (sorted_sortP _
    (List.Nodup.sublist (List.Sublist.map _ List.filter_sublist) h.wf.nodup)) fun k => ?_
  rw [hmem, mem_sortP, mem_spec_keys h]
  constructor
  · rintro ⟨m, hm, hp, hin, hwk⟩
    have hal := (inWindow_listDepth all hp).1 hin
    exact ⟨m, hm, hp, hal, by rw [← hagree k m hm hp hal]; exact hwk⟩
  · rintro ⟨m, hm, hp, hal, hwn⟩
    exact ⟨m, hm, hp, (inWindow_listDepth all hp).2 hal, by rw [hagree k m hm hp hal]; exact hwn⟩

/-- `paths` / `dirs` / `files` -/
theorem sim_listing1 (h : Ctx env t) (hrt : keysRT env t = true) (p : Str) (want : SEntry → Bool)
    (wk : Kind → Bool) (hw : ∀ k n e, EntryFor k n e → want e = wk n.kind) (wantN : Node → Bool)
    (hagree : ∀ a, resolve env t p = .ok a → ∀ k m, get t k = some m → isProperPrefix a k = true →
      (false = true ∨ k.length = a.length + 1) → wk m.kind = wantN m) :
    Sim (Stdfs.mapVal .paths (listing1 env p want) t) (listQ env t p false wantN) := by
  unfold listing1 listQ isDirS Stdfs.mapVal
  simp only [absK_eq h.cwd]
  cases hr : resolve env t p with
  | ok a =>
    simp only [isDirK_eq h.wf]
    unfold TreeFs.listing
    cases hd : isDir t a with
    | true =>
      obtain ⟨n, hg, hk⟩ := isDir_iff.1 hd
      have hnl := isLinkKind_dir hk
      have hwalk := walk_eq_listing h hrt want wk hw false wantN hg (entryFor_nonlink hnl) (hagree a hr)
      rw [show listDepth false = some 1 from rfl] at hwalk
      simp only [entryFrom_nonlink h hr hg hnl, Bool.not_true, Bool.false_eq_true, if_false, hwalk]
      exact sim_ok _ (TEquiv.refl _)
    | false => exact sim_err _ _ (TEquiv.refl _)
  | err e => exact sim_err _ _ (TEquiv.refl _)
  | panic => exact sim_unspec _ _
  | hang => exact sim_unspec _ _

/-- `all_paths` / `all_dirs` / `all_files` -/
theorem sim_listingAll (h : Ctx env t) (hrt : keysRT env t = true) (p : Str) (want : SEntry → Bool)
    (wk : Kind → Bool) (hw : ∀ k n e, EntryFor k n e → want e = wk n.kind) (wantN : Node → Bool)
    (hagree : ∀ a, resolve env t p = .ok a → ∀ k m, get t k = some m → isProperPrefix a k = true →
      (true = true ∨ k.length = a.length + 1) → wk m.kind = wantN m) :
    Sim (Stdfs.mapVal .paths (listingAll env p want) t) (listQ env t p true wantN) := by
  unfold listingAll listQ Stdfs.mapVal
  dsimp only
  cases hr : resolve env t p with
  | ok a =>
    unfold TreeFs.listing
    dsimp only
    cases hg : get t a with
    | none =>
      rw [entryFrom_missing h hr hg, show isDir t a = false by unfold isDir; rw [hg]]
      exact sim_err _ _ (TEquiv.refl _)
    | some n =>
      cases hk : n.kind with
      | dir =>
        have hnl := isLinkKind_dir hk
        obtain ⟨e, he, hef⟩ := entryFrom_key h hrt hg
        have hwalk := walk_eq_listing h hrt want wk hw true wantN hg hef (hagree a hr)
        rw [show listDepth true = none from rfl] at hwalk
        simp only [entryFrom_nonlink h hr hg hnl, hk, decide_true, Bool.not_true, Bool.or_self,
          Bool.false_eq_true, if_false, he, hwalk, isDir_of_get hg hk]
        exact sim_ok _ (TEquiv.refl _)
      | file =>
        rw [entryFrom_nonlink h hr hg (isLinkKind_file hk), isDir_false_of_kind hg (by rw [hk]; nofun), hk]
        exact sim_err _ _ (TEquiv.refl _)
      | link b =>
        obtain ⟨alt, m, tg, _, _, _, he⟩ := entryFrom_link h hr hg hk
        rw [he, isDir_false_of_kind hg (by rw [hk]; nofun)]
        cases b <;> exact sim_err _ _ (TEquiv.refl _)
  | err e => rw [entryFrom_err h hr]; exact sim_err _ _ (TEquiv.refl _)
  | panic => exact sim_unspec _ _
  | hang => exact sim_unspec _ _

theorem listOk_facts (ho : listOkB env t = true) : keysRT env t = true := ho

/-- node kinds the entry filters of `dirs` / `files` select: `is_dir()` / `is_file()` of the entry AND not a
    link (the collecting loop skips links), i.e. exactly the node kind the reference selects -/
def wkDirs (k : Kind) : Bool := decide (k = .dir)
def wkFiles (k : Kind) : Bool := decide (k = .file)

theorem hw_all : ∀ (k : FsPath) (n : Node) (e : SEntry), EntryFor k n e → wantAll e = (fun _ => true) n.kind :=
  fun _ _ _ _ => rfl
theorem hw_dirs : ∀ (k : FsPath) (n : Node) (e : SEntry), EntryFor k n e → wantDirs e = wkDirs n.kind := by
  intro _ n e he
  unfold wantDirs wkDirs
  exact entry_real_dir he
theorem hw_files : ∀ (k : FsPath) (n : Node) (e : SEntry), EntryFor k n e → wantFiles e = wkFiles n.kind := by
  intro _ n e he
  unfold wantFiles wkFiles
  rw [he.file, he.link]
  cases n.kind with
  | dir => rfl
  | file => rfl
  | link b => cases b <;> rfl

end Rivia.Lemmas.StdfsL
