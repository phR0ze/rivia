/-
  Rivia.Lemmas.ReachInv — the side invariants of the C01 refinement theorems along histories.

  * `EntriesOk` (`RefineA`): per entry `dir = !file`, the mode is canonical (the type bits of the kind plus
    permission bits only — `mode_canon_of_entryOk`; holds since the `mode_type_bits` repair), a link
    has a target and `rel` is that target relative to the link's directory;
  * `KeysW` (= `Lemmas.KeysWf` of CopyMove): every name of every key and of the cwd is a proper name
    (non-empty, no `/`, not `.`, not `..`) — stronger than the `KeysWf` of the C03 induction, which
    allows `..`.

  Both are kept by the 47 operations of `InvA.CoveredA` (through `StepAInv`), by `remove`,
  `remove_all`, `symlink` (through the `Tr` calculus of MoveLinkRel) and by `move_p`
  (`EntriesOk`: MoveLinkRel; `KeysW`: from `moveLoop_spec`).
-/
import Rivia.Lemmas.InvAll
import Rivia.Lemmas.RefineA
import Rivia.Lemmas.RefineB
import Rivia.Lemmas.MoveLinkRel
import Rivia.Lemmas.MoveP
import Rivia.Lemmas.AbsWf

namespace Rivia.Lemmas.Reach
open Rivia Rivia.Memfs Rivia.Memfs.M Rivia.File Rivia.Spec Rivia.Spec.TreeFs Rivia.Lemmas
open Rivia.Lemmas.MoveLinkRel (AllEnts EntStable Tr tr_bind tr_then tr_ite tr_pure tr_mpure tr_fail tr_hang tr_liftO tr_get tr_dirOf)

/-- every name of every key and of the cwd is a proper name (no `..`) -/
abbrev KeysW (s : State) : Prop := Rivia.Lemmas.KeysWf s

abbrev EOk (s : State) : Prop := RefineA.EntriesOk s

/-! ### per-entry facts -/

theorem entryOk_setMode {k : FsPath} {e : Entry} (m : Nat) (h : RefineA.entryOkB k e = true) :
    RefineA.entryOkB k (e.setMode m) = true := by
  have hk : kindOf (e.setMode m) = kindOf e := rfl
  simp only [RefineA.entryOkB, Bool.and_eq_true, decide_eq_true_eq, Bool.or_eq_true,
    Bool.not_eq_true'] at h ⊢
  obtain ⟨⟨h1, _⟩, h3⟩ := h
  have hm : (e.setMode m).mode = (m &&& 0o7777) ||| typeBits (kindOf e) := by
    show optsMode e.link e.file e.dir (some m) = _
    rw [ModeBits.optsMode_some]
    unfold kindOf
    cases hl : e.link <;> cases hf : e.file <;> rw [hf] at h1 <;>
      simp only [Bool.not_false, Bool.not_true] at h1 <;>
      simp only [h1, Bool.false_eq_true, if_false, if_true, typeBits]
  have hT : typeBits (kindOf e) = 0o40000 ∨ typeBits (kindOf e) = 0o100000 ∨ typeBits (kindOf e) = 0o120000 := by
    cases kindOf e <;> simp [typeBits]
  refine ⟨⟨h1, ?_, ?_⟩, h3⟩
  · rw [hk, hm]; exact RefineA.or_and_self _ _
  · rw [hk, hm, ModeBits.or_sub_typeBits _ _ (ModeBits.and_perm_lt m) hT]
    exact ModeBits.and_perm_lt m

theorem entriesOk_mem {s : State} (h : EOk s) {kv : FsPath × Entry} (hm : kv ∈ s.entries) :
    RefineA.entryOkB kv.1 kv.2 = true := List.all_eq_true.mp h _ hm

theorem entriesOk_at {s : State} (h : EOk s) {k : FsPath} {e : Entry} (hk : alLookup k s.entries = some e) :
    RefineA.entryOkB k e = true := entriesOk_mem h (alLookup_mem hk)

/-- `EntriesOk` makes every stored mode canonical: permission bits plus the type bits of the kind
    (and so its `S_IFMT` bits are exactly the type bits of the kind) -/
theorem mode_canon_of_entryOk {k : FsPath} {e : Entry} (h : RefineA.entryOkB k e = true) :
    (e.mode &&& 0o7777) ||| typeBits (kindOf e) = e.mode ∧ e.mode &&& 0o170000 = typeBits (kindOf e) := by
  simp only [RefineA.entryOkB, Bool.and_eq_true, decide_eq_true_eq] at h
  obtain ⟨hw, hp⟩ := h.1.2
  have hm := RefineA.or_sub_of_and_eq _ _ hw
  have hT0 : typeBits (kindOf e) &&& 0o7777 = 0 := by cases kindOf e <;> simp [typeBits]
  have hTT : typeBits (kindOf e) &&& 0o170000 = typeBits (kindOf e) := by
    cases kindOf e with
    | dir => exact (by decide : (0o40000 : Nat) &&& 0o170000 = 0o40000)
    | file => exact (by decide : (0o100000 : Nat) &&& 0o170000 = 0o100000)
    | link b => exact (by decide : (0o120000 : Nat) &&& 0o170000 = 0o120000)
  generalize typeBits (kindOf e) = T at *
  generalize hq : e.mode - T = q at *
  have hq' : q &&& 0o7777 = q := ModeBits.and_perm_of_lt q hp
  have h1 : e.mode &&& 0o7777 = q := by
    rw [← hm, Nat.and_or_distrib_right, hT0, hq']; simp
  constructor
  · rw [h1, Nat.or_comm]; exact hm
  · have := ModeBits.type_of_or q T hTT
    rw [hq', Nat.or_comm, hm] at this
    exact this

/-! ### group A through `StepAInv` -/

theorem stepAInv_entriesOk : InvA.StepAInv EOk (fun _ => True) where
  addFile := fun p _ => ⟨RefineA.es_add _ (RefineA.entryOk_mkFileEntry p)⟩
  mkdir := fun p m _ => ⟨RefineA.es_mkdirM p m⟩
  sync := fun p b => ⟨RefineA.es_syncM p b⟩
  cwd := fun _ _ _ h => h
  handles := fun _ _ h => h
  setMode := fun _ _ _ m h hk =>
    all_alInsert _ _ _ _ h (entryOk_setMode m (entriesOk_at h hk))
  setOwner := fun _ _ _ _ _ h hk =>
    all_alInsert _ _ _ _ h (entriesOk_at h hk :)

theorem entriesOk_step_A (env : Env) (s : State) (op : Op) (hc : InvA.CoveredA op) (h : EOk s) :
    EOk (step env s op).2 :=
  stepAInv_entriesOk.step env s op hc (fun _ _ _ _ => trivial) h

theorem KeysW.replace {s : State} (h : KeysW s) {k : FsPath} {e : Entry} (e' : Entry)
    (hk : alLookup k s.entries = some e) : KeysW { s with entries := alInsert k e' s.entries } := by
  refine ⟨?_, h.2⟩
  intro kv hkv
  rcases mem_alInsert hkv with rfl | hkv
  · exact h.1 (k, e) (alLookup_mem hk)
  · exact h.1 kv hkv

theorem KeysW.add (e : Entry) (hq : WfKey e.path) : InvA.Pres KeysW (Memfs.add e) := by
  constructor
  intro s h
  have := InvA.add_allE (P := fun k _ => WfKey k) e h.1 hq (fun d b d' hm _ => h.1 _ hm)
  exact ⟨this.1, this.2 ▸ h.2⟩

theorem stepAInv_keysW : InvA.StepAInv KeysW WfKey where
  addFile := fun p hp => KeysW.add _ hp
  mkdir := by
    intro p m hp
    unfold Memfs.mkdirM
    apply InvA.Pres.forM_mem
    intro q hq
    obtain ⟨n, rfl⟩ := InvA.mem_prefixes hq
    apply InvA.Pres.bind (KeysW.add _ (fun x hx => hp x (List.mem_of_mem_take hx)))
    intro _; exact InvA.Pres.pure _
  sync := fun p b => ⟨fun s h => by
    have := InvA.syncM_entries p b s
    exact ⟨this.1 ▸ h.1, this.2 ▸ h.2⟩⟩
  cwd := fun p s hp h => ⟨h.1, hp⟩
  handles := fun _ _ h => h
  setMode := fun _ _ _ _ h hk => h.replace _ hk
  setOwner := fun _ _ _ _ _ h hk => h.replace _ hk

theorem absQ_keysW (env : Env) (s : State) (h : KeysW s) : InvA.StepAInv.AbsQ WfKey env s := by
  intro raw a s' ha
  have h2 := absM_state env raw s
  rw [ha] at h2
  simp only at h2
  subst h2
  exact absM_wf h.2 ha

theorem keysW_step_A (env : Env) (s : State) (op : Op) (hc : InvA.CoveredA op) (h : KeysW s) :
    KeysW (step env s op).2 :=
  stepAInv_keysW.step env s op hc (absQ_keysW env s h) h

/-! ### `remove`, `remove_all`, `symlink`: a per-entry predicate together with a well-formed cwd -/

/-- every stored pair satisfies `P` and the cwd is a well-formed key -/
def KI (P : FsPath → Entry → Prop) (s : State) : Prop := AllEnts P s ∧ WfKey s.cwd

section ki
variable {P : FsPath → Entry → Prop}

theorem tr_lift {α} {m : M α} {Q : α → Prop} (h : Tr (AllEnts P) m Q) (hc : ∀ s, (m s).2.cwd = s.cwd) :
    Tr (KI P) m Q :=
  fun s hs => ⟨⟨(h s hs.1).1, by rw [hc s]; exact hs.2⟩, (h s hs.1).2⟩

theorem k_getEntry (p : FsPath) : Tr (KI P) (getEntry p) (fun o => ∀ e, o = some e → P p e) :=
  tr_lift (MoveLinkRel.tr_getEntry p) (fun _ => rfl)
theorem k_removeEntry (p : FsPath) : Tr (KI P) (removeEntry p) (fun _ => True) :=
  tr_lift (MoveLinkRel.tr_weaken (MoveLinkRel.tr_removeEntry p) (fun _ _ => trivial)) (fun _ => rfl)
theorem k_setEntry {p : FsPath} {e : Entry} (h : P p e) : Tr (KI P) (setEntry p e) (fun _ => True) :=
  tr_lift (MoveLinkRel.tr_setEntry h) (fun _ => rfl)
theorem k_removeFile (p : FsPath) : Tr (KI P) (removeFile p) (fun _ => True) :=
  tr_lift (MoveLinkRel.tr_removeFile p) (fun _ => rfl)

theorem k_absM (env : Env) (p : Str) : Tr (KI P) (absM env p) WfKey := by
  intro s hs
  have h2 : (absM env p s).2 = s := absM_state env p s
  refine ⟨by rw [h2]; exact hs, fun a ha => ?_⟩
  have : absM env p s = (.ok a, s) := Prod.ext ha h2
  exact absM_wf hs.2 this

theorem k_add (hP : EntStable P) (e : Entry) (he : P e.path e) : Tr (KI P) (Memfs.add e) (fun _ => True) := by
  intro s hs
  refine ⟨?_, fun _ _ => trivial⟩
  rcases InvC.add_cases0 e s with h1 | ⟨d, b, d', hd, hac, h1⟩
  · rw [h1]; exact hs
  · rw [h1]
    refine ⟨?_, hs.2⟩
    intro kv hkv
    rcases mem_alInsert hkv with rfl | hkv
    · exact hP.addChild _ d _ b d' (hs.1 _ (alLookup_mem hd)) hac
    · rcases mem_alInsert hkv with rfl | hkv
      · exact he
      · exact hs.1 kv hkv

theorem removeM_tr (hP : EntStable P) (env : Env) (p : Str) :
    Tr (KI P) (removeM env p) (fun _ => True) := by
  unfold removeM
  refine tr_bind (k_absM _ _) fun k _ => ?_
  refine tr_bind (k_getEntry _) fun x _ => ?_
  extract_lets unlink dropData detach
  have h1 : ∀ u, Tr (KI P) (unlink u) (fun _ => True) := fun _ =>
    tr_then (k_removeEntry _) fun _ => tr_pure _ trivial
  have h2 : ∀ u, Tr (KI P) (dropData u) (fun _ => True) := by
    intro _
    refine tr_bind (k_getEntry _) fun z _ => ?_
    cases z with
    | none => exact tr_then (tr_mpure _ trivial) h1
    | some e => exact tr_ite (tr_then (k_removeFile _) fun _ => h1 ()) (h1 ())
  have h3 : ∀ u, Tr (KI P) (detach u) (fun _ => True) := by
    intro _
    refine tr_bind (k_getEntry _) fun z _ => tr_ite (tr_pure _ trivial) ?_
    refine tr_bind (tr_dirOf _) fun d _ => ?_
    refine tr_bind (k_getEntry _) fun y hy => ?_
    cases y with
    | none => exact tr_then (tr_mpure _ trivial) h2
    | some pe =>
      refine tr_bind (tr_liftO _) fun pe' hpe' => ?_
      exact tr_then (k_setEntry (hP.rmChild _ _ _ _ (hy pe rfl) hpe')) h2
  cases x with
  | none => exact tr_then (tr_mpure _ trivial) h3
  | some e =>
    dsimp only
    cases e.files with
    | none => exact tr_then (tr_mpure _ trivial) h3
    | some fs => exact tr_ite (tr_then (tr_fail _) h3) (tr_then (tr_mpure _ trivial) h3)

theorem removeAllLoop_tr (hP : EntStable P) :
    ∀ (f : Nat) (W : List FsPath), Tr (KI P) (removeAllLoop f W) (fun _ => True) := by
  intro f
  induction f with
  | zero => intro W; rw [removeAllLoop]; exact tr_hang
  | succ f ih =>
    intro W
    cases W with
    | nil => rw [removeAllLoop]; exact tr_mpure _ trivial
    | cons p work =>
      rw [removeAllLoop]
      refine tr_bind (k_getEntry _) fun x _ => ?_
      cases x with
      | none => exact ih _
      | some e =>
        have hend := tr_then (k_removeFile (P := P) p) fun _ => tr_then (k_removeEntry p) fun _ => ih work
        dsimp only
        split
        · exact ih _
        refine tr_bind (tr_dirOf _) fun d _ => ?_
        refine tr_bind (k_getEntry _) fun y hy => ?_
        cases y with
        | none => exact tr_then (tr_mpure _ trivial) fun _ => hend
        | some pe =>
          refine tr_bind (tr_liftO _) fun pe' hpe' => ?_
          exact tr_then (k_setEntry (hP.rmChild _ _ _ _ (hy pe rfl) hpe')) fun _ => hend

theorem removeAllM_tr (hP : EntStable P) (env : Env) (p : Str) :
    Tr (KI P) (removeAllM env p) (fun _ => True) := by
  unfold removeAllM
  exact tr_bind (k_absM _ _) fun k _ => tr_then tr_get fun s => removeAllLoop_tr hP _ _

/-- the entry `_symlink` builds -/
def linkEntry (l t : FsPath) (tIsDir : Bool) : Entry :=
  { path := l, alt := some t, rel := relative (renderP t) (renderP l.dropLast), dir := tIsDir, file := !tIsDir,
    link := true, mode := optsMode true (!tIsDir) tIsDir none, uid := 1000, gid := 1000,
    follow := false, cached := false, files := if tIsDir then some [] else none }

theorem symlinkM_tr (hP : EntStable P) (hnew : ∀ l t b, WfKey l → P l (linkEntry l t b)) (env : Env)
    (l t : Str) : Tr (KI P) (symlinkM env l t) (fun _ => True) := by
  unfold symlinkM
  refine tr_bind (k_absM _ _) fun lk hlk => ?_
  refine tr_bind (k_getEntry _) fun x _ => tr_ite (tr_fail _) ?_
  extract_lets link
  have h : ∀ tstr, Tr (KI P) (link tstr) (fun _ => True) := by
    intro tstr
    refine tr_bind (k_absM _ _) fun tk _ => ?_
    refine tr_bind (tr_dirOf _) ?_
    rintro ldir ⟨_, rfl⟩
    refine tr_bind (k_getEntry _) fun y _ => ?_
    exact tr_then (k_add hP _ (hnew lk tk _ hlk)) fun _ => tr_pure _ trivial
  exact tr_ite (tr_then (tr_mpure _ trivial) h)
    (tr_bind (tr_dirOf _) fun d _ => tr_then (tr_mpure _ trivial) h)

end ki

/-! ### the combined per-entry predicate -/

/-- `entryOkB` and a well-formed key -/
def EK (k : FsPath) (e : Entry) : Prop := RefineA.entryOkB k e = true ∧ WfKey k

theorem entStable_EK : EntStable EK where
  rmChild := fun k e n e' h hr => ⟨MoveLinkRel.moveStable_entryOk.rmChild k e n e' h.1 hr, h.2⟩
  addChild := fun k e n b e' h hr => ⟨MoveLinkRel.moveStable_entryOk.addChild k e n b e' h.1 hr, h.2⟩

theorem entryOk_linkEntry (l t : FsPath) (b : Bool) : RefineA.entryOkB l (linkEntry l t b) = true := by
  have hk : kindOf (linkEntry l t b) = .link b := rfl
  simp only [RefineA.entryOkB, hk, typeBits, Bool.and_eq_true, decide_eq_true_eq, Bool.or_eq_true,
    Bool.not_eq_true']
  have hm : (linkEntry l t b).mode = 0o120777 := by
    show optsMode true (!b) b none = 0o120777
    rw [ModeBits.optsMode_none]; rfl
  refine ⟨⟨?_, ?_, ?_⟩, Or.inr ?_⟩
  · show b = !(!b)
    cases b <;> rfl
  · rw [hm]; decide
  · rw [hm]; decide
  · show decide (relative (renderP t) (renderP l.dropLast) = relative (renderP t) (renderP l.dropLast)) = true
    simp

theorem ki_iff (s : State) : KI EK s ↔ EOk s ∧ KeysW s := by
  constructor
  · intro h
    refine ⟨(MoveLinkRel.entriesOk_iff s).2 (fun kv hkv => (h.1 kv hkv).1), fun kv hkv => (h.1 kv hkv).2, h.2⟩
  · intro h
    exact ⟨fun kv hkv => ⟨(MoveLinkRel.entriesOk_iff s).1 h.1 kv hkv, h.2.1 kv hkv⟩, h.2.2⟩

/-! ### `move_p` keeps the keys well formed -/

theorem kindWf_of_entriesOk {s : State} (h : EOk s) : KindWf s := by
  intro kv hkv
  have h1 := entriesOk_mem h hkv
  simp only [RefineA.entryOkB, Bool.and_eq_true, decide_eq_true_eq] at h1
  rw [h1.1.1]
  cases kv.2.file <;> rfl

theorem lookup_some_of_mem {β : Type} {kv : FsPath × β} {l : List (FsPath × β)} (h : kv ∈ l) :
    ∃ v, alLookup kv.1 l = some v := by
  have : (alLookup kv.1 l).isSome = true :=
    alLookup_isSome_iff_mem_keys.2 (List.mem_map.2 ⟨kv, h, rfl⟩)
  exact Option.isSome_iff_exists.1 this

theorem nodeAt_some_iff (σ : State) (k : FsPath) :
    (nodeAt σ k).isSome = (alLookup k σ.entries).isSome := by
  unfold nodeAt; cases alLookup k σ.entries <;> rfl

theorem moveM_keysW (env : Env) (a b : Str) (s : State) (hI : Spec.Inv s) (hK : KeysW s) (hF : KindWf s) :
    KeysW (moveM env a b s).2 := by
  rcases moveM_cases env a b s with ⟨r, h, _⟩ | ⟨sk, dk, srcE, _, _, _, _, h⟩ | ⟨sk, dk, srcE, ha, hb, hv, h⟩
  · rw [h]; exact hK
  · rw [h]; exact hK
  · have hi := invF_of_inv hI
    have hdk : WfKey dk := absM_wf hK.2 hb
    have hs := moveSetup_of_valid hi hK hF hdk hv
    obtain ⟨σ', hrun, hcwd, hnone, hview, hother⟩ := moveLoop_spec hi hK hs
    rw [h, hrun]
    refine ⟨?_, by show WfKey σ'.cwd; rw [hcwd]; exact hK.2⟩
    intro kv hkv
    show WfKey kv.1
    obtain ⟨v, hv'⟩ := lookup_some_of_mem hkv
    have hsome : (nodeAt σ' kv.1).isSome = true := by rw [nodeAt_some_iff, hv']; rfl
    have hsk : WfKey sk := hK.key hv.src
    have hD : WfKey (moveDst s sk dk) := by
      rw [hs.dform]
      split
      · exact WfKey.append hdk (fun n hn => by
          simp only [List.mem_singleton] at hn; subst hn
          exact hsk _ (baseName_mem hs.skne))
      · exact hdk
    by_cases h1 : ∃ r, kv.1 = sk ++ r
    · obtain ⟨r, hr⟩ := h1
      rw [hr, hnone r] at hv'
      cases hv'
    · by_cases h2 : ∃ r, kv.1 = moveDst s sk dk ++ r
      · obtain ⟨r, hr⟩ := h2
        rw [hr, hview r, nodeAt_some_iff] at hsome
        obtain ⟨e0, he0⟩ := Option.isSome_iff_exists.1 hsome
        rw [hr]
        exact WfKey.append hD fun n hn => hK.key he0 n (List.mem_append_right _ hn)
      · rw [hother kv.1 (fun r hr => h1 ⟨r, hr⟩) (fun r hr => h2 ⟨r, hr⟩), nodeAt_some_iff] at hsome
        obtain ⟨e0, he0⟩ := Option.isSome_iff_exists.1 hsome
        exact hK.key he0

theorem keysW_step_moveP (env : Env) (a b : Str) (s : State) (hI : Spec.Inv s) (hK : KeysW s) (hE : EOk s) :
    KeysW (step env s (.moveP a b)).2 :=
  InvA.mapVal_run _ (moveM_keysW env a b s hI hK (kindWf_of_entriesOk hE))

/-- `remove`, `remove_all`, `symlink`, `move_p` keep `EntriesOk` and `KeysW` -/
theorem step_B_keeps (env : Env) (s : State) (op : Op) (hc : InvB.CoveredB op) (hI : Spec.Inv s)
    (h : EOk s ∧ KeysW s) : EOk (step env s op).2 ∧ KeysW (step env s op).2 := by
  have hk := (ki_iff s).2 h
  unfold InvB.CoveredB at hc
  split at hc
  · exact (ki_iff _).1 (InvA.mapVal_run _ (removeM_tr entStable_EK env _ s hk).1)
  · exact (ki_iff _).1 (InvA.mapVal_run _ (removeAllM_tr entStable_EK env _ s hk).1)
  · exact (ki_iff _).1 (InvA.mapVal_run _
      (symlinkM_tr entStable_EK (fun l t b hl => ⟨entryOk_linkEntry l t b, hl⟩) env _ _ s hk).1)
  · exact ⟨MoveLinkRel.step_moveP_entriesOk env _ _ s h.1, keysW_step_moveP env _ _ s hI h.2 h.1⟩
  · exact hc.elim

/-! ### what the refinement theorems ask for, from `Inv`, `EntriesOk`, `KeysW` -/

theorem flagsOk_of_entriesOk {s : State} (h : EOk s) : RefineB.FlagsOk s := by
  intro kv hkv _
  have h1 := entriesOk_mem h hkv
  simp only [RefineA.entryOkB, Bool.and_eq_true, decide_eq_true_eq] at h1
  rw [h1.1.1]
  cases kv.2.file <;> rfl

theorem typeBits_ge (k : TreeFs.Kind) : 0o10000 ≤ typeBits k := by
  cases k <;> simp [typeBits]

theorem modeOk_of_entriesOk {s : State} (h : EOk s) : RefineB.ModeOk s := by
  intro kv hkv
  have h1 := entriesOk_mem h hkv
  simp only [RefineA.entryOkB, Bool.and_eq_true, decide_eq_true_eq] at h1
  have h2 := h1.1.2.1
  have : typeBits (kindOf kv.2) ≤ kv.2.mode := by
    rw [← h2]; exact Nat.and_le_left
  exact Nat.le_trans (typeBits_ge _) this

theorem keysWfB_of (s : State) (hI : Spec.Inv s) (hK : KeysW s) : RefineB.KeysWf s := by
  refine ⟨hK.1, ?_, hK.2⟩
  intro kv hkv
  obtain ⟨b, hb⟩ := lookup_some_of_mem hkv
  obtain ⟨e, he⟩ := (invF_of_inv hI).dangling _ _ hb
  exact hK.key he

theorem nameOk_of_wf {n : Str} (h : Wf n) : RefineA.nameOk n = true := by
  obtain ⟨h1, h2, h3, h4⟩ := h
  simp [RefineA.nameOk, h1, h2, h3, h4]

theorem keysWfA_of (s : State) (h : RefineB.KeysWf s) : RefineA.KeysWf s := by
  unfold RefineA.KeysWf RefineA.keyOk
  simp only [Bool.and_eq_true, List.all_eq_true]
  exact ⟨⟨fun kv hkv n hn => nameOk_of_wf (h.1 kv hkv n hn), fun kv hkv n hn => nameOk_of_wf (h.2.1 kv hkv n hn)⟩,
    fun n hn => nameOk_of_wf (h.2.2 n hn)⟩

/-! ### `DepthOk` from the number of entries -/

theorem prefix_is_key {s : State} (hi : InvF s) {k : FsPath} {e : Entry} (hk : alLookup k s.entries = some e)
    (n : Nat) : (alLookup (k.take n) s.entries).isSome = true := by
  by_cases hd : k.drop n = []
  · have : k.take n = k := by
      have := List.take_append_drop n k
      rw [hd, List.append_nil] at this; exact this
    rw [this, hk]; rfl
  · have hk' : alLookup (k.take n ++ k.drop n) s.entries = some e := by rw [List.take_append_drop]; exact hk
    obtain ⟨pe, hpe, _⟩ := ancestor_is_dir hi (k.drop n) (k.take n) e hk' hd
    rw [hpe]; rfl

/-- a well-formed tree with fewer than `usize::MAX` entries has no key of `usize::MAX` components -/
theorem depthOk_of_small {s : State} (hI : Spec.Inv s) (hsmall : s.entries.length < 2 ^ 64 - 1) :
    RefineB.DepthOk s := by
  have hi := invF_of_inv hI
  intro kv hkv
  obtain ⟨e, he⟩ := lookup_some_of_mem hkv
  -- the `kv.1.length + 1` prefixes are distinct keys
  let ps := (List.range (kv.1.length + 1)).map (fun n => kv.1.take n)
  have hnd : ps.Nodup := by
    show List.Pairwise _ _
    rw [List.pairwise_map]
    refine List.Pairwise.imp_of_mem ?_ (List.nodup_range (n := kv.1.length + 1))
    intro a b ha hb hne hab
    have := congrArg List.length hab
    simp only [List.length_take] at this
    have ha' := List.mem_range.1 ha
    have hb' := List.mem_range.1 hb
    omega
  have hsub : ps ⊆ s.entries.map (·.1) := by
    intro p hp
    obtain ⟨n, _, rfl⟩ := List.mem_map.1 hp
    exact alLookup_isSome_iff_mem_keys.1 (prefix_is_key hi he n)
  have := hnd.length_le_of_subset hsub
  simp only [ps, List.length_map, List.length_range] at this
  omega

end Rivia.Lemmas.Reach
