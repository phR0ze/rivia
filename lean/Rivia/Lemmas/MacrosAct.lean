/-
  Rivia.Lemmas.MacrosAct — the acting `assert_vfs_*!` macros other than `copyfile` against
  `macroSpec` (C20). An acting macro resolves its path, makes the vfs call with the resolved path
  and then asks the vfs about that path again: the calls never move the current directory, so the
  path still denotes the same key afterwards.
-/
import Rivia.Lemmas.Macros
import Rivia.Lemmas.InvA


namespace Rivia.MacroLemmas
open Rivia Rivia.Memfs Rivia.Memfs.M Rivia.File Rivia.Spec Rivia.Spec.TreeFs Rivia.Macros
open Rivia.Spec.MacroSpec Rivia.Lemmas.RefineA
open Rivia.Lemmas.InvA (Pres)
open Rivia.Lemmas (bind_ok pure_ok ite_ok getEntry_ok getFile_ok fail_ok liftO_ok setEntry_ok setFile_ok syncM_eq absM_ok)

variable {env : Env} {s : State}

/-! ### the current directory is `c` -/

def CwdIs (c : FsPath) (st : State) : Prop := st.cwd = c

theorem Pres_ite {α} {I : State → Prop} {c : Prop} [Decidable c] {a b : M α} (ha : Pres I a) (hb : Pres I b) :
    Pres I (if c then a else b) := by
  split <;> assumption

theorem pres_setEntry (c : FsPath) (p : FsPath) (e : Entry) : Pres (CwdIs c) (setEntry p e) := ⟨fun _ h => h⟩
theorem pres_setFile (c : FsPath) (p : FsPath) (b : Bytes) : Pres (CwdIs c) (setFile p b) := ⟨fun _ h => h⟩
theorem pres_removeEntry (c : FsPath) (p : FsPath) : Pres (CwdIs c) (removeEntry p) := ⟨fun _ h => h⟩
theorem pres_removeFile (c : FsPath) (p : FsPath) : Pres (CwdIs c) (removeFile p) := ⟨fun _ h => h⟩

theorem pres_add (c : FsPath) (e : Entry) : Pres (CwdIs c) (add e) := by
  constructor
  intro s h
  rcases Lemmas.InvA.add_state_cases e s with h0 | ⟨d, b, d', _, _, _, _, _, _, h0⟩
  · rw [h0]; exact h
  · rw [h0]; exact h

theorem pres_syncM (c : FsPath) (p : FsPath) (b : Bytes) : Pres (CwdIs c) (syncM p b) :=
  ⟨fun s h => by unfold CwdIs at *; rw [(Lemmas.InvA.syncM_entries p b s).2]; exact h⟩

theorem pres_mkdirM (c : FsPath) (p : FsPath) (mode : Option Nat) : Pres (CwdIs c) (mkdirM p mode) :=
  Pres.forM _ _ fun _ => .bind (pres_add _ _) fun _ => .pure _

theorem pres_mkdirOp (c : FsPath) (env : Env) (p : Str) (mode : Option Nat) :
    Pres (CwdIs c) (mkdirOp env p mode) :=
  .bind (.absM _ _) fun _ => .bind (pres_mkdirM _ _ _) fun _ => .pure _

theorem pres_mkfileM (c : FsPath) (env : Env) (p : Str) : Pres (CwdIs c) (mkfileM env p) :=
  .bind (.absM _ _) fun _ => .bind (pres_add _ _) fun _ => .bind (.getFile _) fun _ =>
    Pres_ite (.fail _) (.pure _)

theorem pres_writeAllM (c : FsPath) (env : Env) (p : Str) (d : Bytes) : Pres (CwdIs c) (writeAllM env p d) :=
  .bind (.absM _ _) fun _ => .bind (pres_add _ _) fun _ => .bind (.getFile _) fun _ =>
    Pres_ite (.fail _) (.ignore (pres_syncM _ _ _))

/- The `do` blocks of the model continue after a `match` / `if` through a local function (join
   point); its preservation is shown once, before the branches that call it. -/

theorem pres_symlinkM (c : FsPath) (env : Env) (l t : Str) : Pres (CwdIs c) (symlinkM env l t) := by
  unfold Memfs.symlinkM
  refine .bind (.absM _ _) fun _ => .bind (.getEntry _) fun _ => Pres_ite (.fail _) ?_
  extract_lets -underBinder rest
  have hrest : ∀ x, Pres (CwdIs c) (rest x) := fun _ =>
    .bind (.absM _ _) fun _ => .bind (.dirOf _) fun _ => .bind (.getEntry _) fun _ =>
      .bind (pres_add _ _) fun _ => .pure _
  exact Pres_ite (.bind (.pure' _) hrest) (.bind (.dirOf _) fun _ => .bind (.pure' _) hrest)

theorem pres_removeM (c : FsPath) (env : Env) (p : Str) : Pres (CwdIs c) (removeM env p) := by
  unfold Memfs.removeM
  refine .bind (.absM _ _) fun a => .bind (.getEntry _) fun _ => ?_
  extract_lets -underBinder unlink
  have hunlink : ∀ x, Pres (CwdIs c) (unlink x) := fun _ => by
    refine .bind (.getEntry _) fun _ => Pres_ite (.pure _) <| .bind (.dirOf _) fun _ => .bind (.getEntry _) fun _ => ?_
    extract_lets -underBinder erase
    have herase : ∀ x, Pres (CwdIs c) (erase x) := fun _ => by
      refine .bind (.getEntry _) fun _ => ?_
      extract_lets -underBinder last
      have hlast : ∀ x, Pres (CwdIs c) (last x) := fun _ => .bind (pres_removeEntry _ _) fun _ => .pure _
      split
      · exact Pres_ite (.bind (pres_removeFile _ _) fun _ => hlast ()) (hlast ())
      · exact .bind (.pure' _) hlast
    split
    · exact .bind (.liftO _) fun _ => .bind (pres_setEntry _ _ _) herase
    · exact .bind (.pure' _) herase
  split
  · split
    · exact Pres_ite (.bind (.fail _) hunlink) (.bind (.pure' _) hunlink)
    · exact .bind (.pure' _) hunlink
  · exact .bind (.pure' _) hunlink

theorem pres_removeAllLoop (c : FsPath) : ∀ (f : Nat) (work : List FsPath), Pres (CwdIs c) (removeAllLoop f work) := by
  intro f
  induction f with
  | zero => intro work; unfold Memfs.removeAllLoop; exact Pres.hang
  | succ f ih =>
    intro work
    cases work with
    | nil => unfold Memfs.removeAllLoop; exact Pres.pure' _
    | cons p work =>
      unfold Memfs.removeAllLoop
      refine Pres.bind (Pres.getEntry _) fun oe => ?_
      split
      · exact ih _
      · split
        · exact ih _
        · refine .bind (.dirOf _) fun _ => .bind (.getEntry _) fun _ => ?_
          extract_lets -underBinder rest
          have hrest : ∀ x, Pres (CwdIs c) (rest x) := fun _ =>
            .bind (pres_removeFile _ _) fun _ => .bind (pres_removeEntry _ _) fun _ => ih _
          split
          · exact .bind (.liftO _) fun _ => .bind (pres_setEntry _ _ _) hrest
          · exact .bind (.pure' _) hrest

theorem pres_removeAllM (c : FsPath) (env : Env) (p : Str) : Pres (CwdIs c) (removeAllM env p) :=
  .bind (.absM _ _) fun _ => .bind .get fun _ => pres_removeAllLoop _ _ _

/-! ### vfs calls that resolve their path first -/

/-- `f q` begins by resolving `q` and never moves the current directory: the macro's spelling
    `f(&target)` does what the documented `f(path)` does, and the path denotes the same key after
    the call -/
structure PathOp (env : Env) (f : Str → Op) : Prop where
  spell : ∀ {s p a}, keyOf env s p = some a → Stable env s a → step env s (f (renderP a)) = step env s (f p)
  unres : ∀ {s p}, keyOf env s p = none → ∃ k, step env s (f p) = (.err k, s)
  cwd : ∀ s p, (step env s (f p)).2.cwd = s.cwd

theorem PathOp.of {f : Str → Op} {α} {v : α → Val} {g : FsPath → M α}
    (h : ∀ q s, step env s (f q) = mapVal v (absM env q >>= g) s)
    (hc : ∀ q c, Pres (CwdIs c) (absM env q >>= g)) : PathOp env f where
  spell hk hs := by
    rw [h, h]
    exact Lemmas.mapVal_congr_at _ (Lemmas.bind_congr_at _ (by rw [absM_of_key hk, absM_of_key hs]))
  unres hk := step_unres (h _ _) hk
  cwd s p := by
    rw [h, Lemmas.mapVal_snd]
    exact (hc p s.cwd).run s rfl

theorem pathOp_mkdirP : PathOp env .mkdirP := .of (fun _ _ => rfl) fun q c => pres_mkdirOp c env q none
theorem pathOp_mkdirM (mode : Nat) : PathOp env (.mkdirM · mode) :=
  .of (fun _ _ => rfl) fun q c => pres_mkdirOp c env q (some mode)
theorem pathOp_mkfile : PathOp env .mkfile := .of (fun _ _ => rfl) fun q c => pres_mkfileM c env q
theorem pathOp_writeAll (d : Bytes) : PathOp env (.writeAll · d) :=
  .of (fun _ _ => rfl) fun q c => pres_writeAllM c env q d
theorem pathOp_symlink (t : Str) : PathOp env (.symlink · t) :=
  .of (fun _ _ => rfl) fun q c => pres_symlinkM c env q t
theorem pathOp_remove : PathOp env .remove := .of (fun _ _ => rfl) fun q c => pres_removeM c env q
theorem pathOp_removeAll : PathOp env .removeAll := .of (fun _ _ => rfl) fun q c => pres_removeAllM c env q

theorem PathOp.run {f : Str → Op} (hf : PathOp env f) {p : Str} {a : FsPath} (hk : keyOf env s p = some a)
    (hs : Stable env s a) {o : Outcome Val} {s' : State} (hr : step env s (f p) = (o, s')) :
    (∀ k, call env s (f (renderP a)) k = contOf k o s') ∧ s'.cwd = s.cwd ∧ keyOf env s' p = some a ∧
      Stable env s' a := by
  have hc : s'.cwd = s.cwd := by have := hf.cwd s p; rwa [hr] at this
  exact ⟨call_of ((hf.spell hk hs).trans hr), hc, (keyOf_congr hc p).trans hk, hs.congr hc⟩

/-- the macro's call `f(&target)` followed by its checks `k`: if `k` panics after a failed call and,
    after a successful one, passes exactly when `post` holds of the state it is given, then the whole
    passes exactly when the documented call `f(path)` succeeds and `post` holds afterwards -/
theorem PathOp.call {f : Str → Op} (hf : PathOp env f) {p : Str} {a : FsPath} (hk : keyOf env s p = some a)
    (hs : Stable env s a) {k : Option Val → State → MR} {post : State → Bool}
    (hfail : ∀ s', (k none s').2 = s' ∧ (k none s').1 ≠ .pass)
    (hok : ∀ v s', step env s (f p) = (.ok v, s') → s'.cwd = s.cwd → keyOf env s' p = some a →
      Stable env s' a → (k (some v) s').2 = s' ∧ ((k (some v) s').1 = .pass ↔ post s' = true)) :
    (Macros.call env s (f (renderP a)) k).2 = (step env s (f p)).2 ∧
    ((Macros.call env s (f (renderP a)) k).1 = .pass ↔
      ((step env s (f p)).1.isOk && post (step env s (f p)).2) = true) := by
  cases hr : step env s (f p) with
  | mk o s' =>
    obtain ⟨hcall, hc, hk', hs'⟩ := hf.run hk hs hr
    rw [hcall]
    cases o with
    | ok v => simpa [contOf, Outcome.isOk] using hok v s' hr hc hk' hs'
    | err e => simpa [contOf, Outcome.isOk] using hfail s'
    | panic => simp [contOf, Outcome.isOk]
    | hang => simp [contOf, Outcome.isOk]

theorem PathOp.unres_spec {f : Str → Op} (hf : PathOp env f) {m : MacroCall} {p : Str}
    (hop : opOf m = some (f p)) (hno : documentedNoop env s m = false) (hk : keyOf env s p = none) :
    macroSpec env s m = (false, s) := by
  obtain ⟨kk, hkk⟩ := hf.unres hk
  rw [macroSpec_of_not_noop hno, hop]
  simp only [hkk, Outcome.isOk, Bool.false_and]

/-! ### what a successful call returns and leaves behind -/

theorem mapVal_ok' {α} {f : α → Val} {m : M α} {s s' : State} {v : Val}
    (h : mapVal f m s = (.ok v, s')) : ∃ a, m s = (.ok a, s') ∧ v = f a := by
  unfold mapVal at h
  split at h
  · rename_i a s1 hm
    simp only [Prod.mk.injEq, Outcome.ok.injEq] at h
    exact ⟨a, by rw [hm, h.2], h.1.symm⟩
  all_goals simp at h

theorem absM_key_ok {p : Str} {a k : FsPath} {s1 : State} (hk : keyOf env s p = some a)
    (h : absM env p s = (.ok k, s1)) : k = a ∧ s1 = s := by
  rw [absM_of_key hk] at h
  simp only [Prod.mk.injEq, Outcome.ok.injEq] at h
  exact ⟨h.1.symm, h.2.symm⟩

theorem mkdirOp_ret {p : Str} {a r : FsPath} {mode : Option Nat} {s' : State} (hk : keyOf env s p = some a)
    (h : mkdirOp env p mode s = (.ok r, s')) : r = a := by
  obtain ⟨k, s1, h1, h2⟩ := bind_ok h
  obtain ⟨rfl, rfl⟩ := absM_key_ok hk h1
  obtain ⟨_, s2, _, h3⟩ := bind_ok h2
  exact (pure_ok h3).1.symm

/-- a successful `_add` returns the path of the entry it was given; if that (non-root) key was free
    it now holds exactly that entry -/
theorem add_ok {e : Entry} {r : FsPath} {s s1 : State} (h : add e s = (.ok r, s1)) :
    r = e.path ∧ (alLookup e.path s.entries = none → e.path ≠ [] → alLookup e.path s1.entries = some e) := by
  by_cases h0 : e.path = []
  · rw [add_root s h0] at h; cases h; exact ⟨h0.symm, fun _ hne => absurd h0 hne⟩
  cases hd : alLookup e.path.dropLast s.entries with
  | none => rw [add_noParent h0 hd] at h; cases h
  | some d =>
    by_cases hc : (!d.dir || d.link) = true
    · rw [add_badParent h0 hd hc] at h; cases h
    have hc' : (!d.dir || d.link) = false := by simpa using hc
    cases hx : alLookup e.path s.entries with
    | some x =>
      rw [add_exists h0 hd hc' hx] at h
      refine ⟨?_, nofun⟩
      repeat' split at h
      all_goals cases h
      rfl
    | none =>
      have hdir : d.dir = true := by cases hdd : d.dir <;> simp [hdd] at hc' ⊢
      have hlink : d.link = false := by cases hll : d.link <;> simp [hll] at hc' ⊢
      rw [add_fresh h0 hd hdir hlink hx] at h
      split at h
      · cases h
        exact ⟨rfl, fun _ _ => by
          simp only [Lemmas.alLookup_alInsert, Lemmas.dropLast_ne_self h0, if_false, if_true]⟩
      · cases h

theorem step_mkfile_ret {p : Str} {a : FsPath} (hk : keyOf env s p = some a) {v : Val} {s' : State}
    (h : step env s (.mkfile p) = (.ok v, s')) : v = .path a := by
  obtain ⟨r, hm, rfl⟩ := mapVal_ok' h
  unfold mkfileM at hm
  obtain ⟨k, s1, h1, h2⟩ := bind_ok hm
  obtain ⟨rfl, rfl⟩ := absM_key_ok hk h1
  obtain ⟨r1, s2, h3, h4⟩ := bind_ok h2
  obtain ⟨ob, s3, h5, h6⟩ := bind_ok h4
  rcases ite_ok h6 with ⟨_, h7⟩ | ⟨_, h7⟩
  · exact (fail_ok h7).elim
  · rw [← (pure_ok h7).1, (add_ok h3).1]; rfl

theorem dirOf_ok {p d : FsPath} {s s1 : State} (h : dirOf p s = (.ok d, s1)) : p ≠ [] ∧ d = p.dropLast ∧ s1 = s := by
  unfold dirOf at h
  by_cases hp : p = []
  · rw [if_pos hp] at h; exact (fail_ok h).elim
  · rw [if_neg hp] at h
    simp only [M.pure, Prod.mk.injEq, Outcome.ok.injEq] at h
    exact ⟨hp, h.1.symm, h.2.symm⟩

theorem symlinkM_ok {l t : Str} {a r : FsPath} {s s' : State} (hk : keyOf env s l = some a)
    (h : symlinkM env l t s = (.ok r, s')) :
    r = a ∧ ∃ ta e, keyOf env s (linkTargetStr a t) = some ta ∧ alLookup a s'.entries = some e ∧
      e.link = true ∧ e.alt = some ta := by
  unfold symlinkM at h
  obtain ⟨k, s1, h1, h2⟩ := bind_ok h
  obtain ⟨rfl, rfl⟩ := absM_key_ok hk h1
  obtain ⟨oe, s2, h3, h4⟩ := bind_ok h2
  obtain ⟨rfl, rfl⟩ := getEntry_ok h3
  rcases ite_ok h4 with ⟨_, h5⟩ | ⟨hfree, h5⟩
  · exact (fail_ok h5).elim
  have hfree' : alLookup k s1.entries = none := by
    cases hx : alLookup k s1.entries with
    | none => rfl
    | some x => simp [hx] at hfree
  extract_lets -underBinder rest at h5
  -- both branches hand `linkTargetStr k t` to the rest of the body
  have key : rest (linkTargetStr k t) s1 = (.ok r, s') →
      r = k ∧ ∃ ta e, keyOf env s1 (linkTargetStr k t) = some ta ∧ alLookup k s'.entries = some e ∧
        e.link = true ∧ e.alt = some ta := by
    intro h7
    obtain ⟨ta, s4, h8, h9⟩ := bind_ok h7
    have hs4 := absM_ok h8
    subst hs4
    have hkt : keyOf env s1 (linkTargetStr k t) = some ta := by
      cases hq : keyOf env s1 (linkTargetStr k t) with
      | some b => rw [absM_of_key hq] at h8; simp only [Prod.mk.injEq, Outcome.ok.injEq] at h8; rw [h8.1]
      | none => obtain ⟨kk, hkk⟩ := absM_of_none hq; rw [hkk] at h8; simp at h8
    obtain ⟨ldir, s5, h10, h11⟩ := bind_ok h9
    obtain ⟨hne, rfl, rfl⟩ := dirOf_ok h10
    obtain ⟨ot, s6, h12, h13⟩ := bind_ok h11
    obtain ⟨rfl, rfl⟩ := getEntry_ok h12
    obtain ⟨r1, s7, h14, h15⟩ := bind_ok h13
    obtain ⟨rfl, rfl⟩ := pure_ok h15
    exact ⟨rfl, ta, _, hkt, (add_ok h14).2 hfree' hne, rfl, rfl⟩
  rcases ite_ok h5 with ⟨hc, h6⟩ | ⟨hc, h6⟩
  · obtain ⟨tstr, s3, h7, h8⟩ := bind_ok h6
    simp only [M.pure, Prod.mk.injEq, Outcome.ok.injEq] at h7
    obtain ⟨rfl, rfl⟩ := h7
    rw [show t = linkTargetStr k t by unfold linkTargetStr; rw [if_pos hc]] at h8
    exact key h8
  · obtain ⟨d, s3, h7, h8⟩ := bind_ok h6
    obtain ⟨_, rfl, rfl⟩ := dirOf_ok h7
    obtain ⟨tstr, s4, h9, h10⟩ := bind_ok h8
    simp only [M.pure, Prod.mk.injEq, Outcome.ok.injEq] at h9
    obtain ⟨rfl, rfl⟩ := h9
    rw [show mash (renderP k.dropLast) t = linkTargetStr k t by unfold linkTargetStr; rw [if_neg hc]] at h10
    exact key h10

/-- after a successful `write_all`, an entry under the key has exactly the written bytes -/
theorem step_writeAll_content {p : Str} {a : FsPath} {d : Bytes} (hk : keyOf env s p = some a) {v : Val}
    {s' : State} (h : step env s (.writeAll p d) = (.ok v, s')) {e : Entry}
    (he : alLookup a s'.entries = some e) : alLookup a s'.files = some d := by
  obtain ⟨r, hm, -⟩ := mapVal_ok' h
  unfold writeAllM at hm
  obtain ⟨k, s1, h1, h2⟩ := bind_ok hm
  obtain ⟨rfl, rfl⟩ := absM_key_ok hk h1
  obtain ⟨r1, s2, h3, h4⟩ := bind_ok h2
  obtain ⟨ob, s3, h5, h6⟩ := bind_ok h4
  obtain ⟨rfl, rfl⟩ := getFile_ok h5
  rcases ite_ok h6 with ⟨_, h7⟩ | ⟨hsome, h7⟩
  · exact (fail_ok h7).elim
  · rw [syncM_eq] at h7
    cases he2 : alLookup k s2.entries with
    | none =>
      rw [he2] at h7
      simp only [Prod.mk.injEq, true_and] at h7
      subst h7
      rw [he2] at he; cases he
    | some e2 =>
      cases hf2 : alLookup k s2.files with
      | none => simp [hf2] at hsome
      | some b =>
        rw [he2, hf2] at h7
        simp only [Prod.mk.injEq, true_and] at h7
        subst h7
        exact Lemmas.alLookup_alInsert_self _ _ _

/-! ### calls onto a key that already has an entry -/

/-- `_add` of an entry whose key is taken changes nothing -/
theorem add_existing_state {e x : Entry} {s : State} (h : alLookup e.path s.entries = some x) :
    (add e s).2 = s := by
  rcases Lemmas.InvA.add_state_cases e s with h0 | ⟨d, b, d', _, hn, _⟩
  · exact h0
  · rw [h] at hn; cases hn

/-- `write_all` onto a key that has an entry never touches the entry map -/
theorem step_writeAll_entries {p : Str} {a : FsPath} {d : Bytes} {x : Entry} (hk : keyOf env s p = some a)
    (hx : alLookup a s.entries = some x) : (step env s (.writeAll p d)).2.entries = s.entries := by
  simp only [step, writeAllM]
  rw [Lemmas.mapVal_snd]
  simp only [M_bind_apply, absM_of_key hk]
  have hadd := add_existing_state (e := mkFileEntry a) (s := s) hx
  cases h1 : add (mkFileEntry a) s with
  | mk o s1 =>
    rw [h1] at hadd
    simp only at hadd
    subst hadd
    cases o with
    | ok r =>
      simp only [getFile]
      split
      · rfl
      · exact (Lemmas.InvA.syncM_entries a d s1).1
    | err k => rfl
    | panic => rfl
    | hang => rfl

theorem step_mkfile_existing_state {p : Str} {a : FsPath} {x : Entry} (hk : keyOf env s p = some a)
    (hx : alLookup a s.entries = some x) : (step env s (.mkfile p)).2 = s := by
  simp only [step, mkfileM]
  rw [Lemmas.mapVal_snd]
  simp only [M_bind_apply, absM_of_key hk]
  have hadd := add_existing_state (e := mkFileEntry a) (s := s) hx
  cases h1 : add (mkFileEntry a) s with
  | mk o s1 =>
    rw [h1] at hadd
    simp only at hadd
    subst hadd
    cases o with
    | ok r => simp only [getFile]; split <;> rfl
    | err k => rfl
    | panic => rfl
    | hang => rfl

theorem step_symlink_existing {l t : Str} {a : FsPath} {x : Entry} (hk : keyOf env s l = some a)
    (hx : alLookup a s.entries = some x) : step env s (.symlink l t) = (.err .existsAlready, s) := by
  simp only [step, symlinkM]
  msimp [absM_of_key hk, hx, Option.isSome]

theorem step_mode_key {q : Str} {a : FsPath} (hk : keyOf env s q = some a) :
    step env s (.mode q) =
      ((match alLookup a s.entries with
        | some e => Outcome.ok (Val.nat e.mode)
        | none => .err .doesNotExist), s) := by
  simp only [step, entryQuery]
  msimp [absM_of_key hk]
  cases alLookup a s.entries <;> rfl

/-! ### mkdir_p, mkdir_m, remove_all -/

theorem act_mkdirP {p : Str} (hst : StableArg env s p) :
    (runMacro env s (.mkdirP p)).2 = (macroSpec env s (.mkdirP p)).2 ∧
    ((runMacro env s (.mkdirP p)).1 = .pass ↔ (macroSpec env s (.mkdirP p)).1 = true) := by
  cases hk : keyOf env s p with
  | none => rw [runMacro, absK_none hk, pathOp_mkdirP.unres_spec rfl rfl hk]; simp [pm]
  | some a =>
    rw [macroSpec_of_not_noop rfl]
    simp only [runMacro, absK_eq, hk, opOf]
    refine pathOp_mkdirP.call hk (hst.of_key hk) (post := fun s' => postSpec env s' (.mkdirP p))
      (fun _ => ⟨rfl, nofun⟩) fun v s' hr _ hk' hs' => ?_
    obtain ⟨r, hm, rfl⟩ := mapVal_ok' hr
    obtain rfl := mkdirOp_ret hk hm
    simp only [ne_eq, not_true_eq_false, if_false, boolK_isDir, eTest_key hs', postSpec, pIsDir_key hk']
    cases eAt s' r fun e => e.dir && !e.link <;> simp [pm]

theorem act_mkdirM {p : Str} {mode : Nat} (hst : StableArg env s p) :
    (runMacro env s (.mkdirM p mode)).2 = (macroSpec env s (.mkdirM p mode)).2 ∧
    ((runMacro env s (.mkdirM p mode)).1 = .pass ↔ (macroSpec env s (.mkdirM p mode)).1 = true) := by
  cases hk : keyOf env s p with
  | none => rw [runMacro, absK_none hk, (pathOp_mkdirM mode).unres_spec rfl rfl hk]; simp [pm]
  | some a =>
    rw [macroSpec_of_not_noop rfl]
    simp only [runMacro, absK_eq, hk, opOf]
    refine (pathOp_mkdirM mode).call hk (hst.of_key hk) (post := fun s' => postSpec env s' (.mkdirM p mode))
      (fun _ => ⟨rfl, nofun⟩) fun v s' hr _ hk' hs' => ?_
    obtain ⟨r, hm, rfl⟩ := mapVal_ok' hr
    obtain rfl := mkdirOp_ret hk hm
    simp only [ne_eq, not_true_eq_false, if_false, boolK_isDir, postSpec, pIsDir_key hk',
      call_of (step_mode_key hs'), step_mode_key hk']
    unfold eAt
    cases he : alLookup r s'.entries with
    | none => simp [contOf]
    | some e =>
      by_cases hm : e.mode = mode
      · cases hd : e.dir <;> cases hl : e.link <;> simp [contOf, pm, hm, hd, hl, eTest_key hs', eAt, he]
      · simp [contOf, pm, hm]

theorem act_removeAll {p : Str} (hst : StableArg env s p) :
    (runMacro env s (.removeAll p)).2 = (macroSpec env s (.removeAll p)).2 ∧
    ((runMacro env s (.removeAll p)).1 = .pass ↔ (macroSpec env s (.removeAll p)).1 = true) := by
  cases hk : keyOf env s p with
  | none => rw [runMacro, absK_none hk, pathOp_removeAll.unres_spec rfl rfl hk]; simp [pm]
  | some a =>
    rw [macroSpec_of_not_noop rfl]
    simp only [runMacro, absK_eq, hk, opOf]
    refine pathOp_removeAll.call hk (hst.of_key hk) (post := fun s' => postSpec env s' (.removeAll p))
      (fun _ => ⟨rfl, nofun⟩) fun v s' hr _ hk' hs' => ?_
    simp only [boolK_exists, eTest_key hs', postSpec, pExists_key hk', resolvable_key hk', Bool.true_and]
    cases eAt s' a fun _ => true <;> simp [pm]

/-! ### remove -/

/-- `assert_vfs_remove!`: on a path that exists `remove` is performed; on one that does not, nothing
    is called and the macro passes -/
theorem act_remove {p : Str} (hst : StableArg env s p) :
    (runMacro env s (.remove p)).2 = (macroSpec env s (.remove p)).2 ∧
    ((runMacro env s (.remove p)).1 = .pass ↔ (macroSpec env s (.remove p)).1 = true) := by
  cases hk : keyOf env s p with
  | none =>
    have hn : documentedNoop env s (.remove p) = false := by simp [documentedNoop, resolvable, hk]
    rw [runMacro, absK_none hk, pathOp_remove.unres_spec rfl hn hk]; simp [pm]
  | some a =>
    have hs := hst.of_key hk
    simp only [runMacro, absK_eq, hk, boolK_exists, boolK_isDir, eTest_key hs]
    cases hex : eAt s a fun _ => true with
    | false =>
      have hn : documentedNoop env s (.remove p) = true := by
        simp [documentedNoop, resolvable_key hk, pExists_key hk, hex]
      rw [macroSpec_of_noop hn]
      simp
    | true =>
      have hn : documentedNoop env s (.remove p) = false := by
        simp [documentedNoop, pExists_key hk, hex]
      rw [macroSpec_of_not_noop hn]
      simp only [opOf, if_true]
      cases eAt s a fun e => e.dir && !e.link
      all_goals
        simp only [Bool.not_false, Bool.not_true, Bool.false_eq_true, if_true, if_false]
        refine pathOp_remove.call hk hs (post := fun s' => postSpec env s' (.remove p))
          (fun _ => ⟨rfl, nofun⟩) fun v s' hr _ hk' hs' => ?_
        simp only [eTest_key hs', postSpec, pExists_key hk', resolvable_key hk', Bool.true_and]
        cases eAt s' a fun _ => true <;> simp [pm]

/-! ### mkfile -/

/-- `assert_vfs_mkfile!`: on a path that does not exist `mkfile` is performed; an existing regular
    file is accepted untouched ("If the file exists no change is made") -/
theorem act_mkfile {p : Str} (hok : StateOk s) (hst : StableArg env s p)
    (hpost : StateOk (macroSpec env s (.mkfile p)).2) :
    (runMacro env s (.mkfile p)).2 = (macroSpec env s (.mkfile p)).2 ∧
    ((runMacro env s (.mkfile p)).1 = .pass ↔ (macroSpec env s (.mkfile p)).1 = true) := by
  cases hk : keyOf env s p with
  | none =>
    have hn : documentedNoop env s (.mkfile p) = false := by simp [documentedNoop, pIsFile, nodeOf_none hk]
    rw [runMacro, absK_none hk, pathOp_mkfile.unres_spec rfl hn hk]; simp [pm]
  | some a =>
    have hs := hst.of_key hk
    have hnoop : documentedNoop env s (.mkfile p) = eAt s a fun e => e.file && !e.link := pIsFile_key hok hk
    simp only [runMacro, absK_eq, hk, boolK_exists, boolK_isFile, eTest_key hs]
    cases hex : eAt s a fun _ => true with
    | true =>
      obtain ⟨x, hx, _⟩ := eAt_true hex
      cases hf : eAt s a fun e => e.file && !e.link with
      | true => rw [macroSpec_of_noop (hnoop.trans hf)]; simp
      | false =>
        rw [macroSpec_of_not_noop (hnoop.trans hf)]
        simp [opOf, step_mkfile_existing_state hk hx, postSpec, pIsFile_key hok hk, hf, pm]
    | false =>
      have hf : eAt s a (fun e => e.file && !e.link) = false := by
        unfold eAt at hex ⊢; cases hx : alLookup a s.entries <;> simp_all
      rw [macroSpec_of_not_noop (hnoop.trans hf)] at hpost ⊢
      simp only [opOf, Bool.false_eq_true, if_false] at hpost ⊢
      refine pathOp_mkfile.call hk hs (post := fun s' => postSpec env s' (.mkfile p))
        (fun _ => ⟨rfl, nofun⟩) fun v s' hr _ hk' hs' => ?_
      rw [hr] at hpost
      obtain rfl := step_mkfile_ret hk hr
      simp only [ne_eq, not_true_eq_false, if_false, eTest_key hs', postSpec, pIsFile_key hpost hk']
      cases eAt s' a fun e => e.file && !e.link <;> simp [pm]

/-! ### write_all -/

/-- `assert_vfs_write_all!`: a path that exists as something other than a regular file makes the
    macro panic before anything is written; in every other case `write_all` is performed -/
theorem act_writeAll {p : Str} {d : Bytes} (hst : StableArg env s p)
    (hok' : StateOk (macroSpec env s (.writeAll p d)).2) :
    ((runMacro env s (.writeAll p d)).1 = .pass ↔ (macroSpec env s (.writeAll p d)).1 = true) ∧
    ((runMacro env s (.writeAll p d)).1 = .pass →
      (runMacro env s (.writeAll p d)).2 = (macroSpec env s (.writeAll p d)).2) := by
  cases hk : keyOf env s p with
  | none => rw [runMacro, absK_none hk, (pathOp_writeAll d).unres_spec rfl rfl hk]; simp [pm]
  | some a =>
    rw [macroSpec_of_not_noop rfl] at hok' ⊢
    simp only [opOf] at hok' ⊢
    have hs := hst.of_key hk
    simp -zeta only [runMacro, absK_eq, hk]
    extract_lets write
    have hwrite := (pathOp_writeAll d).call hk hs (post := fun s' => postSpec env s' (.writeAll p d))
      (k := fun r s => match r with
        | some _ => boolK env s (.isFile (renderP a)) fun isf s =>
            if !isf then (pm "assert_vfs_write_all!" "is not a file", s) else (.pass, s)
        | none => (pm "assert_vfs_write_all!" "failed while writing file", s))
      (fun _ => ⟨rfl, nofun⟩) fun v s' hr _ hk' hs' => by
        rw [hr] at hok'
        simp only [boolK_isFile, eTest_key hs', postSpec, pHasBytes_key hok' hk']
        cases hreg : eAt s' a fun e => e.file && !e.link with
        | false => simp [pm]
        | true =>
          obtain ⟨e, he, _⟩ := eAt_true hreg
          simp [step_writeAll_content hk hr he]
    change (write s).2 = _ ∧ ((write s).1 = _ ↔ _) at hwrite
    clear_value write
    simp only [boolK_exists, boolK_isFile, eTest_key hs]
    cases hex : eAt s a fun _ => true with
    | false => exact ⟨hwrite.2, fun _ => hwrite.1⟩
    | true =>
      cases hisf : eAt s a fun e => e.file && !e.link with
      | true => exact ⟨hwrite.2, fun _ => hwrite.1⟩
      | false =>
        -- exists, not a regular file: the macro panics; the documented assertion is false as well
        refine ⟨⟨(fun h => by cases h), fun h => ?_⟩, (fun h => by cases h)⟩
        obtain ⟨x, hx, _⟩ := eAt_true hex
        have hent := step_writeAll_entries (d := d) hk hx
        have hk' : keyOf env (step env s (.writeAll p d)).2 p = some a :=
          (keyOf_congr ((pathOp_writeAll d).cwd s p) p).trans hk
        rw [Bool.and_eq_true, postSpec, pHasBytes_key hok' hk'] at h
        have h1 := h.2.1
        unfold eAt at h1 hisf
        rw [hent, hisf] at h1
        cases h1

/-! ### symlink -/

/-- `assert_vfs_symlink!`: on a path that does not exist `symlink` is performed; on one that exists
    nothing is created or retargeted and any link is accepted ("If the symlink exists no change is
    made") -/
theorem act_symlink {l t : Str} (hst : StableArg env s l) :
    (runMacro env s (.symlink l t)).2 = (macroSpec env s (.symlink l t)).2 ∧
    ((runMacro env s (.symlink l t)).1 = .pass ↔ (macroSpec env s (.symlink l t)).1 = true) := by
  cases hk : keyOf env s l with
  | none =>
    have hn : documentedNoop env s (.symlink l t) = false := by simp [documentedNoop, pIsLink, nodeOf_none hk]
    rw [runMacro, absK_none hk, (pathOp_symlink t).unres_spec rfl hn hk]; simp [pm]
  | some a =>
    have hs := hst.of_key hk
    have hnoop : documentedNoop env s (.symlink l t) = eAt s a (·.link) := pIsLink_key hk
    simp only [runMacro, absK_eq, hk, boolK_exists, boolK_isSymlink, eTest_key hs]
    cases hex : eAt s a fun _ => true with
    | true =>
      obtain ⟨x, hx, _⟩ := eAt_true hex
      cases hf : eAt s a (·.link) with
      | true => rw [macroSpec_of_noop (hnoop.trans hf)]; simp
      | false =>
        rw [macroSpec_of_not_noop (hnoop.trans hf)]
        simp [opOf, step_symlink_existing hk hx, Outcome.isOk, pm]
    | false =>
      have hf : eAt s a (·.link) = false := by
        unfold eAt at hex ⊢; cases hx : alLookup a s.entries <;> simp_all
      rw [macroSpec_of_not_noop (hnoop.trans hf)]
      simp only [opOf, Bool.false_eq_true, if_false]
      refine (pathOp_symlink t).call hk hs (post := fun s' => postSpec env s' (.symlink l t))
        (fun _ => ⟨rfl, nofun⟩) fun v s' hr hc hk' hs' => ?_
      obtain ⟨r, hm, rfl⟩ := mapVal_ok' hr
      obtain ⟨rfl, ta, e, hkt, he, hl, halt⟩ := symlinkM_ok hk hm
      have hkt' : keyOf env s' (linkTargetStr r t) = some ta := (keyOf_congr hc _).trans hkt
      simp [eTest_key hs', postSpec, hk', hkt', pLinksTo_key hk', eAt, he, hl, halt]

/-! ### the acting macros other than `copyfile`, together -/

/-- the post-state keeps "exactly one of dir/file, regular files have bytes, links have targets"
    (needed to read `is_file` off the reference view; part of the C03 / C01 invariants) -/
def PostOk (env : Env) (s : State) : MacroCall → Prop
  | .mkfile p => StateOk (macroSpec env s (.mkfile p)).2
  | .writeAll p d => StateOk (macroSpec env s (.writeAll p d)).2
  | _ => True

instance (env : Env) (s : State) (m : MacroCall) : Decidable (PostOk env s m) := by
  cases m <;> unfold PostOk <;> infer_instance

/-- the acting macros other than `copyfile` -/
def actingSimple : MacroCall → Bool
  | .mkdirP _ | .mkdirM _ _ | .mkfile _ | .writeAll _ _ | .symlink _ _ | .remove _ | .removeAll _ => true
  | _ => false

/-- where the state agrees even when the macro panics: every case except `write_all` onto an
    existing non-file (which panics before writing) -/
def stateAlways : MacroCall → Bool
  | .mkdirP _ | .mkdirM _ _ | .mkfile _ | .symlink _ _ | .remove _ | .removeAll _ => true
  | _ => false

theorem acting_state (m : MacroCall) (hm : stateAlways m = true) (hok : StateOk s)
    (hst : ArgsStable env s m) (hpost : PostOk env s m) :
    (runMacro env s m).2 = (macroSpec env s m).2 ∧
    ((runMacro env s m).1 = .pass ↔ (macroSpec env s m).1 = true) := by
  cases m <;> simp only [stateAlways, Bool.false_eq_true] at hm
  · exact act_mkdirP hst
  · exact act_mkdirM hst
  · exact act_mkfile hok hst hpost
  · exact act_symlink hst
  · exact act_remove hst
  · exact act_removeAll hst

theorem acting_agree (m : MacroCall) (hm : actingSimple m = true) (hok : StateOk s)
    (hst : ArgsStable env s m) (hpost : PostOk env s m) :
    ((runMacro env s m).1 = .pass ↔ (macroSpec env s m).1 = true) ∧
    ((runMacro env s m).1 = .pass → (runMacro env s m).2 = (macroSpec env s m).2) := by
  cases m <;> simp only [actingSimple, Bool.false_eq_true] at hm
  case writeAll => exact act_writeAll hst hpost
  all_goals exact ⟨(acting_state _ rfl hok hst hpost).2, fun _ => (acting_state _ rfl hok hst hpost).1⟩

end Rivia.MacroLemmas
