/-
  Rivia.Lemmas.RefineCList — C01, group C (part 2): the six listing helpers
  `paths dirs files all_paths all_dirs all_files` refine the reference listing.

  Both sides return a strictly increasing list (component-wise lexicographic order `pathLt`):
  Memfs by its sorted pre-order walk over the snapshot (`Walk.listing_spec`, with the snapshot
  hypotheses discharged by `Snap.snapshot_correct_core`), the reference by `sortP` of the selected keys.
  Strictly increasing lists with the same members are equal (`StdfsL.sorted_unique`), so what remains is
  the membership comparison: Memfs selects by the ENTRY flags `dir` / `file`, the reference by the NODE
  kind; since the repair of `listing_includes_links` the collecting loop of `dirs` / `files` / `all_dirs` /
  `all_files` skips link entries, so "flag ∧ ¬link" on the Memfs side is exactly the node kind on the
  reference side and the comparison needs no hypothesis about links.  The walk of `all_*` stops
  at depth `u64::MAX`; the reference does not: `DepthOk` for these three.
-/
import Rivia.Lemmas.Snapshot
import Rivia.Lemmas.WalkCF
import Rivia.Lemmas.StdfsList
import Rivia.Lemmas.SimStep
import Rivia.Lemmas.RefineA

namespace Rivia.Lemmas.RefineC
open Rivia Rivia.Memfs Rivia.File Rivia.Spec Rivia.Spec.TreeFs Rivia.Lemmas.RefineA

/-- the depth argument the six helpers pass -/
def mdOf (all : Bool) : Option Nat := if all then none else some 1

theorem depthCap_one : depthCap (mdOf false) = 1 := by decide
theorem depthCap_all : depthCap (mdOf true) = 2 ^ 64 - 1 := rfl

/-- the keys the reference selects -/
def specKeys (t : T) (a : FsPath) (all : Bool) (want : Node → Bool) : List FsPath :=
  (t.nodes.filter (fun kv => isProperPrefix a kv.1 && (all || kv.1.length = a.length + 1) && want kv.2)).map (·.1)

theorem listing_ok_eq (t : T) (a : FsPath) (all : Bool) (want : Node → Bool) (h : isDir t a = true) :
    TreeFs.listing t a all want = .ok (sortP (specKeys t a all want)) := by
  unfold TreeFs.listing specKeys
  rw [h]; rfl

theorem listing_err_eq (t : T) (a : FsPath) (all : Bool) (want : Node → Bool) (h : isDir t a = false) :
    TreeFs.listing t a all want = .err (some .isNotDir) := by
  unfold TreeFs.listing
  rw [h]; rfl

theorem specKeys_nodup {t : T} (h : Sim.NodupK t) (a : FsPath) (all : Bool) (want : Node → Bool) :
    (specKeys t a all want).Nodup :=
  List.Nodup.sublist (List.Sublist.map _ List.filter_sublist) h

theorem mem_specKeys {s : State} (hn : (s.entries.map (·.1)).Nodup) (a : FsPath) (all : Bool) (want : Node → Bool)
    (k : FsPath) :
    k ∈ specKeys (absS s) a all want ↔ ∃ e, alLookup k s.entries = some e ∧ isProperPrefix a k = true ∧
      (all = true ∨ k.length = a.length + 1) ∧ want (absNode s k e) = true := by
  unfold specKeys absS
  simp only [List.mem_map, List.mem_filter, Bool.and_eq_true, Bool.or_eq_true, decide_eq_true_eq]
  constructor
  · rintro ⟨kn, ⟨⟨kv, hkv, rfl⟩, ⟨h1, h2⟩, h3⟩, rfl⟩
    obtain ⟨k, e⟩ := kv
    exact ⟨e, alLookup_of_mem hn hkv, h1, h2, h3⟩
  · rintro ⟨e, he, h1, h2, h3⟩
    exact ⟨(k, absNode s k e), ⟨⟨(k, e), alLookup_mem he, rfl⟩, ⟨h1, h2⟩, h3⟩, rfl⟩

theorem listing_notDir {env : Env} {path : Str} {md : Option Nat} {dirs files : Bool} {s : State} {a : FsPath}
    (habs : absM env path s = (.ok a, s)) (hdir : isDirP s a = false) :
    Memfs.listing env path md dirs files s = (.err .isNotDir, s) := by
  unfold Memfs.listing
  simp only [bind, M.bind, M.get, habs, hdir, Bool.not_false, if_true]
  rfl

theorem listing_absErr {env : Env} {path : Str} {md : Option Nat} {dirs files : Bool} {s : State}
    (habs : ∀ a, absM env path s ≠ (.ok a, s)) (hst : (absM env path s).2 = s) :
    Memfs.listing env path md dirs files s = (.err .isNotDir, s) := by
  unfold Memfs.listing
  simp only [bind, M.bind, M.get]
  rcases h : absM env path s with ⟨o, s'⟩
  rw [h] at hst
  simp only at hst
  subst hst
  cases o with
  | ok a => exact absurd h (habs a)
  | err k => rfl
  | panic => rfl
  | hang => rfl

theorem isDirP_eq_isDir (s : State) (a : FsPath) : isDirP s a = isDir (absS s) a := by
  rw [RefineB.isDir_absS]; rfl

/-- the listing step: `want` (reference, on nodes) and the flags `dirs` / `files` (Memfs, on entries)
    select the same keys among those strictly below the resolved directory at the selected depth -/
theorem sim_listing (env : Env) (s : State) (p : Str) (all dirs files : Bool) (want : Node → Bool)
    (hI : Spec.Inv s) (hSo : Snap.Sorted s.entries)
    (hD : all = true → RefineB.DepthOk s)
    (hW : ∀ a, resolve env (absS s) p = .ok a → ∀ k e, alLookup k s.entries = some e →
      isProperPrefix a k = true → (all = true ∨ k.length = a.length + 1) →
      (want (absNode s k e) = true ↔ ((files = true → e.file = true ∧ e.link = false) ∧
        (dirs = true → files = false → e.dir = true ∧ e.link = false)))) :
    Sim (mapVal .paths (Memfs.listing env p (mdOf all) dirs files) s) (listQ env (absS s) p all want) := by
  unfold listQ
  have habs := absM_eq env p s
  cases hr : resolve env (absS s) p with
  | err e =>
    rw [hr] at habs
    have : Memfs.listing env p (mdOf all) dirs files s = (.err .isNotDir, s) :=
      listing_absErr (fun a h => by rw [habs] at h; cases h) (by rw [habs])
    simp only [mapVal, this]
    exact sim_same (by simp)
  | panic => exact sim_unspec _ _
  | hang => exact sim_unspec _ _
  | ok a =>
    rw [hr] at habs
    simp only
    cases hdir : isDirP s a with
    | false =>
      have hd2 : isDir (absS s) a = false := by rw [← isDirP_eq_isDir]; exact hdir
      simp only [mapVal, listing_notDir habs hdir, listing_err_eq _ _ _ _ hd2, liftR]
      exact sim_same (by simp)
    | true =>
      have hd2 : isDir (absS s) a = true := by rw [← isDirP_eq_isDir]; exact hdir
      have hP := RefineB.inv_props hI
      cases hl : alLookup a s.entries with
      | none => unfold isDirP at hdir; rw [hl] at hdir; cases hdir
      | some rootE =>
        obtain ⟨snap, hent, hwf, _, hso, _⟩ := Snap.snapshot_correct_core hI hSo hl
        obtain ⟨ps, h1, _, h3, _, _, h6⟩ := Walk.listing_spec (mdOf all) dirs files hI habs hdir hent hwf hso
        have heq : ps = sortP (specKeys (absS s) a all want) := by
          refine StdfsL.sorted_unique _ _ h3
            (StdfsL.sorted_sortP _ (specKeys_nodup (Sim.nodupK_absS hI) a all want)) fun k => ?_
          rw [StdfsL.mem_sortP, mem_specKeys hP.nodup, h6]
          constructor
          · rintro ⟨t, e, rfl, hne, hlen, he, hf, hd⟩
            have hpp : isProperPrefix a (a ++ t) = true := (StdfsL.isProperPrefix_iff _ _).2 ⟨t, hne, rfl⟩
            have hdep : all = true ∨ (a ++ t).length = a.length + 1 := by
              cases all with
              | true => exact Or.inl rfl
              | false =>
                right
                rw [depthCap_one] at hlen
                have : 0 < t.length := List.length_pos_iff.mpr hne
                rw [List.length_append]
                omega
            exact ⟨e, he, hpp, hdep, (hW a hr _ e he hpp hdep).2 ⟨hf, hd⟩⟩
          · rintro ⟨e, he, hpp, hdep, hw⟩
            obtain ⟨t, hne, rfl⟩ := (StdfsL.isProperPrefix_iff _ _).1 hpp
            have hfd := (hW a hr _ e he hpp hdep).1 hw
            refine ⟨t, e, rfl, hne, ?_, he, hfd.1, hfd.2⟩
            cases all with
            | true =>
              have := hD rfl (a ++ t, e) (alLookup_mem he)
              simp only [List.length_append] at this
              rw [depthCap_all]
              omega
            | false =>
              rcases hdep with h | h
              · cases h
              · rw [depthCap_one]
                rw [List.length_append] at h
                omega
        simp only [mapVal, h1, listing_ok_eq _ _ _ _ hd2, liftR]
        exact sim_same (by simp [heq])

/-! ### the six helpers, no hypothesis about links -/

/-- `dirs` / `all_dirs`: "directory flag and not a link" is the node kind `dir` -/
theorem want_dirs_iff (s : State) (k : FsPath) (e : Entry) :
    decide ((absNode s k e).kind = Kind.dir) = true ↔
      ((false = true → e.file = true ∧ e.link = false) ∧ (true = true → false = false → e.dir = true ∧ e.link = false)) := by
  have : (absNode s k e).kind = kindOf e := rfl
  rw [decide_eq_true_iff, this, RefineA.kind_dir_iff]
  simp

/-- `files` / `all_files`: "file flag and not a link" is the node kind `file` (entries carry exactly one of
    the two flags: `EntriesOk`) -/
theorem want_files_iff {s : State} (hOk : RefineA.EntriesOk s) {k : FsPath} {e : Entry}
    (he : alLookup k s.entries = some e) :
    decide ((absNode s k e).kind = Kind.file) = true ↔
      ((true = true → e.file = true ∧ e.link = false) ∧ (false = true → true = false → e.dir = true ∧ e.link = false)) := by
  have : (absNode s k e).kind = kindOf e := rfl
  rw [decide_eq_true_iff, this, RefineA.kind_file_iff (RefineA.entriesOk_lookup hOk he)]
  simp

theorem sim_paths (env : Env) (s : State) (p : Str) (all : Bool) (hI : Spec.Inv s) (hSo : Snap.Sorted s.entries)
    (hD : all = true → RefineB.DepthOk s) :
    Sim (mapVal .paths (Memfs.listing env p (mdOf all) false false) s) (listQ env (absS s) p all (fun _ => true)) :=
  sim_listing env s p all false false _ hI hSo hD (fun _ _ _ _ _ _ _ => by simp)

theorem sim_dirs (env : Env) (s : State) (p : Str) (all : Bool) (hI : Spec.Inv s) (hSo : Snap.Sorted s.entries)
    (hD : all = true → RefineB.DepthOk s) :
    Sim (mapVal .paths (Memfs.listing env p (mdOf all) true false) s)
      (listQ env (absS s) p all (fun n => decide (n.kind = .dir))) :=
  sim_listing env s p all true false _ hI hSo hD (fun _ _ k e _ _ _ => want_dirs_iff s k e)

theorem sim_files (env : Env) (s : State) (p : Str) (all : Bool) (hI : Spec.Inv s) (hSo : Snap.Sorted s.entries)
    (hOk : RefineA.EntriesOk s) (hD : all = true → RefineB.DepthOk s) :
    Sim (mapVal .paths (Memfs.listing env p (mdOf all) false true) s)
      (listQ env (absS s) p all (fun n => decide (n.kind = .file))) :=
  sim_listing env s p all false true _ hI hSo hD (fun _ _ _ _ he _ _ => want_files_iff hOk he)

end Rivia.Lemmas.RefineC
