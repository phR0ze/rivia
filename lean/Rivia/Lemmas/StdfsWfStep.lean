/-
  Rivia.Lemmas.StdfsWfStep — every syscall of `Rivia.Model.Posix` keeps the tree well-formed
  (`StdfsL.Wf`: distinct keys, `/` a directory, the parent of every other key a directory), and so does
  every computation of the `SM` monad built from them (`rename` is in StdfsWfStepMove).
-/
import Rivia.Lemmas.StdfsMain

namespace Rivia.Lemmas.StdfsWf
open Rivia Rivia.Memfs Rivia.File Rivia.Spec Rivia.Spec.TreeFs Rivia.Posix Rivia.Stdfs
open Rivia.Lemmas.StdfsL
open Rivia.Lemmas.RefineA (get_put)
open Rivia.Stdfs.SM

/-! ## the three facts -/

theorem wf_of_facts {t : T} (h : WfFacts t) : StdfsL.Wf t := by
  unfold StdfsL.Wf wfB
  simp only [Bool.and_eq_true, decide_eq_true_eq, List.all_eq_true, Bool.or_eq_true]
  refine ⟨⟨h.nodup, h.root⟩, fun kv hkv => ?_⟩
  by_cases h0 : kv.1 = []
  · exact Or.inl h0
  · obtain ⟨v, hv⟩ := alLookup_isSome_of_mem (List.mem_map.2 ⟨kv, hkv, rfl⟩)
    exact Or.inr (h.parent kv.1 v hv h0)

theorem wf_iff_facts {t : T} : StdfsL.Wf t ↔ WfFacts t := ⟨wf_facts, wf_of_facts⟩

theorem parent_of_get {t : T} (h : WfFacts t) {k : FsPath} {n : Node} (hg : get t k = some n) :
    k = [] ∨ isDir t k.dropLast = true := by
  by_cases hk : k = []
  · exact Or.inl hk
  · exact Or.inr (h.parent k n hg hk)

theorem isDir_put {t : T} {k q : FsPath} {x : Node} (hq : isDir t q = true)
    (hx : isDir t k = true → x.kind = .dir) : isDir (put t k x) q = true := by
  by_cases hkq : k = q
  · subst hkq
    exact isDir_iff.2 ⟨x, get_put_self t k x, hx hq⟩
  · obtain ⟨n, hn, hkd⟩ := isDir_iff.1 hq
    exact isDir_iff.2 ⟨n, by rw [get_put, if_neg hkq]; exact hn, hkd⟩

theorem facts_put {t : T} (h : WfFacts t) {k : FsPath} (x : Node)
    (hd : k = [] ∨ isDir t k.dropLast = true) (hx : isDir t k = true → x.kind = .dir) :
    WfFacts (put t k x) := by
  refine ⟨Sim.nodupK_put h.nodup k x, isDir_put h.root hx, ?_⟩
  intro q n hq hne
  rw [get_put] at hq
  by_cases hkq : k = q
  · subst hkq
    rcases hd with hd | hd
    · exact absurd hd hne
    · exact isDir_put hd hx
  · rw [if_neg hkq] at hq
    exact isDir_put (h.parent q n hq hne) hx

theorem facts_put_same {t : T} (h : WfFacts t) {k : FsPath} {n : Node} (x : Node)
    (hg : get t k = some n) (hk : x.kind = n.kind) : WfFacts (put t k x) := by
  refine facts_put h x (parent_of_get h hg) ?_
  intro hd
  obtain ⟨m, hm, hmk⟩ := isDir_iff.1 hd
  rw [hg] at hm; cases hm
  rw [hk, hmk]

theorem facts_put_missing {t : T} (h : WfFacts t) {k : FsPath} (x : Node)
    (hg : get t k = none) (hw : walkErr t k = none) : WfFacts (put t k x) := by
  refine facts_put h x ((walkErr_none_iff h k).1 hw) ?_
  intro hd
  obtain ⟨m, hm, _⟩ := isDir_iff.1 hd
  rw [hg] at hm; cases hm

theorem dropLast_properPrefix {q : FsPath} (h : q ≠ []) : isProperPrefix q.dropLast q = true := by
  rw [isProperPrefix_iff]
  exact ⟨[q.getLast h], by simp, (List.dropLast_concat_getLast h).symm⟩

theorem facts_del {t : T} (h : WfFacts t) {k : FsPath} (hne : k ≠ [])
    (hb : ∀ q, (get t q).isSome → isProperPrefix k q = false) : WfFacts (del t k) := by
  refine ⟨Sim.nodupK_del h.nodup k, ?_, ?_⟩
  · obtain ⟨n, hn, hk⟩ := isDir_iff.1 h.root
    exact isDir_iff.2 ⟨n, by rw [StdfsL.get_del h, if_neg (Ne.symm hne)]; exact hn, hk⟩
  · intro q n hq hq0
    rw [StdfsL.get_del h] at hq
    by_cases hqk : q = k
    · rw [if_pos hqk] at hq; cases hq
    · rw [if_neg hqk] at hq
      obtain ⟨m, hm, hmk⟩ := isDir_iff.1 (h.parent q n hq hq0)
      have hne2 : q.dropLast ≠ k := by
        intro e
        have := hb q (by rw [hq]; rfl)
        rw [← e, dropLast_properPrefix hq0] at this; cases this
      exact isDir_iff.2 ⟨m, by rw [StdfsL.get_del h, if_neg hne2]; exact hm, hmk⟩

theorem prefixOrEq_dropLast {k q : FsPath} (h : isPrefixOrEq k q.dropLast = true) : isPrefixOrEq k q = true := by
  rw [RefineB.isPrefixOrEq_iff] at h ⊢
  exact h.trans (List.dropLast_prefix q)

theorem facts_filter_sub {t : T} (h : WfFacts t) {k : FsPath} (hne : k ≠ []) :
    WfFacts { t with nodes := t.nodes.filter (fun kv => !(isPrefixOrEq k kv.1)) } := by
  refine ⟨Sim.nodupK_filter h.nodup _, ?_, ?_⟩
  · obtain ⟨n, hn, hk⟩ := isDir_iff.1 h.root
    refine isDir_iff.2 ⟨n, ?_, hk⟩
    rw [get_filter_prefix]
    have : isPrefixOrEq k [] = false := by
      cases k with
      | nil => exact absurd rfl hne
      | cons a r => rfl
    rw [this]; exact hn
  · intro q n hq hq0
    rw [get_filter_prefix] at hq
    by_cases hp : isPrefixOrEq k q = true
    · rw [if_pos hp] at hq; cases hq
    · rw [if_neg hp] at hq
      obtain ⟨m, hm, hmk⟩ := isDir_iff.1 (h.parent q n hq hq0)
      refine isDir_iff.2 ⟨m, ?_, hmk⟩
      rw [get_filter_prefix, if_neg (fun hp' => hp (prefixOrEq_dropLast hp'))]
      exact hm

theorem facts_cwd {t : T} (h : WfFacts t) (c : FsPath) : WfFacts { t with cwd := c } :=
  ⟨h.nodup, h.root, h.parent⟩

/-! ## the syscalls -/

theorem followFinal_walk {t : T} : ∀ (f : Nat) (k k' : FsPath), followFinal t f k = .ok k' → walkErr t k' = none := by
  intro f
  induction f with
  | zero => intro k k' h; cases h
  | succ f ih =>
    intro k k' h
    simp only [followFinal] at h
    cases hw : walkErr t k with
    | some e => rw [hw] at h; cases h
    | none =>
      rw [hw] at h
      cases hg : get t k with
      | none => rw [hg] at h; cases h; exact hw
      | some n =>
        rw [hg] at h
        simp only at h
        split at h
        · exact ih _ _ h
        · cases h
        · cases h; exact hw

theorem wf_mkdir {t t' : T} {k : FsPath} {m : Nat} (h : WfFacts t) (e : Posix.mkdir t k m = .ok t') :
    WfFacts t' := by
  unfold Posix.mkdir at e
  split at e
  · cases e
  · cases hw : walkErr t k with
    | some er => rw [hw] at e; cases e
    | none =>
      rw [hw] at e
      cases hg : get t k with
      | some n => rw [hg] at e; cases e
      | none => rw [hg] at e; cases e; exact facts_put_missing h _ hg hw

theorem wf_rmdir {t t' : T} {k : FsPath} (h : WfFacts t) (e : rmdir t k = .ok t') : WfFacts t' := by
  unfold rmdir at e
  split at e
  · cases e
  · rename_i hne
    cases hw : walkErr t k with
    | some er => rw [hw] at e; cases e
    | none =>
      rw [hw] at e
      cases hg : get t k with
      | none => rw [hg] at e; cases e
      | some n =>
        rw [hg] at e
        simp only at e
        split at e
        · cases e
        · split at e
          · cases e
          · rename_i hb
            cases e
            refine facts_del h hne ?_
            have hb' : (below t k).isEmpty = true := by simpa using hb
            exact (Sim.below_isEmpty_iff t k).1 hb'

theorem wf_unlink {t t' : T} {k : FsPath} (h : WfFacts t) (e : unlink t k = .ok t') : WfFacts t' := by
  unfold unlink at e
  split at e
  · cases e
  · rename_i hne
    cases hw : walkErr t k with
    | some er => rw [hw] at e; cases e
    | none =>
      rw [hw] at e
      cases hg : get t k with
      | none => rw [hg] at e; cases e
      | some n =>
        rw [hg] at e
        simp only at e
        split at e
        · cases e
        · rename_i hk
          cases e
          refine facts_del h hne ?_
          intro q hq
          cases hp : isProperPrefix k q with
          | false => rfl
          | true =>
            have := get_below_none h (isDir_false_of_kind hg hk) hp
            rw [this] at hq; cases hq

theorem wf_createDirAll : ∀ (f : Nat) (k : FsPath) (t t' : T), WfFacts t →
    createDirAll t f k = .ok t' → WfFacts t' := by
  intro f
  induction f with
  | zero => intro k t t' _ e; cases e
  | succ f ih =>
    intro k t t' h e
    simp only [createDirAll] at e
    split at e
    · rename_i t1 hm; cases e; exact wf_mkdir h hm
    · split at e
      · cases e
      · split at e
        · cases e
        · rename_i t1 h1
          have hw1 := ih _ _ _ h h1
          split at e
          · rename_i t2 hm; cases e; exact wf_mkdir hw1 hm
          · split at e
            · cases e; exact hw1
            · cases e
    · split at e
      · cases e; exact h
      · cases e

theorem wf_removeDirAll {t t' : T} {k : FsPath} (h : WfFacts t) (e : removeDirAll t k = .ok t') :
    WfFacts t' := by
  unfold removeDirAll at e
  split at e
  · cases e
  · split at e
    · exact wf_unlink h e
    · cases e
    · split at e
      · cases e
      · rename_i hne; cases e; exact facts_filter_sub h hne

theorem wf_createFile {t t' : T} {k fk : FsPath} (h : WfFacts t) (e : createFile t k = .ok (fk, t')) :
    WfFacts t' := by
  unfold createFile at e
  split at e
  · cases e
  · rename_i k' hf
    have hw := followFinal_walk _ _ _ hf
    split at e
    · cases e
    · cases hg : get t k' with
      | none => rw [hg] at e; cases e; exact facts_put_missing h _ hg hw
      | some n =>
        rw [hg] at e
        simp only at e
        split at e
        · cases e; exact facts_put_same h _ hg rfl
        · cases e

theorem wf_writeFd {t : T} (h : WfFacts t) (k : FsPath) (d : Bytes) : WfFacts (writeFd t k d) := by
  unfold writeFd
  cases hg : get t k with
  | none => exact h
  | some n => exact facts_put_same h _ hg rfl

theorem wf_chmod {t t' : T} {k : FsPath} {m : Nat} (h : WfFacts t) (e : Posix.chmod t k m = .ok t') :
    WfFacts t' := by
  unfold Posix.chmod at e
  split at e
  · cases e
  · rename_i k' _
    cases hg : get t k' with
    | none => rw [hg] at e; cases e
    | some n => rw [hg] at e; cases e; exact facts_put_same h _ hg rfl

theorem wf_chown {t t' : T} {k : FsPath} {u g : Option Nat} (h : WfFacts t)
    (e : Posix.chown t k u g = .ok t') : WfFacts t' := by
  unfold Posix.chown at e
  split at e
  · cases e
  · rename_i k' _
    cases hg : get t k' with
    | none => rw [hg] at e; cases e
    | some n => rw [hg] at e; cases e; exact facts_put_same h _ hg rfl

theorem wf_symlinkat {t t' : T} {k tg : FsPath} (h : WfFacts t) (e : symlinkat t k tg = .ok t') :
    WfFacts t' := by
  unfold symlinkat at e
  split at e
  · cases e
  · cases hw : walkErr t k with
    | some er => rw [hw] at e; cases e
    | none =>
      rw [hw] at e
      cases hg : get t k with
      | some n => rw [hg] at e; cases e
      | none => rw [hg] at e; cases e; exact facts_put_missing h _ hg hw

theorem wf_chdir {t t' : T} {k : FsPath} (h : WfFacts t) (e : chdir t k = .ok t') : WfFacts t' := by
  unfold chdir at e
  split at e
  · cases e
  · rename_i k' _
    cases hg : get t k' with
    | none => rw [hg] at e; cases e
    | some n =>
      rw [hg] at e
      simp only at e
      split at e
      · cases e; exact facts_cwd h _
      · cases e

theorem wf_copyFile {t t' : T} {s d : FsPath} (h : WfFacts t) (e : copyFile t s d = .ok t') : WfFacts t' := by
  unfold copyFile at e
  split at e
  · cases e
  · rename_i sn _
    split at e
    · cases e
    · split at e
      · cases e
      · cases e
      · rename_i ks kd _ hfd
        have hw := followFinal_walk _ _ _ hfd
        split at e
        · cases e
        · cases hg : get t kd with
          | none =>
            simp only [hg] at e
            have h1 := facts_put_missing h ({ newFile with perm := applyUmask sn.perm }) hg hw
            split at e
            · rename_i dn' hg1; cases e; exact facts_put_same h1 _ hg1 rfl
            · cases e; exact h1
          | some dn =>
            simp only [hg] at e
            by_cases hk : dn.kind = .file
            · rw [if_pos hk] at e
              simp only at e
              have h1 := facts_put_same h ({ dn with data := [] }) hg rfl
              split at e
              · rename_i dn' hg1; cases e; exact facts_put_same h1 _ hg1 rfl
              · cases e; exact h1
            · rw [if_neg hk] at e
              cases e

/-! ## computations of the `SM` monad -/

/-- the computation keeps the tree well-formed, whatever it returns.  A class, so that instance
    resolution walks a computation down to its leaves: the rules below are the instances for the monad
    plumbing and `if`; the syscalls and the methods of the model get theirs where they are proved. -/
class Pres {α} (m : SM α) : Prop where
  out : ∀ t, StdfsL.Wf t → StdfsL.Wf (m t).2

theorem pres_same {α} {m : SM α} (h : ∀ t, (m t).2 = t) : Pres m := ⟨fun t hw => by rw [h]; exact hw⟩

instance {α} (a : α) : Pres (Pure.pure a : SM α) := pres_same fun _ => rfl
instance {α} (a : α) : Pres (SM.pure a : SM α) := pres_same fun _ => rfl
instance {α} (k : ErrKind) : Pres (SM.fail k : SM α) := pres_same fun _ => rfl
instance : Pres SM.getT := pres_same fun _ => rfl
instance {α} (o : Outcome α) : Pres (SM.liftO o) := pres_same fun _ => rfl
instance {α} (f : T → Except Errno α) : Pres (SM.qry f) := pres_same fun _ => rfl
instance (env : Env) (p : Str) : Pres (Stdfs.absM env p) := pres_same fun _ => rfl

instance Pres.ite {α} {c : Prop} {_ : Decidable c} {a b : SM α} [ha : Pres a] [hb : Pres b] :
    Pres (if c then a else b) := by
  split <;> assumption

instance (k : FsPath) : Pres (Stdfs.dirOf k) := Pres.ite

/-- what is left of the tree after a step that stops early is the tree it stopped in -/
theorem wf_of_pair {α β} {x : Outcome α × T} (h : StdfsL.Wf x.2) (f : α → T → Outcome β × T)
    (hf : ∀ a, StdfsL.Wf (f a x.2).2) :
    StdfsL.Wf (match x with
      | (.ok a, t') => f a t'
      | (.err k, t') => (.err k, t')
      | (.panic, t') => (.panic, t')
      | (.hang, t') => (.hang, t')).2 := by
  obtain ⟨o, t'⟩ := x
  cases o with
  | ok a => exact hf a
  | err k => exact h
  | panic => exact h
  | hang => exact h

instance Pres.bind {α β} {m : SM α} {f : α → SM β} [hm : Pres m] [hf : ∀ a, Pres (f a)] : Pres (m >>= f) :=
  ⟨fun t hw => wf_of_pair (hm.out t hw) (fun a => f a) fun a => (hf a).out _ (hm.out t hw)⟩

instance {α} {v : α → Val} {m : SM α} [hm : Pres m] : Pres (Stdfs.mapVal v m) :=
  ⟨fun t hw => wf_of_pair (hm.out t hw) (fun a t' => (.ok (v a), t')) fun _ => hm.out t hw⟩

instance Pres.forM {α} {f : α → SM Unit} [hf : ∀ a, Pres (f a)] : ∀ (l : List α), Pres (l.forM f)
  | [] => inferInstanceAs (Pres (Pure.pure ()))
  | a :: l => have := Pres.forM (f := f) l; inferInstanceAs (Pres (f a >>= fun _ => l.forM f))

theorem pres_sysM {f : T → Except Errno T} (hf : ∀ t t', WfFacts t → f t = .ok t' → WfFacts t') :
    Pres (SM.sysM f) := by
  refine ⟨fun t hw => ?_⟩
  unfold SM.sysM
  cases e : f t with
  | ok t' => exact wf_of_facts (hf t t' (wf_facts hw) e)
  | error er => exact hw

end Rivia.Lemmas.StdfsWf
