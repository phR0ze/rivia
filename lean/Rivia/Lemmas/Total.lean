/-
  Rivia.Lemmas.Total — totality lemmas for C12: no `.panic` / `.hang` / `none`-as-panic branch of
  the path helpers is reachable; the fuel of `absLoop` suffices; the weakest precondition
  `wpAllow` in which the statements about the Memfs monad are made; the `M` computations of the
  simple Memfs operations are total on every state.
-/
import Rivia.Model.MemfsOps
import Rivia.Lemmas.Abs

namespace Rivia.Lemmas
open Rivia Rivia.Str

/-- an outcome that is a return (`Ok`/`Err`), not a panic and not a hang -/
def Fine {α} (o : Outcome α) : Prop := o ≠ .panic ∧ o ≠ .hang

theorem fine_iff_total {α} {o : Outcome α} : Fine o ↔ Outcome.Total o := Iff.rfl

/-! ### clean / trim -/

theorem cleanO_ne_none (s : Str) : cleanO s ≠ none := by
  rw [cleanO_eq_goClean]; simp

theorem trimPrefixO_ne_none (p s : Str) : trimPrefixO p s ≠ none := by
  rw [trimPrefixO_eq_spec]; simp

theorem trimSuffixO_ne_none (p s : Str) : trimSuffixO p s ≠ none := by
  rw [trimSuffixO_eq_spec]; simp

theorem trimExt_ok (s : Str) : ∃ t, trimExt s = .ok t := by
  unfold trimExt
  cases extension s with
  | none => exact ⟨s, rfl⟩
  | some e =>
    simp only
    rw [trimSuffixO_eq_spec]
    exact ⟨_, rfl⟩

theorem trimExt_fine (s : Str) : Fine (trimExt s) := by
  obtain ⟨t, h⟩ := trimExt_ok s
  rw [h]; exact Outcome.total_ok t

theorem base_fine (s : Str) : Fine (base s) := by
  unfold base
  cases (components s).getLast? with
  | none => exact Outcome.total_err _
  | some c => exact Outcome.total_ok _

theorem name_fine (s : Str) : Fine (name s) := by
  unfold name
  obtain ⟨t, h⟩ := trimExt_ok s
  rw [h]
  exact base_fine t

/-! ### dir / expand / abs -/

theorem dir_fine (s : Str) : Fine (dir s) := by
  rcases dir_cases s with ⟨d, h⟩ | h <;> rw [h]
  · exact Outcome.total_ok d
  · exact Outcome.total_err _

theorem expand_fine (env : Env) (s : Str) : Fine (expand env s) :=
  fine_iff_total.2 (expand_total env s)

theorem absWith_fine (env : Env) (cwd s : Str) : Fine (absWith env cwd s) :=
  fine_iff_total.2 (absWith_total env cwd s)

theorem absLoop_fuel (f g : Nat) (curr p : Str) (hf : (components p).length < f)
    (hg : (components p).length < g) : absLoop f curr p = absLoop g curr p := by
  induction f generalizing g curr p with
  | zero => omega
  | succ f ih =>
    cases g with
    | zero => omega
    | succ g =>
      have ht := trimFirst_is_tail p
      have hl : (components (trimFirst p)).length = (components p).length - 1 := by
        rw [ht, List.length_tail]
      unfold absLoop
      split
      · rfl
      · rename_i hh
        have : (components p).length ≠ 0 := by
          intro h0; rw [List.length_eq_zero_iff.1 h0] at hh; cases hh
        exact ih _ _ _ (by omega) (by omega)
      · rename_i hh
        have : (components p).length ≠ 0 := by
          intro h0; rw [List.length_eq_zero_iff.1 h0] at hh; cases hh
        split
        · rfl
        · split
          · exact ih _ _ _ (by omega) (by omega)
          all_goals rfl
      · rfl

/-! ### Memfs: one weakest precondition for "returns", "does not panic", "does not hang" -/

open Rivia.Memfs Rivia.Memfs.M Rivia.File

abbrev Ents := List (FsPath × Entry)

/-- kept folded so that goals stay readable -/
def withEntries (s : State) (l : Ents) : State := { s with entries := l }
def withFiles (s : State) (l : List (FsPath × Bytes)) : State := { s with files := l }

@[simp] theorem withEntries_entries (s : State) (l : Ents) : (withEntries s l).entries = l := rfl
@[simp] theorem withEntries_files (s : State) (l : Ents) : (withEntries s l).files = s.files := rfl
@[simp] theorem withFiles_entries (s : State) (l : List (FsPath × Bytes)) :
    (withFiles s l).entries = s.entries := rfl
@[simp] theorem withFiles_files (s : State) (l : List (FsPath × Bytes)) : (withFiles s l).files = l := rfl

/-- `m`, started in `s`, returns `Ok a` in a state `s'` with `Q a s'`, or returns an error; it
    panics only if `pn` and runs out of fuel only if `hg`.  `Safe` is `wpAllow False False`,
    `NoPanic` is `wpAllow False True` (both with the trivial `Q`, from every state), `wp` is
    `wpAllow True False`. -/
def wpAllow {α} (pn hg : Prop) (m : M α) (s : State) (Q : α → State → Prop) : Prop :=
  match m s with
  | (.ok a, s') => Q a s'
  | (.err _, _) => True
  | (.panic, _) => pn
  | (.hang, _) => hg

section wpAllow
variable {α β : Type} {pn hg : Prop} {s : State}

theorem wpAllow_iff {m : M α} {Q : α → State → Prop} :
    wpAllow pn hg m s Q ↔
      (∀ a s', m s = (.ok a, s') → Q a s') ∧ ((m s).1 = .panic → pn) ∧ ((m s).1 = .hang → hg) := by
  unfold wpAllow
  cases m s with
  | mk o s' =>
    cases o with
    | ok a => exact ⟨fun h => ⟨fun _ _ e => (by cases e; exact h), nofun, nofun⟩, fun h => h.1 a s' rfl⟩
    | err k => exact ⟨fun _ => ⟨nofun, nofun, nofun⟩, fun _ => trivial⟩
    | panic => exact ⟨fun h => ⟨nofun, fun _ => h, nofun⟩, fun h => h.2.1 rfl⟩
    | hang => exact ⟨fun h => ⟨nofun, nofun, fun _ => h⟩, fun h => h.2.2 rfl⟩

theorem wpAllow.ne_panic {m : M α} {Q : α → State → Prop} (h : wpAllow False hg m s Q) :
    (m s).1 ≠ .panic := (wpAllow_iff.1 h).2.1

theorem wpAllow.ne_hang {m : M α} {Q : α → State → Prop} (h : wpAllow pn False m s Q) :
    (m s).1 ≠ .hang := (wpAllow_iff.1 h).2.2

theorem wpAllow_mono {m : M α} {Q Q' : α → State → Prop} (hQ : ∀ a s', Q a s' → Q' a s')
    (h : wpAllow pn hg m s Q) : wpAllow pn hg m s Q' :=
  have h := wpAllow_iff.1 h
  wpAllow_iff.2 ⟨fun a s' e => hQ a s' (h.1 a s' e), h.2⟩

theorem wpAllow_err {m : M α} {k : ErrKind} {Q : α → State → Prop} (h : (m s).1 = .err k) :
    wpAllow pn hg m s Q :=
  wpAllow_iff.2 ⟨fun _ _ e => (by rw [e] at h; cases h), fun e => (by rw [e] at h; cases h),
    fun e => (by rw [e] at h; cases h)⟩

theorem wpAllow_top {m : M α} (hp : (m s).1 = .panic → pn) (hh : ¬ hg → (m s).1 ≠ .hang) :
    wpAllow pn hg m s (fun _ _ => True) :=
  wpAllow_iff.2 ⟨fun _ _ _ => trivial, hp, fun e => Classical.byContradiction fun hn => hh hn e⟩

theorem wpAllow_congr {m m' : M α} {s' : State} {Q : α → State → Prop} (h : m s = m' s') :
    wpAllow pn hg m s Q ↔ wpAllow pn hg m' s' Q := by
  unfold wpAllow
  rw [h]

theorem wpAllow_bind {m : M α} {f : α → M β} {Q : β → State → Prop} :
    wpAllow pn hg (M.bind m f) s Q ↔ wpAllow pn hg m s (fun a s' => wpAllow pn hg (f a) s' Q) := by
  unfold wpAllow M.bind
  cases m s with
  | mk o s' => cases o <;> exact Iff.rfl

theorem wpAllow_pure {a : α} {Q : α → State → Prop} : wpAllow pn hg (M.pure a) s Q ↔ Q a s := Iff.rfl
theorem wpAllow_hang {Q : α → State → Prop} : wpAllow pn hg M.hang s Q ↔ hg := Iff.rfl
theorem wpAllow_get {Q : State → State → Prop} : wpAllow pn hg M.get s Q ↔ Q s s := Iff.rfl
theorem wpAllow_getEntry {p : FsPath} {Q : Option Entry → State → Prop} :
    wpAllow pn hg (getEntry p) s Q ↔ Q (alLookup p s.entries) s := Iff.rfl
theorem wpAllow_setEntry {p : FsPath} {e : Entry} {Q : Unit → State → Prop} :
    wpAllow pn hg (setEntry p e) s Q ↔ Q () (withEntries s (alInsert p e s.entries)) := Iff.rfl
theorem wpAllow_removeEntry {p : FsPath} {Q : Option Entry → State → Prop} :
    wpAllow pn hg (removeEntry p) s Q ↔
      Q (alLookup p s.entries) (withEntries s (alErase p s.entries)) := Iff.rfl
theorem wpAllow_getFile {p : FsPath} {Q : Option Bytes → State → Prop} :
    wpAllow pn hg (getFile p) s Q ↔ Q (alLookup p s.files) s := Iff.rfl
theorem wpAllow_removeFile {p : FsPath} {Q : Option Bytes → State → Prop} :
    wpAllow pn hg (removeFile p) s Q ↔
      Q (alLookup p s.files) (withFiles s (alErase p s.files)) := Iff.rfl

theorem wpAllow_dirOf {p : FsPath} {Q : FsPath → State → Prop} :
    wpAllow pn hg (dirOf p) s Q ↔ (p ≠ [] → Q p.dropLast s) := by
  unfold Memfs.dirOf
  by_cases h : p = []
  · rw [if_pos h]; exact ⟨fun _ h' => absurd h h', fun _ => trivial⟩
  · rw [if_neg h]; exact ⟨fun h' _ => h', fun h' => h' h⟩

theorem wpAllow_liftO {o : Outcome α} {Q : α → State → Prop} (hf : Fine o) :
    wpAllow pn hg (liftO o) s Q ↔ ∀ a, o = .ok a → Q a s := by
  unfold wpAllow M.liftO
  rcases Outcome.Total.cases hf with ⟨a, rfl⟩ | ⟨k, rfl⟩
  · exact ⟨fun h a' ha => (by cases ha; exact h), fun h => h a rfl⟩
  · exact ⟨fun _ a ha => (by cases ha), fun _ => trivial⟩

theorem wpAllow_liftO_of {o : Outcome α} {Q : α → State → Prop} (hp : o ≠ .panic)
    (hh : ¬ hg → o ≠ .hang) (h : ∀ a, o = .ok a → Q a s) : wpAllow False hg (liftO o) s Q := by
  unfold wpAllow M.liftO
  cases o with
  | ok a => exact h a rfl
  | err k => trivial
  | panic => exact hp rfl
  | hang => exact Classical.byContradiction fun hn => hh hn rfl

theorem wpAllow_ite {c : Prop} [Decidable c] {a b : M α} {Q : α → State → Prop}
    (ha : c → wpAllow pn hg a s Q) (hb : ¬ c → wpAllow pn hg b s Q) :
    wpAllow pn hg (if c then a else b) s Q := by
  split
  · exact ha ‹_›
  · exact hb ‹_›

theorem wpAllow_mapVal {f : α → Val} {m : M α} (h : wpAllow pn hg m s (fun _ _ => True)) :
    wpAllow pn hg (mapVal f m) s (fun _ _ => True) := by
  unfold wpAllow mapVal
  unfold wpAllow at h
  cases hm : m s with
  | mk o s' =>
    rw [hm] at h
    cases o <;> exact h

end wpAllow

/-- if `m` returns `Ok` from `s`, the result and the new state satisfy `Q`; and `m` does not hang -/
def wp {α} (m : M α) (s : State) (Q : α → State → Prop) : Prop :=
  match m s with
  | (.ok a, s') => Q a s'
  | (.err _, _) => True
  | (.panic, _) => True
  | (.hang, _) => False

theorem wp_iff {α} {m : M α} {s : State} {Q : α → State → Prop} :
    wp m s Q ↔ wpAllow True False m s Q := Iff.rfl

theorem wp_getFile {p : FsPath} {s : State} {Q : Option Bytes → State → Prop}
    (h : Q (alLookup p s.files) s) : wp (getFile p) s Q :=
  wp_iff.2 (wpAllow_getFile.2 h)

/-! ### Memfs: the state monad computations of the simple operations are total -/

/-- `m` returns (`Ok`/`Err`) from every state -/
structure Safe {α} (m : M α) : Prop where
  out : ∀ s, Fine (m s).1

theorem Safe.wp {α} {pn hg : Prop} {m : M α} (h : Safe m) {s : State} {Q : α → State → Prop}
    (hQ : ∀ a s', m s = (.ok a, s') → Q a s') : wpAllow pn hg m s Q :=
  wpAllow_iff.2 ⟨hQ, fun e => absurd e (h.out s).1, fun e => absurd e (h.out s).2⟩

theorem Safe.of_wp {α} {m : M α} (h : ∀ s, wpAllow False False m s (fun _ _ => True)) : Safe m :=
  ⟨fun s => ⟨(h s).ne_panic, (h s).ne_hang⟩⟩

theorem Safe.pure {α} (a : α) : Safe (Pure.pure a : M α) := ⟨fun _ => Outcome.total_ok a⟩
theorem Safe.bind {α β} {m : M α} {f : α → M β} (hm : Safe m) (hf : ∀ a, Safe (f a)) :
    Safe (m >>= f) :=
  .of_wp fun _ => wpAllow_bind.2 (hm.wp fun a _ _ => (hf a).wp fun _ _ _ => trivial)
theorem Safe.ite {α} {c : Prop} [Decidable c] {a b : M α} (ha : c → Safe a) (hb : ¬ c → Safe b) :
    Safe (if c then a else b) := by
  split
  · exact ha ‹_›
  · exact hb ‹_›
theorem Safe.fail {α} (k : ErrKind) : Safe (M.fail k : M α) := ⟨fun _ => Outcome.total_err k⟩
theorem Safe.get : Safe M.get := ⟨fun s => Outcome.total_ok s⟩
theorem Safe.modify (f : State → State) : Safe (M.modify f) := ⟨fun _ => Outcome.total_ok ()⟩
theorem Safe.liftO {α} {o : Outcome α} (h : Fine o) : Safe (M.liftO o) := ⟨fun _ => h⟩
theorem Safe.getEntry (p : FsPath) : Safe (getEntry p) := ⟨fun _ => Outcome.total_ok _⟩
theorem Safe.setEntry (p : FsPath) (e : Entry) : Safe (setEntry p e) := ⟨fun _ => Outcome.total_ok _⟩
theorem Safe.removeEntry (p : FsPath) : Safe (removeEntry p) := ⟨fun _ => Outcome.total_ok _⟩
theorem Safe.getFile (p : FsPath) : Safe (getFile p) := ⟨fun _ => Outcome.total_ok _⟩
theorem Safe.setFile (p : FsPath) (b : Bytes) : Safe (setFile p b) := ⟨fun _ => Outcome.total_ok _⟩
theorem Safe.removeFile (p : FsPath) : Safe (removeFile p) := ⟨fun _ => Outcome.total_ok _⟩
theorem Safe.dirOf (p : FsPath) : Safe (dirOf p) := .ite (fun _ => .fail _) fun _ => .pure _
theorem Safe.absM (env : Env) (p : Str) : Safe (absM env p) := by
  refine ⟨fun s => ?_⟩
  unfold Memfs.absM
  rcases Outcome.Total.cases (absWith_fine env (renderP s.cwd) p) with ⟨a, h⟩ | ⟨k, h⟩
  · rw [h]; exact Outcome.total_ok _
  · rw [h]; exact Outcome.total_err _

theorem addChild_fine (e : Entry) (n : Str) : Fine (e.addChild n) := by
  unfold Entry.addChild
  split
  · exact Outcome.total_err _
  · split <;> exact Outcome.total_ok _
theorem removeChild_fine (e : Entry) (n : Str) : Fine (e.removeChild n) := by
  unfold Entry.removeChild
  split
  · exact Outcome.total_err _
  · split <;> exact Outcome.total_ok _

theorem Safe.add (e : Entry) : Safe (add e) := by
  unfold Memfs.add
  refine .ite (fun _ => .pure _) fun _ => .bind (.getEntry _) fun d => ?_
  cases d with
  | none => exact .fail _
  | some d =>
    refine .ite (fun _ => .fail _) fun _ => .bind (.getEntry _) fun x => ?_
    cases x with
    | some x =>
      exact .ite (fun _ => .fail _) fun _ => .ite (fun _ => .fail _) fun _ =>
        .ite (fun _ => .fail _) fun _ => .pure _
    | none =>
      -- the new entry is linked into its parent (the data slot of a file has been made before)
      extract_lets link
      have hlink : ∀ u, Safe (link u) := by
        refine fun _ => .bind (.setEntry _ _) fun _ => .bind (.getEntry _) fun parent => ?_
        cases parent with
        | none => exact .pure _
        | some parent =>
          exact .bind (.liftO (addChild_fine _ _)) fun _ => .bind (.setEntry _ _) fun _ =>
            .ite (fun _ => .fail _) fun _ => .pure _
      exact .ite (fun _ => .bind (.setFile _ _) hlink) fun _ => hlink ()

theorem Safe.forM {α} (l : List α) (f : α → M PUnit) (h : ∀ a, Safe (f a)) : Safe (l.forM f) := by
  induction l with
  | nil => exact Safe.pure _
  | cons a l ih => exact Safe.bind (h a) (fun _ => ih)

theorem Safe.mkdirM (p : FsPath) (mode : Option Nat) : Safe (mkdirM p mode) :=
  .forM _ _ fun _ => .bind (.add _) fun _ => .pure _

theorem Safe.symlinkM (env : Env) (l t : Str) : Safe (symlinkM env l t) := by
  unfold Memfs.symlinkM
  refine .bind (.absM _ _) fun l => .bind (.getEntry _) fun _ => .ite (fun _ => .fail _) fun _ => ?_
  extract_lets link
  have hlink : ∀ tstr, Safe (link tstr) := fun _ =>
    .bind (.absM _ _) fun _ => .bind (.dirOf _) fun _ => .bind (.getEntry _) fun _ =>
      .bind (.add _) fun _ => .pure _
  exact .ite (fun _ => .bind (.pure _) hlink) fun _ =>
    .bind (.dirOf _) fun _ => .bind (.pure _) hlink

theorem Safe.mkfileM (env : Env) (p : Str) : Safe (mkfileM env p) :=
  .bind (.absM _ _) fun _ => .bind (.add _) fun _ => .bind (.getFile _) fun _ =>
    .ite (fun _ => .fail _) fun _ => .pure _

theorem Safe.mkdirOp (env : Env) (p : Str) (mode : Option Nat) : Safe (mkdirOp env p mode) :=
  .bind (.absM _ _) fun _ => .bind (.mkdirM _ _) fun _ => .pure _

theorem Safe.removeM (env : Env) (p : Str) : Safe (removeM env p) := by
  unfold Memfs.removeM
  refine .bind (.absM _ _) fun p => .bind (.getEntry _) fun e => ?_
  -- the three stages after the emptiness check, last first
  extract_lets erase data unlink
  have herase : ∀ u, Safe (erase u) := fun _ => .bind (.removeEntry _) fun _ => .pure _
  have hdata : ∀ u, Safe (data u) := by
    refine fun _ => .bind (.getEntry _) fun e => ?_
    cases e with
    | none => exact .bind (.pure _) herase
    | some e => exact .ite (fun _ => .bind (.removeFile _) fun _ => herase ()) fun _ => herase ()
  have hunlink : ∀ u, Safe (unlink u) := by
    refine fun _ => .bind (.getEntry _) fun _ => .ite (fun _ => .pure _) fun _ =>
      .bind (.dirOf _) fun _ => .bind (.getEntry _) fun pe => ?_
    cases pe with
    | none => exact .bind (.pure _) hdata
    | some pe => exact .bind (.liftO (removeChild_fine _ _)) fun _ => .bind (.setEntry _ _) hdata
  cases e with
  | none => exact .bind (.pure _) hunlink
  | some e =>
    dsimp only
    split
    · exact .ite (fun _ => .bind (.fail _) hunlink) fun _ => .bind (.pure _) hunlink
    · exact .bind (.pure _) hunlink

theorem Safe.setCwdM (env : Env) (p : Str) : Safe (setCwdM env p) := by
  refine .bind (.absM _ _) fun _ => .bind (.getEntry _) fun e => ?_
  cases e with
  | none => exact .fail _
  | some e => exact .ite (fun _ => .fail _) fun _ => .bind (.modify _) fun _ => .pure _

theorem Safe.syncM (p : FsPath) (d : Bytes) : Safe (syncM p d) := by
  refine .bind (.getEntry _) fun e => ?_
  cases e with
  | none => exact .fail _
  | some _ =>
    refine .bind (.getFile _) fun b => ?_
    cases b with
    | none => exact .pure _
    | some _ => exact .setFile _ _

/-- `sync` on drop: its result is ignored -/
theorem Safe.ignoreSync (p : FsPath) (d : Bytes) :
    Safe (fun s => let (_, s') := Memfs.syncM p d s; ((.ok () : Outcome Unit), s')) := ⟨fun _ => Outcome.total_ok _⟩

theorem Safe.openWriteM (env : Env) (p : Str) (id : Nat) : Safe (openWriteM env p id) :=
  .bind (.absM _ _) fun _ => .bind (.add _) fun _ => .bind (.getFile _) fun _ =>
    .ite (fun _ => .fail _) fun _ => .modify _

theorem Safe.openAppendM (env : Env) (p : Str) (id : Nat) : Safe (openAppendM env p id) := by
  refine .bind (.absM _ _) fun _ => .bind (.add _) fun _ => .bind (.getFile _) fun b => ?_
  cases b with
  | none => exact .fail _
  | some _ => exact .modify _

theorem Safe.handleWriteM (id : Nat) (d : Bytes) : Safe (handleWriteM id d) := .modify _

theorem Safe.handleFlushM (id : Nat) : Safe (handleFlushM id) := by
  refine .bind .get fun s => ?_
  split
  · exact .syncM _ _
  · exact .pure _

theorem Safe.handleDropM (id : Nat) : Safe (handleDropM id) := by
  refine ⟨fun s => ?_⟩
  unfold Memfs.handleDropM
  split <;> exact Outcome.total_ok _

theorem Safe.writeAllM (env : Env) (p : Str) (d : Bytes) : Safe (writeAllM env p d) :=
  .bind (.absM _ _) fun _ => .bind (.add _) fun _ => .bind (.getFile _) fun _ =>
    .ite (fun _ => .fail _) fun _ => .ignoreSync _ _

theorem Safe.appendAllM (env : Env) (p : Str) (d : Bytes) : Safe (appendAllM env p d) := by
  refine .bind (.absM _ _) fun _ => .bind (.add _) fun _ => .bind (.getFile _) fun b => ?_
  cases b with
  | none => exact .fail _
  | some _ => exact .bind (.syncM _ _) fun _ => .ignoreSync _ _

theorem Safe.writeLinesM (env : Env) (p : Str) (ls : List Str) : Safe (writeLinesM env p ls) := by
  unfold Memfs.writeLinesM
  split
  · exact .writeAllM _ _ _
  · exact .pure _

theorem Safe.appendLinesM (env : Env) (p : Str) (ls : List Str) : Safe (appendLinesM env p ls) := by
  unfold Memfs.appendLinesM
  split
  · exact .appendAllM _ _ _
  · exact .pure _

theorem Safe.appendLineM (env : Env) (p : Str) (l : Str) : Safe (appendLineM env p l) :=
  .ite (fun _ => .pure _) fun _ => .appendAllM _ _ _

theorem Safe.cloneFileM (env : Env) (p : Str) : Safe (cloneFileM env p) := by
  unfold Memfs.cloneFileM
  refine .bind (.absM _ _) fun _ => .bind (.getEntry _) fun e => ?_
  extract_lets read
  have hread : ∀ u, Safe (read u) := by
    refine fun _ => .bind (.getFile _) fun b => ?_
    cases b with
    | none => exact .fail _
    | some _ => exact .pure _
  cases e with
  | none => exact .bind (.pure _) hread
  | some e => exact .ite (fun _ => .bind (.fail _) hread) fun _ => .bind (.pure _) hread

theorem Safe.readAllM (env : Env) (p : Str) : Safe (readAllM env p) := by
  refine .bind (.cloneFileM _ _) fun b => ?_
  split
  · exact .pure _
  · exact .fail _

theorem Safe.readLinesM (env : Env) (p : Str) : Safe (readLinesM env p) := by
  refine .bind (.cloneFileM _ _) fun b => ?_
  split
  · exact .pure _
  · exact .fail _

/-- the lookups of the query operations and of `readlink` -/
theorem Safe.lookup {α} (env : Env) (p : Str) (f : Entry → M α) (hf : ∀ e, Safe (f e)) :
    Safe (do
      let a ← Memfs.absM env p
      match (← Memfs.getEntry a) with
      | some e => f e
      | none => M.fail .doesNotExist) := by
  refine .bind (.absM _ _) fun _ => .bind (.getEntry _) fun e => ?_
  cases e with
  | none => exact .fail _
  | some e => exact hf e

theorem Safe.entryQuery {α} (env : Env) (p : Str) (f : Entry → α) : Safe (entryQuery env p f) :=
  .lookup env p _ fun _ => .pure _

theorem Safe.boolQuery (env : Env) (p : Str) (f : Entry → Bool) : Safe (boolQuery env p f) := by
  refine ⟨fun s => ?_⟩
  unfold Memfs.boolQuery
  have := (Safe.absM env p).out s
  split
  · exact Outcome.total_ok _
  · rename_i h; rw [h] at this; exact absurd rfl this.1
  · exact Outcome.total_ok _

theorem Safe.mapVal {α} (f : α → Val) {m : M α} (h : Safe m) : Safe (mapVal f m) := by
  refine ⟨fun s => ?_⟩
  unfold Memfs.mapVal
  have := h.out s
  split
  · exact Outcome.total_ok _
  · exact Outcome.total_err _
  · rename_i h; rw [h] at this; exact absurd rfl this.1
  · rename_i h; rw [h] at this; exact absurd rfl this.2


/-- the operations without a fuelled loop (no traversal, no `remove_all`, no `move_p`) -/
def SimpleOp : Op → Bool
  | .mkfileM .. | .removeAll .. | .moveP ..
  | .paths .. | .dirs .. | .files .. | .allPaths .. | .allDirs .. | .allFiles ..
  | .chmod .. | .chmodB .. | .chown .. | .chownB .. | .copy .. | .copyB .. | .entries .. => false
  | _ => true

theorem step_simple_fine (env : Env) (s : State) (op : Op) (h : SimpleOp op = true) :
    Fine (step env s op).1 := by
  cases op
  case cwd | root => exact Outcome.total_ok _
  case «exists» | isFile | isDir | isSymlink | isSymlinkDir | isSymlinkFile | isExec | isReadonly =>
    exact (Safe.boolQuery _ _ _).out s
  case mkfileM | removeAll | moveP | paths | dirs | files | allPaths | allDirs | allFiles | chmod
      | chmodB | chown | chownB | copy | copyB | entries => cases h
  all_goals refine (Safe.mapVal _ ?_).out s
  case mkfile => exact .mkfileM _ _
  case mkdirP | mkdirM => exact .mkdirOp _ _ _
  case writeAll => exact .writeAllM _ _ _
  case appendAll => exact .appendAllM _ _ _
  case writeLines => exact .writeLinesM _ _ _
  case appendLines => exact .appendLinesM _ _ _
  case appendLine => exact .appendLineM _ _ _
  case readAll => exact .readAllM _ _
  case readLines => exact .readLinesM _ _
  case read => exact .cloneFileM _ _
  case remove => exact .removeM _ _
  case symlink => exact .symlinkM _ _ _
  case readlink | readlinkAbs =>
    refine .lookup _ _ _ fun _ => ?_
    exact .ite (fun _ => .fail _) fun _ => .pure _
  case setCwd => exact .setCwdM _ _
  case abs => exact .absM _ _
  case mode | uid | gid | owner | entry => exact .entryQuery _ _ _
  case hWrite => exact .openWriteM _ _ _
  case hAppend => exact .openAppendM _ _ _
  case hPut => exact .handleWriteM _ _
  case hFlush => exact .handleFlushM _
  case hDrop => exact .handleDropM _

end Rivia.Lemmas
