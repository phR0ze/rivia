/-
  Rivia.Lemmas.MoveLinkRel — `move_p` preserves every per-entry predicate that
    * survives re-keying by `movedEntry` (path := new key, `rel` recomputed for links),
    * does not look at the child-name set (`removeChild` / `addChild` of the two parents).
  Instances: the link-consistency clause `rel = relative(target, dir(key))` (the monitor
  `moved_link_rel_stale` of `Spec.classOf`) and the whole `RefineA.EntriesOk`.

  The statement is about the state component of EVERY outcome (ok, error, hang): a failing Rust
  call keeps what it mutated before the failing `?`, and those intermediate states satisfy the
  predicate as well.  No invariant is assumed: the argument only uses list membership.
-/
import Rivia.Model.MemfsOps
import Rivia.Lemmas.MovedEntry
import Rivia.Lemmas.RefineA

namespace Rivia.Lemmas.MoveLinkRel
open Rivia Rivia.Memfs Rivia.Memfs.M Rivia.File

/-- all stored `(key, entry)` pairs satisfy `P` -/
def AllEnts (P : FsPath → Entry → Prop) (s : State) : Prop := ∀ kv ∈ s.entries, P kv.1 kv.2

/-- `m` keeps `I` in every outcome and an `Ok` result satisfies `Q` -/
def Tr {α} (I : State → Prop) (m : M α) (Q : α → Prop) : Prop :=
  ∀ s, I s → I (m s).2 ∧ ∀ a, (m s).1 = .ok a → Q a

theorem tr_bind {α β} {I : State → Prop} {m : M α} {f : α → M β} {Q : α → Prop} {R : β → Prop}
    (hm : Tr I m Q) (hf : ∀ a, Q a → Tr I (f a) R) : Tr I (m >>= f) R := by
  intro s hs
  obtain ⟨h1, h2⟩ := hm s hs
  show I (M.bind m f s).2 ∧ ∀ b, (M.bind m f s).1 = .ok b → R b
  unfold M.bind
  rcases hr : m s with ⟨o, s1⟩
  rw [hr] at h1 h2
  cases o with
  | ok a => exact hf a (h2 a rfl) s1 h1
  | err k => exact ⟨h1, fun b hb => by cases hb⟩
  | panic => exact ⟨h1, fun b hb => by cases hb⟩
  | hang => exact ⟨h1, fun b hb => by cases hb⟩

theorem tr_weaken {α} {I : State → Prop} {m : M α} {Q Q' : α → Prop} (h : Tr I m Q)
    (hq : ∀ a, Q a → Q' a) : Tr I m Q' :=
  fun s hs => ⟨(h s hs).1, fun a ha => hq a ((h s hs).2 a ha)⟩

theorem tr_ite_of {α} {I : State → Prop} {c : Prop} [Decidable c] {a b : M α} {Q : α → Prop}
    (ha : c → Tr I a Q) (hb : ¬ c → Tr I b Q) : Tr I (if c then a else b) Q := by
  split
  · exact ha ‹c›
  · exact hb ‹¬ c›

theorem tr_ite {α} {I : State → Prop} {c : Prop} [Decidable c] {a b : M α} {Q : α → Prop}
    (ha : Tr I a Q) (hb : Tr I b Q) : Tr I (if c then a else b) Q :=
  tr_ite_of (fun _ => ha) (fun _ => hb)

theorem tr_then {α β} {I : State → Prop} {m : M α} {f : α → M β} {Q : β → Prop}
    (hm : Tr I m (fun _ => True)) (hf : ∀ a, Tr I (f a) Q) : Tr I (m >>= f) Q :=
  tr_bind hm fun a _ => hf a

theorem tr_pure {α} {I : State → Prop} (a : α) {Q : α → Prop} (h : Q a) : Tr I (Pure.pure a : M α) Q :=
  fun _ hs => ⟨hs, fun b hb => by cases hb; exact h⟩
theorem tr_mpure {α} {I : State → Prop} (a : α) {Q : α → Prop} (h : Q a) : Tr I (M.pure a : M α) Q :=
  fun _ hs => ⟨hs, fun b hb => by cases hb; exact h⟩
theorem tr_fail {α} {I : State → Prop} (k : ErrKind) {Q : α → Prop} : Tr I (M.fail k : M α) Q :=
  fun _ hs => ⟨hs, fun b hb => by cases hb⟩
theorem tr_fail_bind {α β} {I : State → Prop} (k : ErrKind) (f : α → M β) {Q : β → Prop} :
    Tr I (M.fail k >>= f) Q :=
  fun _ hs => ⟨hs, fun _ h => nomatch h⟩
theorem tr_hang {α} {I : State → Prop} {Q : α → Prop} : Tr I (M.hang : M α) Q :=
  fun _ hs => ⟨hs, fun b hb => by cases hb⟩
theorem tr_liftO {α} {I : State → Prop} (o : Outcome α) : Tr I (M.liftO o) (fun a => o = .ok a) :=
  fun _ hs => ⟨hs, fun _ hb => hb⟩
theorem tr_get {I : State → Prop} : Tr I M.get (fun _ => True) :=
  fun _ hs => ⟨hs, fun _ _ => trivial⟩
theorem tr_dirOf {I : State → Prop} (p : FsPath) : Tr I (dirOf p) (fun d => p ≠ [] ∧ d = p.dropLast) := by
  unfold dirOf
  split
  · exact tr_fail _
  · exact tr_mpure _ ⟨‹_›, rfl⟩
theorem tr_absM {I : State → Prop} (env : Env) (p : Str) : Tr I (absM env p) (fun _ => True) := by
  intro s hs
  have : (absM env p s).2 = s := by unfold absM; split <;> rfl
  rw [this]
  exact ⟨hs, fun _ _ => trivial⟩
theorem tr_movedRelM {I : State → Prop} (e : Entry) (dst : FsPath) :
    Tr I (movedRelM e dst) (fun r => r = movedRel e dst ∧ MovedOk e dst) := by
  intro s hs
  rcases movedRelM_cases e dst s with h | ⟨_, _, h⟩
  · rw [h]
    refine ⟨hs, fun a ha => ?_⟩
    cases ha
    refine ⟨rfl, ?_⟩
    intro hl hd
    rw [movedRelM_fail hl hd] at h
    cases h
  · rw [h]; exact ⟨hs, fun a ha => by cases ha⟩

section ents
variable {P : FsPath → Entry → Prop}

theorem mem_erase {β} {k0 : FsPath} {kv : FsPath × β} : ∀ {l : List (FsPath × β)}, kv ∈ alErase k0 l → kv ∈ l
  | [], h => by cases h
  | (k', v') :: r, h => by
    simp only [alErase] at h
    split at h
    · exact List.mem_cons_of_mem _ h
    · rcases List.mem_cons.1 h with h | h
      · rw [h]; exact List.mem_cons_self
      · exact List.mem_cons_of_mem _ (mem_erase h)

theorem mem_insert {β} {k0 : FsPath} {v0 : β} {kv : FsPath × β} :
    ∀ {l : List (FsPath × β)}, kv ∈ alInsert k0 v0 l → kv = (k0, v0) ∨ kv ∈ l
  | [], h => by simp only [alInsert, List.mem_singleton] at h; exact .inl h
  | (k', v') :: r, h => by
    simp only [alInsert] at h
    split at h
    · rcases List.mem_cons.1 h with h | h
      · exact .inl h
      · exact .inr (List.mem_cons_of_mem _ h)
    · rcases List.mem_cons.1 h with h | h
      · rw [h]; exact .inr List.mem_cons_self
      · rcases mem_insert h with h | h
        · exact .inl h
        · exact .inr (List.mem_cons_of_mem _ h)

theorem tr_getEntry (p : FsPath) : Tr (AllEnts P) (getEntry p) (fun o => ∀ e, o = some e → P p e) := by
  intro s hs
  refine ⟨hs, fun a ha => ?_⟩
  cases ha
  intro e he
  exact hs (p, e) (alLookup_mem he)

theorem tr_removeEntry (p : FsPath) :
    Tr (AllEnts P) (removeEntry p) (fun o => ∀ e, o = some e → P p e) := by
  intro s hs
  refine ⟨fun kv hkv => hs kv (mem_erase hkv), fun a ha => ?_⟩
  cases ha
  intro e he
  exact hs (p, e) (alLookup_mem he)

theorem tr_setEntry {p : FsPath} {e : Entry} (h : P p e) : Tr (AllEnts P) (setEntry p e) (fun _ => True) := by
  intro s hs
  refine ⟨fun kv hkv => ?_, fun _ _ => trivial⟩
  rcases mem_insert hkv with h1 | h1
  · rw [h1]; exact h
  · exact hs kv h1

theorem tr_getFile (p : FsPath) : Tr (AllEnts P) (getFile p) (fun _ => True) :=
  fun _ hs => ⟨hs, fun _ _ => trivial⟩
theorem tr_setFile (p : FsPath) (b : Bytes) : Tr (AllEnts P) (setFile p b) (fun _ => True) :=
  fun _ hs => ⟨hs, fun _ _ => trivial⟩
theorem tr_removeFile (p : FsPath) : Tr (AllEnts P) (removeFile p) (fun _ => True) :=
  fun _ hs => ⟨hs, fun _ _ => trivial⟩

end ents

/-- a per-entry predicate that does not look at the child-name set -/
structure EntStable (P : FsPath → Entry → Prop) : Prop where
  rmChild : ∀ k e n e', P k e → e.removeChild n = .ok e' → P k e'
  addChild : ∀ k e n b e', P k e → e.addChild n = .ok (b, e') → P k e'

/-- what `move_p` needs of a per-entry predicate -/
structure MoveStable (P : FsPath → Entry → Prop) : Prop extends EntStable P where
  moved : ∀ w e dst, P w e → MovedOk e dst → P dst (movedEntry e dst)

theorem moveLoop_tr {P : FsPath → Entry → Prop} (hP : MoveStable P) (sr dr : FsPath) (ci : Bool) :
    ∀ (f : Nat) (W : List FsPath), Tr (AllEnts P) (moveLoop sr dr ci f W) (fun _ => True) := by
  intro f
  induction f with
  | zero => intro W; rw [moveLoop]; exact tr_hang
  | succ f ih =>
    intro W
    cases W with
    | nil => rw [moveLoop]; exact tr_mpure _ trivial
    | cons w work =>
      rw [moveLoop_succ_cons]
      extract_lets body
      suffices hbody : ∀ pre, Tr (AllEnts P) (body pre) (fun _ => True) from
        tr_ite (tr_then (tr_weaken (tr_dirOf _) fun _ _ => trivial) hbody) (tr_then (tr_mpure _ trivial) hbody)
      intro pre
      refine tr_bind (tr_removeEntry _) fun o ho => ?_
      cases o with
      | none => exact tr_fail _
      | some e =>
        refine tr_bind (tr_movedRelM _ _) ?_
        rintro rel ⟨rfl, hok⟩
        refine tr_then (tr_setEntry (hP.moved w e _ (ho e rfl) hok)) fun _ => ?_
        refine tr_bind (tr_removeFile _) fun ob _ => ?_
        extract_lets kids descend reparent
        have h1 : ∀ u, Tr (AllEnts P) (descend u) (fun _ => True) := fun _ => ih _
        have h2 : ∀ u, Tr (AllEnts P) (reparent u) (fun _ => True) := by
          intro _
          refine tr_bind (tr_dirOf _) fun sd _ => ?_
          refine tr_bind (tr_getEntry _) fun o2 ho2 => ?_
          cases o2 with
          | none => exact tr_then (tr_mpure _ trivial) h1
          | some op =>
            refine tr_bind (tr_liftO _) fun op' hop' => ?_
            refine tr_then (tr_setEntry (hP.rmChild _ _ _ _ (ho2 op rfl) hop')) fun _ => ?_
            refine tr_bind (tr_dirOf _) fun dd _ => ?_
            refine tr_bind (tr_getEntry _) fun o3 ho3 => ?_
            cases o3 with
            | none => exact tr_then (tr_fail _) h1
            | some np =>
              refine tr_bind (tr_liftO _) ?_
              rintro ⟨b, np'⟩ hnp'
              exact tr_then (tr_setEntry (hP.addChild _ _ _ _ _ (ho3 np rfl) hnp')) h1
        cases ob with
        | none => exact tr_then (tr_mpure _ trivial) h2
        | some bts => exact tr_then (tr_setFile _ _) h2

/-- Every statement of `moveM` before the loop is a read, or a check whose failing side stops; only
    the loop writes. -/
theorem moveM_tr {P : FsPath → Entry → Prop} (hP : MoveStable P) (env : Env) (src dst : Str) :
    Tr (AllEnts P) (moveM env src dst) (fun _ => True) := by
  unfold moveM
  refine tr_then (tr_absM _ _) fun sk => tr_then (tr_absM _ _) fun dk => tr_then tr_get fun st => ?_
  refine tr_bind (tr_getEntry _) fun srcO _ => ?_
  cases srcO with
  | none => exact tr_fail_bind _ _
  | some srcE =>
    refine tr_then (tr_mpure _ trivial) fun _ => tr_ite (tr_pure _ trivial) (tr_ite (tr_fail_bind _ _) ?_)
    refine tr_bind (tr_dirOf _) fun dd _ => tr_bind (tr_getEntry _) fun parentO _ => ?_
    cases parentO with
    | none => exact tr_fail_bind _ _
    | some pe =>
      refine tr_ite (tr_then (tr_mpure _ trivial) fun _ => ?_) (tr_fail_bind _ _)
      refine tr_bind (tr_getEntry _) fun dstO _ => ?_
      cases dstO with
      | none => exact tr_then (tr_mpure _ trivial) fun _ => moveLoop_tr hP _ _ _ _ _
      | some x =>
        exact tr_ite (tr_then (tr_mpure _ trivial) fun _ => moveLoop_tr hP _ _ _ _ _) (tr_fail_bind _ _)
/-- **`move_p` keeps every `MoveStable` per-entry predicate, whatever the outcome** -/
theorem moveM_allEnts {P : FsPath → Entry → Prop} (hP : MoveStable P) (env : Env) (a b : Str)
    (s : State) (h : AllEnts P s) : AllEnts P (moveM env a b s).2 :=
  (moveM_tr hP env a b s h).1

theorem step_moveP_state (env : Env) (a b : Str) (s : State) :
    (step env s (.moveP a b)).2 = (moveM env a b s).2 := by
  simp only [step]
  unfold mapVal
  rcases moveM env a b s with ⟨o, s'⟩
  cases o <;> rfl

theorem step_moveP_allEnts {P : FsPath → Entry → Prop} (hP : MoveStable P) (env : Env) (a b : Str)
    (s : State) (h : AllEnts P s) : AllEnts P (step env s (.moveP a b)).2 := by
  rw [step_moveP_state]; exact moveM_allEnts hP env a b s h

/-! ### instances -/

/-- the link-consistency clause, in the form of the monitor `moved_link_rel_stale` of
    `Spec.classOf`: the stored relative target of a link is its target relative to the directory of
    its key -/
def LinkRelAt (k : FsPath) (e : Entry) : Prop :=
  e.link = true → e.rel = relative (renderP (e.alt.getD [])) (renderP k.dropLast)

instance (k : FsPath) (e : Entry) : Decidable (LinkRelAt k e) := by unfold LinkRelAt; infer_instance

theorem removeChild_fields {e e' : Entry} {n : Str} (h : e.removeChild n = .ok e') :
    e'.link = e.link ∧ e'.alt = e.alt ∧ e'.rel = e.rel ∧ e'.dir = e.dir ∧ e'.file = e.file ∧
    e'.mode = e.mode := by
  unfold Entry.removeChild at h
  split at h
  · cases h
  · split at h <;> (cases h; exact ⟨rfl, rfl, rfl, rfl, rfl, rfl⟩)

theorem addChild_fields {e e' : Entry} {n : Str} {b : Bool} (h : e.addChild n = .ok (b, e')) :
    e'.link = e.link ∧ e'.alt = e.alt ∧ e'.rel = e.rel ∧ e'.dir = e.dir ∧ e'.file = e.file ∧
    e'.mode = e.mode := by
  unfold Entry.addChild at h
  split at h
  · cases h
  · split at h <;> (cases h; exact ⟨rfl, rfl, rfl, rfl, rfl, rfl⟩)

/-- the moved entry satisfies the clause at its new key — whether or not it did at the old one -/
theorem linkRelAt_moved (e : Entry) (dst : FsPath) : LinkRelAt dst (movedEntry e dst) := by
  intro hl
  have hl' : e.link = true := hl
  show movedRel e dst = _
  unfold movedRel
  rw [if_pos hl']
  rfl

theorem moveStable_linkRel : MoveStable LinkRelAt where
  moved := fun _ e dst _ _ => linkRelAt_moved e dst
  rmChild := by
    intro k e n e' h hr hl
    obtain ⟨h1, h2, h3, _⟩ := removeChild_fields hr
    rw [h3, h2]; exact h (h1 ▸ hl)
  addChild := by
    intro k e n b e' h hr hl
    obtain ⟨h1, h2, h3, _⟩ := addChild_fields hr
    rw [h3, h2]; exact h (h1 ▸ hl)

/-- `RefineA.entryOkB` (flags, canonical mode, link clause with an existing target) -/
theorem moveStable_entryOk : MoveStable (fun k e => RefineA.entryOkB k e = true) where
  moved := by
    intro w e dst h _
    have hk : Spec.kindOf (movedEntry e dst) = Spec.kindOf e := rfl
    simp only [RefineA.entryOkB, Bool.and_eq_true, decide_eq_true_eq, Bool.or_eq_true,
      Bool.not_eq_true'] at h ⊢
    obtain ⟨⟨h1, h2⟩, h3⟩ := h
    refine ⟨⟨h1, by rw [hk]; exact h2⟩, ?_⟩
    cases hl : e.link with
    | false => exact .inl hl
    | true =>
      right
      rcases h3 with h3 | h3
      · rw [hl] at h3; cases h3
      · show (match e.alt with
          | some t => decide (movedRel e dst = relative (renderP t) (renderP dst.dropLast))
          | none => false) = true
        cases ha : e.alt with
        | none => rw [ha] at h3; cases h3
        | some t =>
          simp only [decide_eq_true_eq]
          unfold movedRel
          rw [if_pos hl, ha]; rfl
  rmChild := by
    intro k e n e' h hr
    obtain ⟨h1, h2, h3, h4, h5, h6⟩ := removeChild_fields hr
    have hk : Spec.kindOf e' = Spec.kindOf e := by unfold Spec.kindOf; rw [h1, h4]
    unfold RefineA.entryOkB at h ⊢
    rw [hk, h1, h2, h3, h4, h5, h6]; exact h
  addChild := by
    intro k e n b e' h hr
    obtain ⟨h1, h2, h3, h4, h5, h6⟩ := addChild_fields hr
    have hk : Spec.kindOf e' = Spec.kindOf e := by unfold Spec.kindOf; rw [h1, h4]
    unfold RefineA.entryOkB at h ⊢
    rw [hk, h1, h2, h3, h4, h5, h6]; exact h

/-! ### the state-level forms -/

/-- every link entry of the state carries the relative target that belongs to its key (the monitor
    `moved_link_rel_stale` of `Spec.classOf` can not fire on such a state, `classOf_readlink_silent`) -/
def LinkRelOk (s : State) : Prop := ∀ kv ∈ s.entries, LinkRelAt kv.1 kv.2

instance (s : State) : Decidable (LinkRelOk s) := by unfold LinkRelOk; infer_instance

theorem linkRelOk_lookup {s : State} (h : LinkRelOk s) {k : FsPath} {e : Entry}
    (hk : alLookup k s.entries = some e) : LinkRelAt k e := h (k, e) (alLookup_mem hk)

theorem entriesOk_iff (s : State) :
    RefineA.EntriesOk s ↔ AllEnts (fun k e => RefineA.entryOkB k e = true) s := by
  unfold RefineA.EntriesOk AllEnts
  rw [List.all_eq_true]

/-- the link clause of `RefineA.EntriesOk` is `LinkRelOk` (plus: the target exists as a key value) -/
theorem linkRelOk_of_entriesOk {s : State} (h : RefineA.EntriesOk s) : LinkRelOk s := by
  intro kv hkv hl
  have h1 := (entriesOk_iff s).1 h kv hkv
  simp only [RefineA.entryOkB, Bool.and_eq_true, decide_eq_true_eq, Bool.or_eq_true,
    Bool.not_eq_true'] at h1
  rcases h1.2 with h3 | h3
  · rw [hl] at h3; cases h3
  · cases ha : kv.2.alt with
    | none => rw [ha] at h3; cases h3
    | some t => rw [ha] at h3; simpa using h3

theorem step_moveP_linkRelOk (env : Env) (a b : Str) (s : State) (h : LinkRelOk s) :
    LinkRelOk (step env s (.moveP a b)).2 :=
  step_moveP_allEnts moveStable_linkRel env a b s h

theorem step_moveP_entriesOk (env : Env) (a b : Str) (s : State) (h : RefineA.EntriesOk s) :
    RefineA.EntriesOk (step env s (.moveP a b)).2 :=
  (entriesOk_iff _).2 (step_moveP_allEnts moveStable_entryOk env a b s ((entriesOk_iff s).1 h))

/-- on a `LinkRelOk` state the consistency monitor of `classOf` is silent for every `readlink` -/
theorem classOf_readlink_silent {s : State} (h : LinkRelOk s) (env : Env) (p : Str) :
    Spec.classOf s env (.readlink p) = "-" := by
  have hdef : Spec.classOf s env (.readlink p) = (match Spec.entryAt s env p with
      | some (k, some e) =>
        if e.link && e.rel ≠ relative (renderP (e.alt.getD [])) (renderP k.dropLast) then "moved_link_rel_stale" else "-"
      | _ => "-") := rfl
  rw [hdef]
  split
  · next k e heq =>
    have he : alLookup k s.entries = some e := by
      unfold Spec.entryAt at heq
      split at heq
      · simp only [Option.some.injEq, Prod.mk.injEq] at heq
        obtain ⟨h1, h2⟩ := heq
        rw [← h1]; exact h2
      · cases heq
    have hr := linkRelOk_lookup h he
    cases hl : e.link with
    | false => simp
    | true => simp [hr hl]
  · rfl

end Rivia.Lemmas.MoveLinkRel
