/-
  Rivia.Lemmas.RefineA — C01 (group A): the Memfs model refines the reference tree filesystem for
  the queries and the simple creators (`cwd … readlinkAbs, setCwd, mkfile, mkdirP, mkdirM,
  writeAll, appendAll`).

  `EntriesOk` is an extra per-entry invariant that `Inv` (C03) does not contain and without which
  the statement is false (concrete counterexamples: `Rivia/Props/C01A.lean`, `C01_cex_*`).
  `KeysWf` belongs to the statement as given (Props/C01A); no group-A proof needs it.
-/
import Rivia.Spec.MemfsJudge
import Rivia.Lemmas.ModeBits
import Rivia.Lemmas.InvBBase

namespace Rivia.Lemmas.RefineA
open Rivia Rivia.Memfs Rivia.File Rivia.Spec Rivia.Spec.TreeFs Rivia.Lemmas.ModeBits

theorem M_bind_apply {α β} (m : M α) (f : α → M β) (s : State) :
    (m >>= f) s = match m s with
      | (.ok a, s') => f a s'
      | (.err k, s') => (.err k, s')
      | (.panic, s') => (.panic, s')
      | (.hang, s') => (.hang, s') := rfl
theorem M_pure_apply {α} (a : α) (s : State) : (Pure.pure a : M α) s = (.ok a, s) := rfl

theorem M_bind_assoc {α β γ} (m : M α) (f : α → M β) (g : β → M γ) :
    (m >>= f) >>= g = m >>= fun a => f a >>= g := by
  funext s
  simp only [M_bind_apply]
  rcases m s with ⟨o, s'⟩
  cases o <;> rfl

theorem M_bind_pure {α} (m : M α) : m >>= Pure.pure = m := by
  funext s
  simp only [M_bind_apply]
  rcases m s with ⟨o, s'⟩
  cases o <;> rfl

theorem forM_nil_apply (f : FsPath → M Unit) (s : State) : ([] : List FsPath).forM f s = (.ok (), s) := rfl

theorem forM_cons_apply (f : FsPath → M Unit) (q : FsPath) (qs : List FsPath) (s : State) :
    (q :: qs).forM f s = match f q s with
      | (.ok _, s') => qs.forM f s'
      | (.err k, s') => (.err k, s')
      | (.panic, s') => (.panic, s')
      | (.hang, s') => (.hang, s') := by
  show (f q >>= fun _ => qs.forM f) s = _
  rw [M_bind_apply]
  rcases f q s with ⟨o, s'⟩
  cases o <;> rfl

/-- on sub-patterns subtraction is XOR -/
theorem or_sub_of_and_eq (t m : Nat) (h : m &&& t = t) : t ||| (m - t) = m := by
  have hx : t &&& (m ^^^ t) = 0 := by
    rw [Nat.and_xor_distrib_left, Nat.and_comm, h, Nat.and_self, Nat.xor_self]
  have hm : t ||| (m ^^^ t) = m := by
    apply Nat.eq_of_testBit_eq
    intro i
    have hi : (m.testBit i && t.testBit i) = t.testBit i := by rw [← Nat.testBit_and, h]
    rw [Nat.testBit_or, Nat.testBit_xor]
    revert hi
    cases m.testBit i <;> cases t.testBit i <;> decide
  have hs : m - t = m ^^^ t :=
    Nat.sub_eq_of_eq_add (by rw [Nat.add_comm, ← or_eq_add_of_and_eq_zero t _ hx, hm])
  rw [hs, hm]

theorem or_and_self (m t : Nat) : (m ||| t) &&& t = t := by
  apply Nat.eq_of_testBit_eq
  intro i
  simp only [Nat.testBit_and, Nat.testBit_or]
  cases m.testBit i <;> cases t.testBit i <;> rfl

/-! ### the abstraction, pointwise -/

theorem get_absS (s : State) (k : FsPath) :
    TreeFs.get (absS s) k = (alLookup k s.entries).map (absNode s k) := by
  unfold TreeFs.get absS
  simp only
  generalize s.entries = l
  induction l with
  | nil => rfl
  | cons h t ih =>
    obtain ⟨a, b⟩ := h
    simp only [List.map, alLookup]
    by_cases h1 : a = k
    · subst h1; simp
    · simp [h1, ih]

theorem get_put (t : T) (p : FsPath) (n : Node) (k : FsPath) :
    TreeFs.get (put t p n) k = if p = k then some n else TreeFs.get t k := by
  simp only [TreeFs.get, put, alLookup_alInsert]

theorem absNode_congr {s1 s2 : State} {k : FsPath} (e : Entry)
    (h : alLookup k s1.files = alLookup k s2.files) : absNode s1 k e = absNode s2 k e := by
  simp only [absNode, h]

theorem absNode_kind (s : State) (k : FsPath) (e : Entry) : (absNode s k e).kind = kindOf e := rfl

theorem kind_dir_iff (e : Entry) : (kindOf e = .dir) ↔ (e.dir = true ∧ e.link = false) := by
  unfold kindOf; cases e.link <;> cases e.dir <;> simp

theorem kind_link_iff (e : Entry) (b : Bool) : (kindOf e = .link b) ↔ (e.link = true ∧ e.dir = b) := by
  unfold kindOf; cases e.link <;> cases e.dir <;> simp

/-! ### the relations of the refinement statement -/

/-- extensional equality of reference states (the order of the node list is irrelevant) -/
def TEquiv (a b : T) : Prop := a.cwd = b.cwd ∧ ∀ k, TreeFs.get a k = TreeFs.get b k

theorem TEquiv.refl (a : T) : TEquiv a a := ⟨rfl, fun _ => rfl⟩

/-- a model outcome is allowed by a reference result -/
def ResMatch : Outcome Val → R Val → Prop
  | _, .unspecified => True
  | .ok v, .ok w => v = w
  | .err k, .err (some k') => k = k'
  | .err _, .err none => True
  | _, _ => False

@[simp] theorem resMatch_unspec (o : Outcome Val) : ResMatch o .unspecified := by
  cases o <;> simp [ResMatch]
@[simp] theorem resMatch_ok (v w : Val) : ResMatch (.ok v) (.ok w) ↔ v = w := by simp [ResMatch]
@[simp] theorem resMatch_err_some (k k' : ErrKind) : ResMatch (.err k) (.err (some k')) ↔ k = k' := by
  simp [ResMatch]
@[simp] theorem resMatch_err_none (k : ErrKind) : ResMatch (.err k) (.err none) := by simp [ResMatch]

/-- names of keys: non-empty, no `/`, not `.` or `..` -/
def nameOk (n : Str) : Bool := decide (n ≠ []) && decide ('/' ∉ n) && decide (n ≠ ['.']) && decide (n ≠ ['.', '.'])
def keyOk (k : FsPath) : Bool := k.all nameOk
def KeysWf (s : State) : Prop :=
  (s.entries.all (fun kv => keyOk kv.1) && s.files.all (fun kv => keyOk kv.1) && keyOk s.cwd) = true
instance (s : State) : Decidable (KeysWf s) := by unfold KeysWf; infer_instance

/-- per-entry well-formedness that `Inv` does not state: exactly one of `dir`/`file`; the mode is
    canonical: it carries the type bits of the kind and, beyond them, permission bits only (true of
    every `optsMode` result since the `mode_type_bits` repair); a link has a target and `rel` is that
    target relative to the link's directory -/
def entryOkB (k : FsPath) (e : Entry) : Bool :=
  decide (e.dir = !e.file) &&
  (decide (e.mode &&& typeBits (kindOf e) = typeBits (kindOf e)) &&
    decide (e.mode - typeBits (kindOf e) < 0o10000)) &&
  (!e.link || match e.alt with
    | some t => decide (e.rel = relative (renderP t) (renderP k.dropLast))
    | none => false)

def EntriesOk (s : State) : Prop := s.entries.all (fun kv => entryOkB kv.1 kv.2) = true
instance (s : State) : Decidable (EntriesOk s) := by unfold EntriesOk; infer_instance

structure EntryFacts (k : FsPath) (e : Entry) : Prop where
  flags : e.dir = !e.file
  modeWf : e.mode &&& typeBits (kindOf e) = typeBits (kindOf e)
  permWf : e.mode - typeBits (kindOf e) < 0o10000
  link : e.link = true → ∃ t, e.alt = some t ∧ e.rel = relative (renderP t) (renderP k.dropLast)

theorem entryFacts_of_ok {k : FsPath} {e : Entry} (h : entryOkB k e = true) : EntryFacts k e := by
  simp only [entryOkB, Bool.and_eq_true, decide_eq_true_eq, Bool.or_eq_true, Bool.not_eq_true'] at h
  obtain ⟨⟨h1, h2⟩, h3⟩ := h
  refine ⟨h1, h2.1, h2.2, fun hl => ?_⟩
  rw [hl] at h3
  cases ha : e.alt with
  | none => rw [ha] at h3; simp at h3
  | some t => rw [ha] at h3; exact ⟨t, rfl, by simpa using h3⟩

theorem entriesOk_lookup {s : State} (h : EntriesOk s) {k : FsPath} {e : Entry}
    (hk : alLookup k s.entries = some e) : EntryFacts k e :=
  entryFacts_of_ok (List.all_eq_true.mp h _ (alLookup_mem hk))

theorem kind_file_iff {k : FsPath} {e : Entry} (h : EntryFacts k e) :
    (kindOf e = .file) ↔ (e.file = true ∧ e.link = false) := by
  have := h.flags
  unfold kindOf; cases hl : e.link <;> cases hd : e.dir <;> cases hf : e.file <;> simp_all

theorem canon_of_wf (m T : Nat) (hT0 : T &&& 0o7777 = 0) (hw : m &&& T = T) (hp : m - T < 0o10000) :
    (m &&& 0o7777) ||| T = m := by
  have hm := or_sub_of_and_eq _ _ hw
  generalize hq : m - T = q at *
  have hq' := and_perm_of_lt q hp
  have h1 : m &&& 0o7777 = q := by rw [← hm, Nat.and_or_distrib_right, hT0, hq']; simp
  rw [h1, Nat.or_comm]; exact hm

theorem absNode_mode {s : State} {k : FsPath} {e : Entry} (h : EntryFacts k e) :
    (absNode s k e).mode = e.mode :=
  or_sub_of_and_eq _ _ h.modeWf

/-! ### what `Inv` gives -/

structure InvFacts (s : State) : Prop where
  rootAbs : s.root = []
  rootDir : ∃ e, alLookup [] s.entries = some e ∧ e.dir = true ∧ e.link = false
  parent : ∀ k e, alLookup k s.entries = some e → k ≠ [] →
    ∃ pe fs, alLookup k.dropLast s.entries = some pe ∧ pe.dir = true ∧ pe.link = false ∧
      pe.files = some fs ∧ baseName k ∈ fs
  listed : ∀ k e fs n, alLookup k s.entries = some e → e.files = some fs → n ∈ fs →
    ∃ x, alLookup (k ++ [n]) s.entries = some x
  data : ∀ k e, alLookup k s.entries = some e → (alLookup k s.files).isSome = (e.file && !e.link)
  dangling : ∀ k, alLookup k s.entries = none → alLookup k s.files = none

theorem inv_facts {s : State} (h : Spec.Inv s) : InvFacts s := by
  obtain ⟨_, _, hr, hL⟩ := (InvB.inv_iff s).1 h
  refine ⟨hr, hL.root, hL.parent, fun k e fs n hk hf hn => ?_, fun k e hk => ?_, fun k hk => ?_⟩
  · exact Option.isSome_iff_exists.mp (hL.kids k e fs n hk hf hn)
  · have := hL.data k e hk
    unfold InvB.FL at this
    cases h1 : e.file <;> cases h2 : e.link <;> cases h3 : (alLookup k s.files).isSome <;> simp_all
  · have := hL.dangling k
    unfold InvB.FL InvB.EL at this
    rw [hk] at this
    cases h3 : alLookup k s.files with
    | none => rfl
    | some b => rw [h3] at this; exact absurd (this rfl) (by decide)

/-! ### evaluating the state monad -/

syntax "msimp" (" [" Lean.Parser.Tactic.simpLemma,* "]")? : tactic
macro_rules
  | `(tactic| msimp) => `(tactic| msimp [])
  | `(tactic| msimp [$ls,*]) =>
    `(tactic| simp only [mapVal, M_bind_apply, M_pure_apply, M.pure, M.fail, M.liftO, M.modify, M.get, getEntry, getFile,
      setFile, setEntry, Bool.not_true, Bool.not_false, Bool.false_eq_true, if_true, if_false, $ls,*])

theorem absM_eq (env : Env) (p : Str) (s : State) : absM env p s = (resolve env (absS s) p, s) := by
  unfold absM resolve
  show _ = ((match absWith env (renderP s.cwd) p with | .ok a => _ | .err k => _ | .panic => _ | .hang => _), s)
  cases absWith env (renderP s.cwd) p <;> rfl

/-- one step of the model simulates one step of the reference -/
def Sim (m : Outcome Val × State) (x : SR) : Prop :=
  ResMatch m.1 x.1 ∧ (x.1 ≠ .unspecified → TEquiv (absS m.2) x.2)

theorem sim_same {s : State} {o : Outcome Val} {r : R Val} (h : ResMatch o r) : Sim (o, s) (r, absS s) :=
  ⟨h, fun _ => TEquiv.refl _⟩

theorem sim_unspec (m : Outcome Val × State) (t : T) : Sim m (.unspecified, t) :=
  ⟨resMatch_unspec _, fun h => absurd rfl h⟩

/-- the per-operation statement: whatever the reference answers, the model step simulates it -/
def Refines (env : Env) (s : State) (op : Op) : Prop :=
  ∀ x, specStep env (absS s) op = some x → Sim (step env s op) x

theorem refines_of {env : Env} {s : State} {op : Op} {x : SR} (h : specStep env (absS s) op = some x)
    (hs : Sim (step env s op) x) : Refines env s op := by
  intro y hy
  rw [h] at hy
  cases hy
  exact hs

theorem sim_withPath {α} (env : Env) (p : Str) (s : State) (v : α → Val) (m : FsPath → M α)
    (k : FsPath → SR) (h : ∀ a, Sim (mapVal v (m a) s) (k a)) :
    Sim (mapVal v (absM env p >>= m) s) (withPath env (absS s) p k) := by
  unfold withPath mapVal
  simp only [M_bind_apply, absM_eq]
  cases hr : resolve env (absS s) p with
  | ok a => exact h a
  | err e => exact sim_same (by simp)
  | panic => exact sim_unspec _ _
  | hang => exact sim_unspec _ _

/-! ### queries -/

theorem sim_boolQ (env : Env) (p : Str) (s : State) (f : Entry → Bool) (P : Node → Bool)
    (h : ∀ a e, alLookup a s.entries = some e → (P (absNode s a e) = true ↔ f e = true)) :
    Sim (boolQuery env p f s)
      (boolQ env (absS s) p fun a => match TreeFs.get (absS s) a with | some n => P n | none => false) := by
  unfold boolQuery boolQ
  simp only [absM_eq]
  cases hr : resolve env (absS s) p with
  | ok a =>
    refine sim_same ((resMatch_ok _ _).2 ?_)
    rw [get_absS]
    cases he : alLookup a s.entries with
    | none => rfl
    | some e => exact congrArg Val.bool (Bool.eq_iff_iff.mpr (h a e he)).symm
  | err e => exact sim_same (by simp)
  | panic => exact sim_unspec _ _
  | hang => exact sim_unspec _ _

theorem sim_nodeQ {α} (env : Env) (p : Str) (s : State) (f : Entry → α) (v : α → Val) (g : Node → Val)
    (h : ∀ a e, alLookup a s.entries = some e → g (absNode s a e) = v (f e)) :
    Sim (mapVal v (entryQuery env p f) s) (nodeQ env (absS s) p g) := by
  unfold nodeQ
  refine sim_withPath env p s v _ _ ?_
  intro a
  simp only [mapVal, M_bind_apply, getEntry, get_absS]
  cases he : alLookup a s.entries with
  | none => exact sim_same (by simp)
  | some e => exact sim_same (by simp [h a e he])

variable (env : Env) (s : State)

theorem sim_cwd : Refines env s .cwd :=
  refines_of rfl <| sim_same (by simp [absS])

theorem sim_root (hI : InvFacts s) : Refines env s .root :=
  refines_of rfl <| sim_same (by simp [hI.rootAbs])

theorem sim_abs (p : Str) : Refines env s (.abs p) :=
  refines_of rfl <| by
    have := sim_withPath env p s Val.path Pure.pure (fun a => (.ok (.path a), absS s)) fun a => sim_same (by simp)
    rwa [M_bind_pure] at this

section
variable (p : Str)

theorem sim_exists : Refines env s (.exists p) :=
  refines_of rfl <| by
    have h : (fun a => (TreeFs.get (absS s) a).isSome) =
        fun a => match TreeFs.get (absS s) a with | some _ => true | none => false :=
      funext fun a => by cases TreeFs.get (absS s) a <;> rfl
    rw [h]
    exact sim_boolQ env p s _ (fun _ => true) fun _ _ _ => Iff.rfl

theorem sim_isDir : Refines env s (.isDir p) :=
  refines_of rfl <| sim_boolQ env p s _ (fun n => n.kind = .dir) fun _ e _ => by simp [absNode_kind, kind_dir_iff]

theorem sim_isFile (hOk : EntriesOk s) : Refines env s (.isFile p) :=
  refines_of rfl <| sim_boolQ env p s _ (fun n => n.kind = .file) fun _ e he => by
    simp [absNode_kind, kind_file_iff (entriesOk_lookup hOk he)]

theorem sim_isSymlink : Refines env s (.isSymlink p) :=
  refines_of rfl <| sim_boolQ env p s _ (fun n => match n.kind with | .link _ => true | _ => false) fun _ e _ => by
    unfold absNode kindOf; cases e.link <;> cases e.dir <;> simp

theorem sim_isSymlinkDir : Refines env s (.isSymlinkDir p) :=
  refines_of rfl <| sim_boolQ env p s _ (fun n => n.kind = .link true) fun _ e _ => by
    simp [absNode_kind, kind_link_iff]

theorem sim_isSymlinkFile (hOk : EntriesOk s) : Refines env s (.isSymlinkFile p) :=
  refines_of rfl <| sim_boolQ env p s _ (fun n => n.kind = .link false) fun _ e he => by
    have := (entriesOk_lookup hOk he).flags
    cases hf : e.file <;> simp_all [absNode_kind, kind_link_iff]

theorem sim_isExec (hOk : EntriesOk s) : Refines env s (.isExec p) :=
  refines_of rfl <| sim_boolQ env p s _ (fun n => n.mode &&& 0o111 != 0) fun _ _ he => by
    rw [absNode_mode (entriesOk_lookup hOk he)]; rfl

theorem sim_isReadonly (hOk : EntriesOk s) : Refines env s (.isReadonly p) :=
  refines_of rfl <| sim_boolQ env p s _ (fun n => n.mode &&& 0o222 == 0) fun _ _ he => by
    rw [absNode_mode (entriesOk_lookup hOk he)]; rfl

theorem sim_mode (hOk : EntriesOk s) : Refines env s (.mode p) :=
  refines_of rfl <| sim_nodeQ env p s _ _ _ fun _ _ he => by rw [absNode_mode (entriesOk_lookup hOk he)]

theorem sim_uid : Refines env s (.uid p) :=
  refines_of rfl <| sim_nodeQ env p s _ _ _ fun _ _ _ => rfl

theorem sim_gid : Refines env s (.gid p) :=
  refines_of rfl <| sim_nodeQ env p s _ _ _ fun _ _ _ => rfl

theorem sim_owner : Refines env s (.owner p) :=
  refines_of rfl <| sim_nodeQ env p s _ _ _ fun _ _ _ => rfl

end

/-! ### reading a file -/

section
variable (p : Str)

/-- `_clone_file` after path resolution -/
def cloneK (p : FsPath) : M Bytes := do
  match (← getEntry p) with
  | some e => if !e.file then M.fail .isNotFile else M.pure ()
  | none => M.pure ()
  match (← getFile p) with
  | some b => return b
  | none => M.fail .doesNotExist

theorem cloneFileM_eq : cloneFileM env p = absM env p >>= cloneK := rfl

theorem cloneK_spec (hI : InvFacts s) (hOk : EntriesOk s) (a : FsPath) :
    ∃ o, cloneK a s = (o, s) ∧
      match TreeFs.get (absS s) a with
      | none => o = .err .doesNotExist
      | some n => if n.kind = .file then o = .ok n.data
        else if n.kind = .dir then o = .err .isNotFile else ∃ k, o = .err k := by
  simp only [get_absS, cloneK]
  cases he : alLookup a s.entries with
  | none =>
    simp only [M_bind_apply, M.pure, M.fail, getEntry, getFile, he, hI.dangling a he, Option.map]
    exact ⟨_, rfl, rfl⟩
  | some e =>
    have hfl := (entriesOk_lookup hOk he).flags
    have hdata := hI.data a e he
    simp only [Option.map, absNode_kind]
    -- `dir` is `!file`, and bytes are stored iff `file ∧ ¬link`
    cases hf : e.file <;> cases hl : e.link <;> rw [hf] at hfl <;> rw [hf, hl] at hdata
    · simp only [M_bind_apply, M.fail, getEntry, Bool.not_false, Bool.false_eq_true, if_true, if_false, he, hf,
        kindOf, hl, hfl]
      exact ⟨_, rfl, rfl⟩
    · simp only [M_bind_apply, M.fail, getEntry, Bool.not_false, if_true, he, hf, kindOf, hl, hfl]
      exact ⟨_, rfl, _, rfl⟩
    · cases hb : alLookup a s.files with
      | none => rw [hb] at hdata; cases hdata
      | some b =>
        simp only [M_bind_apply, M_pure_apply, M.pure, getEntry, getFile, Bool.not_true, Bool.false_eq_true, if_true,
          if_false, he, hf, kindOf, hl, hfl, hb, absNode, Option.getD]
        exact ⟨_, rfl, rfl⟩
    · cases hb : alLookup a s.files with
      | some b => rw [hb] at hdata; cases hdata
      | none =>
        simp only [M_bind_apply, M.pure, M.fail, getEntry, getFile, Bool.not_true, Bool.false_eq_true, if_true,
          if_false, he, hf, kindOf, hl, hfl, hb]
        exact ⟨_, rfl, _, rfl⟩

/-- the three reading operations: `_clone_file`, then a continuation `g` that the reference mirrors by `F` -/
theorem sim_clone {α} (hI : InvFacts s) (hOk : EntriesOk s) (v : α → Val) (g : Bytes → M α) (F : Bytes → SR)
    (hg : ∀ b, Sim (mapVal v (g b) s) (F b)) :
    Sim (mapVal v (cloneFileM env p >>= g) s)
      (withPath env (absS s) p fun a =>
        match TreeFs.get (absS s) a with
        | none => (.err (some .doesNotExist), absS s)
        | some n => if n.kind = .file then F n.data
          else if n.kind = .dir then (.err (some .isNotFile), absS s) else (.err none, absS s)) := by
  rw [cloneFileM_eq, M_bind_assoc]
  refine sim_withPath env p s v _ _ fun a => ?_
  obtain ⟨o, h1, h2⟩ := cloneK_spec s hI hOk a
  unfold mapVal
  rw [M_bind_apply, h1]
  cases hg' : TreeFs.get (absS s) a with
  | none => rw [hg'] at h2; subst h2; exact sim_same (by simp)
  | some n =>
    rw [hg'] at h2
    simp only at h2 ⊢
    by_cases hk : n.kind = .file
    · rw [if_pos hk] at h2 ⊢; subst h2; exact hg n.data
    · rw [if_neg hk] at h2 ⊢
      by_cases hk2 : n.kind = .dir
      · rw [if_pos hk2] at h2 ⊢; subst h2; exact sim_same (by simp)
      · rw [if_neg hk2] at h2 ⊢; obtain ⟨k, rfl⟩ := h2; exact sim_same (by simp)

theorem sim_read (hI : InvFacts s) (hOk : EntriesOk s) : Refines env s (.read p) :=
  refines_of rfl <| by
    have := sim_clone env s p hI hOk Val.bytes Pure.pure (fun b => (.ok (.bytes b), absS s)) fun b => sim_same (by simp)
    rwa [M_bind_pure] at this

theorem sim_readAll (hI : InvFacts s) (hOk : EntriesOk s) : Refines env s (.readAll p) :=
  refines_of rfl <| sim_clone env s p hI hOk Val.str _
    (fun b => match decodeUtf8 b with | some x => (.ok (.str x), absS s) | none => (.err none, absS s))
    fun b => by cases decodeUtf8 b <;> exact sim_same (by simp)

theorem sim_linkQ {α} (hOk : EntriesOk s) (v : α → Val) (f : Entry → α) (G : FsPath → FsPath → Val)
    (h : ∀ a e tg, EntryFacts a e → e.alt = some tg → e.rel = relative (renderP tg) (renderP a.dropLast) →
      v (f e) = G a tg) :
    Sim (mapVal v (do
        let k ← absM env p
        match (← getEntry k) with
        | some e => if !e.link then M.fail .isNotSymlink else return f e
        | none => M.fail .doesNotExist) s)
      (withPath env (absS s) p fun a =>
        match TreeFs.get (absS s) a with
        | some n => (match n.kind, n.target with
          | .link _, some tg => (.ok (G a tg), absS s)
          | _, _ => (.err none, absS s))
        | none => (.err none, absS s)) := by
  refine sim_withPath env p s v _ _ fun a => ?_
  simp only [get_absS, mapVal, M_bind_apply, getEntry]
  cases he : alLookup a s.entries with
  | none => exact sim_same (by simp)
  | some e =>
    have hf := entriesOk_lookup hOk he
    simp only [Option.map, absNode, kindOf]
    cases hl : e.link with
    | false => cases e.dir <;> exact sim_same (by simp)
    | true =>
      obtain ⟨tg, h1, h2⟩ := hf.link hl
      rw [h1]
      exact sim_same (by simp [h a e tg hf h1 h2])

theorem sim_readlinkAbs (hOk : EntriesOk s) : Refines env s (.readlinkAbs p) :=
  refines_of rfl <| sim_linkQ env s p hOk Val.path (fun e => e.alt.getD []) (fun _ tg => .path tg)
    fun _ _ _ _ h1 _ => by rw [h1]; rfl

theorem sim_readlink (hOk : EntriesOk s) : Refines env s (.readlink p) :=
  refines_of rfl <| sim_linkQ env s p hOk Val.str (·.rel)
    (fun a tg => .str (relative (renderP tg) (renderP a.dropLast))) fun _ _ _ _ _ h2 => by rw [h2]

theorem sim_setCwd : Refines env s (.setCwd p) :=
  refines_of rfl <| by
    refine sim_withPath env p s Val.path _ _ fun a => ?_
    simp only [TreeFs.setCwd, get_absS, mapVal, M_bind_apply, getEntry]
    cases he : alLookup a s.entries with
    | none => exact sim_same (by simp)
    | some e =>
      -- `set_cwd` only asks for the `dir` flag: a link to a directory passes, which the reference leaves open
      cases hd : e.dir <;> cases hl : e.link <;> simp only [Option.map, absNode_kind, kindOf, hd, hl]
      · exact sim_same (by simp)
      · exact sim_same (by simp)
      · exact ⟨(resMatch_ok _ _).2 rfl, fun _ => ⟨rfl, fun _ => rfl⟩⟩
      · exact sim_unspec _ _

end

/-! ### `_add`, branch by branch -/

theorem add_root {e : Entry} (s : State) (h : e.path = []) : add e s = (.ok [], s) := by
  unfold add
  simp only [h, if_true]
  rfl

theorem add_noParent {e : Entry} {s : State} (hne : e.path ≠ [])
    (hd : alLookup e.path.dropLast s.entries = none) : add e s = (.err .doesNotExist, s) := by
  unfold add
  simp only [hne, if_false, M_bind_apply, getEntry, hd]
  rfl

theorem add_badParent {e d : Entry} {s : State} (hne : e.path ≠ [])
    (hd : alLookup e.path.dropLast s.entries = some d) (hbad : (!d.dir || d.link) = true) :
    add e s = (.err .isNotDir, s) := by
  unfold add
  simp only [hne, if_false, M_bind_apply, getEntry, hd, hbad, if_true]
  rfl

theorem add_exists {e d x : Entry} {s : State} (hne : e.path ≠ [])
    (hd : alLookup e.path.dropLast s.entries = some d) (hc : (!d.dir || d.link) = false)
    (hx : alLookup e.path s.entries = some x) :
    add e s = (if e.file && !x.file then .err .isNotFile else if e.link && !x.link then .err .isNotSymlink
      else if e.dir && !x.dir then .err .isNotDir else .ok e.path, s) := by
  unfold add
  simp only [hne, if_false, M_bind_apply, getEntry, hd, hc, Bool.false_eq_true, hx]
  cases (e.file && !x.file) <;> cases (e.link && !x.link) <;> cases (e.dir && !x.dir) <;> rfl

/-- what `MemfsEntry::add(name)` makes of the child list: whether the name is new, and the new list -/
def addName (n : Str) (d : Entry) : Bool × List Str :=
  match d.files with
  | some fs => insertName n fs
  | none => (true, [n])

theorem addChild_dir {d : Entry} (h : d.dir = true) (n : Str) :
    d.addChild n = .ok ((addName n d).1, { d with files := some (addName n d).2 }) := by
  unfold Entry.addChild addName
  rw [h]
  cases d.files <;> rfl

theorem add_fresh {e d : Entry} {s : State} (hne : e.path ≠ [])
    (hd : alLookup e.path.dropLast s.entries = some d) (hdir : d.dir = true) (hlink : d.link = false)
    (hx : alLookup e.path s.entries = none) :
    add e s = (if (addName (baseName e.path) d).1 then .ok e.path else .err .existsAlready,
      { s with entries := alInsert e.path.dropLast { d with files := some (addName (baseName e.path) d).2 }
                 (alInsert e.path e s.entries),
               files := if !e.link && e.file then alInsert e.path [] s.files else s.files }) := by
  have hc : (!d.dir || d.link) = false := by rw [hdir, hlink]; rfl
  unfold add
  simp only [hne, if_false, M_bind_apply, getEntry, hd, hc, Bool.false_eq_true, hx]
  cases (!e.link && e.file) <;>
    simp only [if_true, if_false, Bool.false_eq_true, M_bind_apply, setFile, setEntry, M.modify, getEntry,
      alLookup_alInsert, (dropLast_ne_self hne).symm, hd, M.liftO, addChild_dir hdir] <;>
    cases (addName (baseName e.path) d).1 <;> rfl

theorem addName_new {n : Str} {d : Entry} (h : ∀ fs, d.files = some fs → n ∉ fs) : (addName n d).1 = true := by
  unfold addName
  cases hf : d.files with
  | none => rfl
  | some fs => exact insertName_fst_of_not_mem (h fs hf)

/-- what the abstraction sees of a creation: one new node; the parent's child list is forgotten -/
theorem absS_create (s : State) (q : FsPath) (e d : Entry) (fs' : List Str) (files' : List (FsPath × Bytes))
    (hne : q ≠ []) (hd : alLookup q.dropLast s.entries = some d)
    (hfiles : ∀ k, k ≠ q → alLookup k files' = alLookup k s.files) (k : FsPath) :
    TreeFs.get (absS { s with entries := alInsert q.dropLast { d with files := some fs' } (alInsert q e s.entries),
                              files := files' }) k =
      if q = k then
        some (absNode { s with entries := alInsert q.dropLast { d with files := some fs' } (alInsert q e s.entries),
                               files := files' } q e)
      else TreeFs.get (absS s) k := by
  simp only [get_absS, alLookup_alInsert]
  by_cases h1 : q.dropLast = k
  · subst h1
    simp only [if_true, dropLast_ne_self hne |>.symm, if_false, hd, Option.map]
    congr 1
    simp only [absNode, kindOf, hfiles _ (dropLast_ne_self hne)]
  · simp only [h1, if_false]
    by_cases h2 : q = k
    · subst h2; simp only [if_true, Option.map]
    · simp only [h2, if_false]
      cases alLookup k s.entries with
      | none => rfl
      | some x =>
        simp only [Option.map]
        congr 1
        exact absNode_congr x (hfiles k (Ne.symm h2))

theorem add_create {e d : Entry} {s : State} {q : FsPath} (hq : e.path = q) (hne : q ≠ [])
    (hd : alLookup q.dropLast s.entries = some d) (hdir : d.dir = true) (hlink : d.link = false)
    (hx : alLookup q s.entries = none) (hfresh : ∀ fs, d.files = some fs → baseName q ∉ fs) :
    ∃ s1, add e s = (.ok q, s1) ∧ s1.cwd = s.cwd ∧
      s1.files = (if !e.link && e.file then alInsert q [] s.files else s.files) ∧
      alLookup q s1.entries = some e ∧
      (∀ k, k ≠ q → k ≠ q.dropLast → alLookup k s1.entries = alLookup k s.entries) ∧
      ∀ k, TreeFs.get (absS s1) k = if q = k then some (absNode s1 q e) else TreeFs.get (absS s) k := by
  subst hq
  have hfiles : ∀ k, k ≠ e.path →
      alLookup k (if !e.link && e.file then alInsert e.path [] s.files else s.files) = alLookup k s.files := by
    intro k hk
    split
    · rw [alLookup_alInsert, if_neg (Ne.symm hk)]
    · rfl
  refine ⟨?s1, ?h, ?_, ?_, ?_, ?_, ?_⟩
  case h => rw [add_fresh hne hd hdir hlink hx, addName_new hfresh]; rfl
  · rfl
  · rfl
  · rw [alLookup_alInsert, if_neg (dropLast_ne_self hne), alLookup_alInsert, if_pos rfl]
  · intro k h1 h2
    rw [alLookup_alInsert, if_neg (Ne.symm h2), alLookup_alInsert, if_neg (Ne.symm h1)]
  · exact absS_create s e.path e d _ _ hne hd hfiles

theorem absS_setFile (s : State) (p : FsPath) (b : Bytes) (k : FsPath) :
    TreeFs.get (absS { s with files := alInsert p b s.files }) k =
      if p = k then (alLookup p s.entries).map (fun e => { absNode s p e with data := if e.link then [] else b })
      else TreeFs.get (absS s) k := by
  simp only [get_absS]
  by_cases h : p = k
  · subst h
    simp only [if_true]
    cases alLookup p s.entries with
    | none => rfl
    | some e => simp only [Option.map, absNode, alLookup_alInsert, if_true, Option.getD]
  · simp only [h, if_false]
    cases alLookup k s.entries with
    | none => rfl
    | some e =>
      simp only [Option.map]
      congr 1
      apply absNode_congr
      simp only [alLookup_alInsert, h, if_false]

theorem parentCheck_eq (s : State) (p : FsPath) (hne : p ≠ []) :
    parentCheck (absS s) p = match alLookup p.dropLast s.entries with
      | none => some (some .doesNotExist)
      | some d => if d.dir = true ∧ d.link = false then none else some (some .isNotDir) := by
  simp only [parentCheck, hne, if_false, get_absS]
  cases hd : alLookup p.dropLast s.entries with
  | none => rfl
  | some d => simp only [Option.map, absNode_kind, kind_dir_iff]

theorem absNode_mkFileEntry (s : State) (p : FsPath) :
    absNode s p (mkFileEntry p) = { newFile with data := (alLookup p s.files).getD [] } := by
  simp [absNode, mkFileEntry, kindOf, optsMode, defaultMode, typeBits, newFile]

/-- the cases of `_add(file entry at p)` against the reference's checks -/
inductive AddFile (s : State) (p : FsPath) : Prop
  | root : p = [] → add (mkFileEntry p) s = (.ok p, s) → alLookup p s.files = none → AddFile s p
  | parentErr (k : ErrKind) : p ≠ [] → parentCheck (absS s) p = some (some k) →
      add (mkFileEntry p) s = (.err k, s) → AddFile s p
  | isFile (x : Entry) (b : Bytes) : p ≠ [] → parentCheck (absS s) p = none →
      alLookup p s.entries = some x → kindOf x = .file → x.link = false → alLookup p s.files = some b →
      add (mkFileEntry p) s = (.ok p, s) → AddFile s p
  | notFile (x : Entry) : p ≠ [] → parentCheck (absS s) p = none →
      alLookup p s.entries = some x → kindOf x ≠ .file → alLookup p s.files = none →
      (add (mkFileEntry p) s = (.err .isNotFile, s) ∨ (add (mkFileEntry p) s = (.ok p, s) ∧ kindOf x ≠ .dir)) →
      AddFile s p
  | create (s' : State) : p ≠ [] → parentCheck (absS s) p = none → alLookup p s.entries = none →
      add (mkFileEntry p) s = (.ok p, s') → s'.files = alInsert p [] s.files → s'.cwd = s.cwd →
      alLookup p s'.entries = some (mkFileEntry p) →
      (∀ k, TreeFs.get (absS s') k = if p = k then some newFile else TreeFs.get (absS s) k) → AddFile s p

theorem addFile_cases (s : State) (hI : InvFacts s) (hOk : EntriesOk s) (p : FsPath) : AddFile s p := by
  have hpath : (mkFileEntry p).path = p := rfl
  by_cases hne : p = []
  · subst hne
    obtain ⟨e, he, hd, hl⟩ := hI.rootDir
    have hdata := hI.data [] e he
    have hf : e.file = false := by
      have := (entriesOk_lookup hOk he).flags; rw [hd] at this; revert this; cases e.file <;> decide
    rw [hf] at hdata
    exact .root rfl (add_root s rfl) (by cases h : alLookup [] s.files <;> simp_all)
  · have hpc := parentCheck_eq s p hne
    cases hd : alLookup p.dropLast s.entries with
    | none =>
      rw [hd] at hpc
      exact .parentErr _ hne hpc (add_noParent hne hd)
    | some d =>
      rw [hd] at hpc
      by_cases hdd : d.dir = true ∧ d.link = false
      · simp only [if_pos hdd] at hpc
        have hc : (!d.dir || d.link) = false := by rw [hdd.1, hdd.2]; rfl
        cases hx : alLookup p s.entries with
        | none =>
          obtain ⟨s1, hadd, hcwd, hfiles, hent, -, hgets⟩ :=
            add_create (e := mkFileEntry p) (q := p) rfl hne hd hdd.1 hdd.2 hx (by
              intro fs hfs hmem
              obtain ⟨x, hx'⟩ := hI.listed _ d fs _ hd hfs hmem
              rw [dropLast_append_baseName hne, hx] at hx'
              cases hx')
          replace hfiles : s1.files = alInsert p [] s.files := hfiles
          refine .create s1 hne hpc hx hadd hfiles hcwd hent fun k => ?_
          rw [hgets k, absNode_mkFileEntry, hfiles, alLookup_alInsert, if_pos rfl]
          rfl
        | some x =>
          have hfx := entriesOk_lookup hOk hx
          have hdata := hI.data p x hx
          have hadd : add (mkFileEntry p) s = if !x.file then (.err .isNotFile, s) else (.ok p, s) := by
            rw [add_exists hne hd hc hx]; cases x.file <;> rfl
          by_cases hkf : kindOf x = .file
          · obtain ⟨h1, h2⟩ := (kind_file_iff hfx).mp hkf
            rw [h1, h2] at hdata
            cases hb : alLookup p s.files with
            | none => simp [hb] at hdata
            | some b => exact .isFile x b hne hpc hx hkf h2 hb (by rw [hadd, h1]; rfl)
          · have hnf : ¬ (x.file = true ∧ x.link = false) := fun h => hkf ((kind_file_iff hfx).mpr h)
            have hb : alLookup p s.files = none := by
              cases hb : alLookup p s.files with
              | none => rfl
              | some b =>
                rw [hb] at hdata
                exfalso; apply hnf
                cases hf : x.file <;> cases hl : x.link <;> simp_all
            refine .notFile x hne hpc hx hkf hb ?_
            rw [hadd]
            cases hf : x.file with
            | false => left; rfl
            | true => exact .inr ⟨rfl, fun hkd => hnf ⟨hf, ((kind_dir_iff x).mp hkd).2⟩⟩
      · simp only [if_neg hdd] at hpc
        refine .parentErr _ hne hpc (add_badParent hne hd ?_)
        cases h1 : d.dir <;> cases h2 : d.link <;> simp_all

theorem sim_mkfile (hI : InvFacts s) (hOk : EntriesOk s) (p : Str) : Refines env s (.mkfile p) :=
  refines_of rfl <| by
    refine sim_withPath env p s Val.path _ _ fun a => ?_
    unfold TreeFs.mkfile
    cases addFile_cases s hI hOk a with
    | root h0 hadd hb =>
      simp only [h0, if_true, liftR]; exact sim_unspec _ _
    | parentErr k hne hpc hadd =>
      simp only [mapVal, M_bind_apply, if_false, hne, hpc, liftR, hadd]; exact sim_same (by simp)
    | isFile x b hne hpc hx hkf hl hb hadd =>
      simp only [mapVal, M_bind_apply, M_pure_apply, getFile, Bool.false_eq_true, if_true, if_false, hne, hpc, liftR,
        hadd, get_absS, hx, Option.map, absNode_kind, hkf, hb, Option.isNone]
      exact sim_same (by simp)
    | notFile x hne hpc hx hkf hb hadd =>
      rcases hadd with hadd | ⟨hadd, _⟩
      · simp only [mapVal, M_bind_apply, if_false, hne, hpc, liftR, hadd, get_absS, hx, Option.map, absNode_kind, hkf]
        exact sim_same (by simp)
      · simp only [mapVal, M_bind_apply, M.fail, getFile, if_true, if_false, hne, hpc, liftR, hadd, get_absS, hx,
          Option.map, absNode_kind, hkf, hb, Option.isNone]
        exact sim_same (by simp)
    | create s' hne hpc hx hadd hfiles hcwd hent hget =>
      simp only [mapVal, M_bind_apply, M_pure_apply, getFile, Bool.false_eq_true, if_true, if_false, hne, hpc, liftR,
        hadd, get_absS, hx, Option.map, hfiles, alLookup_alInsert, Option.isNone]
      refine ⟨by simp, fun _ => ⟨hcwd, fun k => ?_⟩⟩
      simp only [hget, get_put]

theorem syncM_ok (p : FsPath) (data : Bytes) (s : State) (e : Entry) (b : Bytes)
    (he : alLookup p s.entries = some e) (hb : alLookup p s.files = some b) :
    syncM p data s = (.ok (), { s with files := alInsert p data s.files }) := by
  unfold syncM
  simp only [M_bind_apply, M.modify, getEntry, getFile, setFile, he, hb]

/-- `write_all` / `append_all` after path resolution -/
def storeK (a : FsPath) (k : Bytes → M Unit) (e : ErrKind) : M Unit := do
  let _ ← add (mkFileEntry a)
  match (← getFile a) with
  | some b => k b
  | none => M.fail e

theorem writeAllM_eq (p : Str) (d : Bytes) : writeAllM env p d =
    absM env p >>= fun a => storeK a (fun _ s => let (_, s') := syncM a d s; (.ok (), s')) .isNotFile := by
  unfold writeAllM storeK
  refine congrArg _ (funext fun a => congrArg _ (funext fun _ => congrArg _ (funext fun o => ?_)))
  cases o <;> rfl

theorem appendAllM_eq (p : Str) (d : Bytes) : appendAllM env p d =
    absM env p >>= fun a => storeK a (fun b => do
      syncM a (b ++ d)
      fun s => let (_, s') := syncM a (b ++ d) s; (.ok (), s')) .doesNotExist := rfl

theorem sim_storeK (hI : InvFacts s) (hOk : EntriesOk s) (a : FsPath) (d : Bytes) (ap : Bool) (k : Bytes → M Unit)
    (e : ErrKind)
    (hk : ∀ (s1 : State) (x : Entry) (b : Bytes), alLookup a s1.entries = some x → alLookup a s1.files = some b →
      k b s1 = (.ok (), { s1 with files := alInsert a (if ap then b ++ d else d) s1.files })) :
    Sim (mapVal (fun _ => Val.unit) (storeK a k e) s) (liftR (fun _ => .unit) (writeAll (absS s) a d ap)) := by
  unfold TreeFs.writeAll storeK
  cases addFile_cases s hI hOk a with
  | root h0 hadd hb =>
    subst h0
    simp only [mapVal, M_bind_apply, M.fail, getFile, if_true, liftR, hadd, hb]; exact sim_same (by simp)
  | parentErr k hne hpc hadd =>
    simp only [mapVal, M_bind_apply, if_false, hne, hpc, liftR, hadd]; exact sim_same (by simp)
  | isFile x b hne hpc hx hkf hl hb hadd =>
    simp only [mapVal, M_bind_apply, getFile, if_true, if_false, hne, hpc, liftR, hadd, get_absS, hx, Option.map,
      absNode_kind, hkf, hb, hk s x b hx hb]
    refine ⟨by simp, fun _ => ⟨rfl, fun k => ?_⟩⟩
    simp only [absS_setFile, get_put, hx, Option.map, hl, Bool.false_eq_true, if_false, absNode_kind, hkf]
    by_cases hak : a = k
    · subst hak; simp only [if_true, absNode, hl, Bool.false_eq_true, if_false, hb, Option.getD]
    · simp only [hak, if_false]
  | notFile x hne hpc hx hkf hb hadd =>
    rcases hadd with hadd | ⟨hadd, hnd⟩
    · simp only [mapVal, M_bind_apply, if_false, hne, hpc, liftR, hadd, get_absS, hx, Option.map, absNode_kind, hkf]
      by_cases hkd : kindOf x = .dir
      · simp only [hkd, if_true]; exact sim_same (by simp)
      · simp only [hkd, if_false]; exact sim_same (by simp)
    · simp only [mapVal, M_bind_apply, M.fail, getFile, if_false, hne, hpc, liftR, hadd, get_absS, hx, Option.map,
        absNode_kind, hkf, hb, hnd]
      exact sim_same (by simp)
  | create s' hne hpc hx hadd hfiles hcwd hent hget =>
    have hb : alLookup a s'.files = some [] := by rw [hfiles, alLookup_alInsert, if_pos rfl]
    simp only [mapVal, M_bind_apply, getFile, if_false, hne, hpc, liftR, hadd, get_absS, hx, Option.map, hb,
      hk s' _ _ hent hb]
    refine ⟨by simp, fun _ => ⟨hcwd, fun k => ?_⟩⟩
    simp only [absS_setFile, get_put, hent, Option.map, hget, absNode_mkFileEntry]
    by_cases hk : a = k
    · simp only [hk, if_true]; cases ap <;> rfl
    · simp only [hk, if_false]

theorem sim_writeAll (hI : InvFacts s) (hOk : EntriesOk s) (p : Str) (d : Bytes) : Refines env s (.writeAll p d) :=
  refines_of rfl <| by
    show Sim (mapVal _ (writeAllM env p d) s) _
    rw [writeAllM_eq]
    exact sim_withPath env p s _ _ _ fun a => sim_storeK s hI hOk a d false _ _ fun s1 x b hx hb => by
      simp only [syncM_ok a d s1 x b hx hb]; rfl

theorem sim_appendAll (hI : InvFacts s) (hOk : EntriesOk s) (p : Str) (d : Bytes) : Refines env s (.appendAll p d) :=
  refines_of rfl <| by
    show Sim (mapVal _ (appendAllM env p d) s) _
    rw [appendAllM_eq]
    exact sim_withPath env p s _ _ _ fun a => sim_storeK s hI hOk a d true _ _ fun s1 x b hx hb => by
      -- flush, then the sync of `drop`: the second store of the same bytes changes nothing
      have h2 := syncM_ok a (b ++ d) { s1 with files := alInsert a (b ++ d) s1.files } x (b ++ d) hx
        (by simp only [alLookup_alInsert, if_true])
      simp only [M_bind_apply, syncM_ok a (b ++ d) s1 x b hx hb, h2, alInsert_alInsert]
      rfl

/-! ### `mkdir_p` / `mkdir_m` -/

theorem absNode_mkDirEntry_none (s : State) (q : FsPath) (h : alLookup q s.files = none) :
    absNode s q (mkDirEntry q none) = newDir 0o755 := by
  simp [absNode, mkDirEntry, kindOf, optsMode, defaultMode, typeBits, newDir, h]

theorem absNode_mkDirEntry_some (s : State) (q : FsPath) (m : Nat) (hm : m < 0o10000) (h0 : m ≠ 0)
    (h : alLookup q s.files = none) :
    absNode s q (mkDirEntry q (some m)) = newDir m := by
  simp [absNode, mkDirEntry, kindOf, optsMode, typeBits, newDir, h, h0, and_perm_of_lt m hm,
    or_sub_typeBits m _ hm (Or.inl rfl)]

/-- the keys `b/n1`, `b/n1/n2`, … -/
def chainFrom (b : FsPath) : List Str → List FsPath
  | [] => []
  | n :: ns => (b ++ [n]) :: chainFrom (b ++ [n]) ns

theorem prefixes_cons (a : Str) (p : FsPath) : prefixes (a :: p) = [] :: (prefixes p).map (a :: ·) := by
  unfold prefixes
  simp only [List.length_cons]
  rw [List.range_succ_eq_map]
  simp [List.map_map, Function.comp_def]

theorem map_prefixes (p : FsPath) : ∀ b : FsPath, (prefixes p).map (b ++ ·) = b :: chainFrom b p := by
  induction p with
  | nil => intro b; simp [prefixes, chainFrom]
  | cons a p ih =>
    intro b
    rw [prefixes_cons]
    simp only [List.map_cons, List.append_nil, List.map_map, chainFrom]
    congr 1
    rw [← ih (b ++ [a])]
    apply List.map_congr_left
    intro x _
    simp

theorem prefixes_eq (p : FsPath) : prefixes p = [] :: chainFrom [] p := by
  have := map_prefixes p []
  simpa using this


/-- one iteration of `_mkdir_m` -/
def mkStep (mode : Option Nat) (q : FsPath) : M Unit := do let _ ← add (mkDirEntry q mode)

theorem mkdirM_eq (p : FsPath) (mode : Option Nat) : mkdirM p mode = (prefixes p).forM (mkStep mode) := rfl

theorem mkStep_apply (mode : Option Nat) (q : FsPath) (s : State) :
    mkStep mode q s = match add (mkDirEntry q mode) s with
      | (.ok _, s') => (.ok (), s')
      | (.err k, s') => (.err k, s')
      | (.panic, s') => (.panic, s')
      | (.hang, s') => (.hang, s') := by
  unfold mkStep
  rw [M_bind_apply]
  rcases add (mkDirEntry q mode) s with ⟨o, s'⟩
  cases o <;> rfl

theorem mkdirLoop_cwd (perm : Nat) : ∀ (qs : List FsPath) (t : T), (mkdirLoop perm qs t).2.cwd = t.cwd := by
  intro qs
  induction qs with
  | nil => intro t; rfl
  | cons q qs ih =>
    intro t
    simp only [mkdirLoop]
    split
    · split
      · exact ih t
      · rfl
    · rw [ih]; rfl

theorem exists_of_ext {s : State} (hI : InvFacts s) : ∀ (ext : List Str) (k : FsPath) (x : Entry),
    alLookup (k ++ ext) s.entries = some x → ∃ y, alLookup k s.entries = some y := by
  intro ext
  induction ext with
  | nil => intro k x h; exact ⟨x, by simpa using h⟩
  | cons a ext ih =>
    intro k x h
    have e1 : k ++ a :: ext = (k ++ [a]) ++ ext := by simp
    rw [e1] at h
    obtain ⟨y, hy⟩ := ih (k ++ [a]) x h
    obtain ⟨pe, _, hpe, _⟩ := hI.parent _ y hy (by simp)
    rw [List.dropLast_concat] at hpe
    exact ⟨pe, hpe⟩

theorem missing_ext {s : State} (hI : InvFacts s) (k : FsPath) (hk : alLookup k s.entries = none)
    (ext : List Str) : alLookup (k ++ ext) s.entries = none := by
  cases h : alLookup (k ++ ext) s.entries with
  | none => rfl
  | some x =>
    obtain ⟨y, hy⟩ := exists_of_ext hI ext k x h
    rw [hk] at hy; cases hy

theorem mem_chainFrom : ∀ (ns : List Str) (b q : FsPath), q ∈ chainFrom b ns →
    ∃ n ext, ns.head? = some n ∧ q = b ++ n :: ext := by
  intro ns
  induction ns with
  | nil => intro b q h; simp [chainFrom] at h
  | cons n ns ih =>
    intro b q h
    simp only [chainFrom, List.mem_cons] at h
    rcases h with h | h
    · exact ⟨n, [], rfl, by simp [h]⟩
    · obtain ⟨n', ext, _, h2⟩ := ih _ _ h
      exact ⟨n, n' :: ext, rfl, by simp [h2]⟩

/-- the reference's pre-check of `mkdir`: some prefix exists and is not a directory -/
def badP (t : T) : FsPath → Bool := fun q => match TreeFs.get t q with | some n => n.kind ≠ .dir | none => false

theorem badP_none {s : State} {q : FsPath} (h : alLookup q s.entries = none) : badP (absS s) q = false := by
  simp only [badP, get_absS, h, Option.map]

theorem badP_some {s : State} {q : FsPath} {x : Entry} (h : alLookup q s.entries = some x) :
    badP (absS s) q = decide (kindOf x ≠ .dir) := by
  simp only [badP, get_absS, h, Option.map]
  rfl

section
variable (mode : Option Nat) (perm : Nat)

/-- `_mkdir_m` and the reference's `mkdirLoop` both get through `qs`, ending in matching states -/
def Built (qs : List FsPath) (s : State) (t : T) : Prop :=
  ∃ s' t', qs.forM (mkStep mode) s = (.ok (), s') ∧ mkdirLoop perm qs t = (none, t') ∧
    (∀ k, TreeFs.get t' k = TreeFs.get (absS s') k) ∧ t'.cwd = t.cwd ∧ s'.cwd = s.cwd

variable {mode perm}

theorem Built.cons_dir {q : FsPath} {qs : List FsPath} {s : State} {t : T} {nd : Node}
    (hadd : add (mkDirEntry q mode) s = (.ok q, s)) (hg : TreeFs.get t q = some nd) (hk : nd.kind = .dir)
    (h : Built mode perm qs s t) : Built mode perm (q :: qs) s t := by
  obtain ⟨s', t', h1, h2, h3⟩ := h
  refine ⟨s', t', ?_, ?_, h3⟩
  · rw [forM_cons_apply, mkStep_apply, hadd]; exact h1
  · rw [mkdirLoop, hg]; simp only [hk, if_true]; exact h2

theorem Built.cons_new {q : FsPath} {qs : List FsPath} {s s1 : State} {t : T}
    (hadd : add (mkDirEntry q mode) s = (.ok q, s1)) (hg : TreeFs.get t q = none) (hc : s1.cwd = s.cwd)
    (h : Built mode perm qs s1 (put t q (newDir perm))) : Built mode perm (q :: qs) s t := by
  obtain ⟨s', t', h1, h2, h3, h4, h5⟩ := h
  refine ⟨s', t', ?_, ?_, h3, h4, h5.trans hc⟩
  · rw [forM_cons_apply, mkStep_apply, hadd]; exact h1
  · rw [mkdirLoop, hg]; exact h2

variable (mode perm)

theorem mkdir_fresh
    (hperm : ∀ (q : FsPath) (s : State), alLookup q s.files = none → absNode s q (mkDirEntry q mode) = newDir perm) :
    ∀ (ns : List Str) (b : FsPath) (s : State) (t : T) (d : Entry),
      alLookup b s.entries = some d → d.dir = true → d.link = false →
      (∀ fs m, d.files = some fs → m ∈ fs → ∃ x, alLookup (b ++ [m]) s.entries = some x) →
      (∀ n, ns.head? = some n → ∀ ext, alLookup (b ++ n :: ext) s.entries = none ∧ alLookup (b ++ n :: ext) s.files = none) →
      (∀ k, TreeFs.get t k = TreeFs.get (absS s) k) → Built mode perm (chainFrom b ns) s t := by
  intro ns
  induction ns with
  | nil =>
    intro b s t d _ _ _ _ _ hget
    exact ⟨s, t, rfl, rfl, hget, rfl, rfl⟩
  | cons n ns ih =>
    intro b s t d hd hdir hlink hlisted hmiss hget
    have hdl : (b ++ [n]).dropLast = b := List.dropLast_concat
    obtain ⟨hx, hxf⟩ := hmiss n rfl []
    obtain ⟨s1, hadd, hcwd, hfiles, hent, hrest, hgets⟩ :=
      add_create (e := mkDirEntry (b ++ [n]) mode) (s := s) (d := d) (q := b ++ [n]) rfl (List.concat_ne_nil _ _)
        (by rw [hdl]; exact hd) hdir hlink hx (by
          intro fs hfs hmem
          obtain ⟨x, hx2⟩ := hlisted fs n hfs (by rw [← baseName_snoc b n]; exact hmem)
          rw [hx] at hx2; cases hx2)
    replace hfiles : s1.files = s.files := hfiles
    rw [hdl] at hrest
    refine .cons_new hadd (by rw [hget, get_absS, hx]; rfl) hcwd
      (ih (b ++ [n]) s1 _ (mkDirEntry (b ++ [n]) mode) hent rfl rfl (fun fs m hfs hm => by cases hfs; cases hm)
        (fun n' _ ext => ?_) fun k => ?_)
    · have := hmiss n rfl (n' :: ext)
      rw [show b ++ n :: n' :: ext = b ++ [n] ++ n' :: ext by simp] at this
      rw [hfiles, hrest _ (fun h => by simpa using congrArg List.length h)
        (fun h => by have := congrArg List.length h; simp at this)]
      exact this
    · rw [get_put, hgets k]
      split
      · rw [hperm _ _ (hfiles ▸ hxf)]
      · exact hget k


/-- the walk down the existing prefixes mutates nothing; at the first missing one `mkdir_fresh` takes over -/
theorem mkdir_walk {s : State} (hI : InvFacts s)
    (hperm : ∀ (q : FsPath) (s : State), alLookup q s.files = none → absNode s q (mkDirEntry q mode) = newDir perm) :
    ∀ (ns : List Str) (b : FsPath) (d : Entry),
      alLookup b s.entries = some d → d.dir = true → d.link = false →
      isLinkToDir (absS s) (b ++ ns) = false →
      (∃ q, (chainFrom b ns).find? (badP (absS s)) = some q ∧
        (chainFrom b ns).forM (mkStep mode) s = (.err .isNotDir, s)) ∨
      ((chainFrom b ns).find? (badP (absS s)) = none ∧ Built mode perm (chainFrom b ns) s (absS s)) := by
  intro ns
  induction ns with
  | nil =>
    intro b d _ _ _ _
    exact .inr ⟨rfl, s, absS s, rfl, rfl, fun _ => rfl, rfl, rfl⟩
  | cons n ns ih =>
    intro b d hd hdir hlink hnl
    have hne : b ++ [n] ≠ [] := List.concat_ne_nil _ _
    have hdl : (b ++ [n]).dropLast = b := List.dropLast_concat
    cases hx : alLookup (b ++ [n]) s.entries with
    | none =>
      have hmiss : ∀ ext, alLookup (b ++ n :: ext) s.entries = none ∧ alLookup (b ++ n :: ext) s.files = none := by
        intro ext
        have := missing_ext hI _ hx ext
        rw [show b ++ n :: ext = (b ++ [n]) ++ ext by simp]
        exact ⟨this, hI.dangling _ this⟩
      refine .inr ⟨List.find?_eq_none.mpr fun q hq => ?_,
        mkdir_fresh mode perm hperm (n :: ns) b s (absS s) d hd hdir hlink
          (fun fs m hfs hm => hI.listed b d fs m hd hfs hm) (fun n' hn' ext => by cases hn'; exact hmiss ext)
          fun _ => rfl⟩
      obtain ⟨n', ext, hn', rfl⟩ := mem_chainFrom _ _ _ hq
      cases hn'
      rw [badP_none (hmiss ext).1]
      exact Bool.false_ne_true
    | some x =>
      have hadd : add (mkDirEntry (b ++ [n]) mode) s = if x.dir then (.ok (b ++ [n]), s) else (.err .isNotDir, s) := by
        rw [add_exists hne (by show alLookup (b ++ [n]).dropLast _ = _; rw [hdl]; exact hd)
          (by rw [hdir, hlink]; rfl) hx]
        cases x.dir <;> rfl
      by_cases hxd : x.dir = true ∧ x.link = false
      · -- an existing real directory: nothing happens on either side
        have hk : kindOf x = .dir := (kind_dir_iff x).mpr hxd
        have hbad : badP (absS s) (b ++ [n]) = false := by rw [badP_some hx, hk]; rfl
        have hg : TreeFs.get (absS s) (b ++ [n]) = some (absNode s (b ++ [n]) x) := by rw [get_absS, hx]; rfl
        rw [hxd.1, if_pos rfl] at hadd
        rw [show b ++ n :: ns = (b ++ [n]) ++ ns by simp] at hnl
        rcases ih (b ++ [n]) x hx hxd.1 hxd.2 hnl with ⟨q, h1, h2⟩ | ⟨h1, hB⟩
        · refine .inl ⟨q, ?_, ?_⟩
          · rw [chainFrom, List.find?_cons, hbad]; exact h1
          · rw [chainFrom, forM_cons_apply, mkStep_apply, hadd]; exact h2
        · refine .inr ⟨?_, .cons_dir hadd hg hk hB⟩
          rw [chainFrom, List.find?_cons, hbad]; exact h1
      · have hk : kindOf x ≠ .dir := fun h => hxd ((kind_dir_iff x).mp h)
        have hbad : badP (absS s) (b ++ [n]) = true := by rw [badP_some hx]; simpa using hk
        refine .inl ⟨b ++ [n], by rw [chainFrom, List.find?_cons, hbad], ?_⟩
        cases hxdir : x.dir with
        | false => rw [hxdir] at hadd; rw [chainFrom, forM_cons_apply, mkStep_apply, hadd]; rfl
        | true =>
          -- a link to a directory: `_add` accepts it, and fails on the next prefix below it
          rw [hxdir, if_pos rfl] at hadd
          have hxl : x.link = true := by
            cases h : x.link with
            | true => rfl
            | false => exact absurd ⟨hxdir, h⟩ hxd
          cases ns with
          | nil =>
            have : isLinkToDir (absS s) (b ++ [n]) = true := by
              simp only [isLinkToDir, get_absS, hx, Option.map, absNode, kindOf, hxl, hxdir, if_true, decide_true]
            rw [this] at hnl; cases hnl
          | cons n' ns' =>
            have hadd2 : add (mkDirEntry (b ++ [n] ++ [n']) mode) s = (.err .isNotDir, s) :=
              add_badParent (e := mkDirEntry (b ++ [n] ++ [n']) mode) (List.concat_ne_nil _ _)
                (by show alLookup (b ++ [n] ++ [n']).dropLast _ = _; rw [List.dropLast_concat]; exact hx)
                (by rw [hxdir, hxl]; rfl)
            simp only [chainFrom, forM_cons_apply, mkStep_apply, hadd, hadd2]

theorem sim_mkdir_key (s : State) (hI : InvFacts s)
    (hperm : ∀ (q : FsPath) (s : State), alLookup q s.files = none → absNode s q (mkDirEntry q mode) = newDir perm)
    (a : FsPath) :
    Sim (mapVal Val.path (mkdirM a mode >>= fun _ => (Pure.pure a : M FsPath)) s)
      (liftR .path (mkdir (absS s) a perm)) := by
  unfold TreeFs.mkdir
  cases hl : isLinkToDir (absS s) a with
  | true => simp only [if_true, liftR]; exact sim_unspec _ _
  | false =>
    obtain ⟨e0, he0, hd0, hl0⟩ := hI.rootDir
    have hk0 : kindOf e0 = .dir := (kind_dir_iff e0).mpr ⟨hd0, hl0⟩
    have hbad0 : badP (absS s) [] = false := by rw [badP_some he0, hk0]; rfl
    have hg0 : TreeFs.get (absS s) [] = some (absNode s [] e0) := by rw [get_absS, he0]; rfl
    have hadd0 : add (mkDirEntry [] mode) s = (.ok [], s) := add_root s rfl
    show Sim _ (liftR Val.path (if false = true then _ else match (prefixes a).find? (badP (absS s)) with
      | some _ => (R.err (some ErrKind.isNotDir), absS s)
      | none => match mkdirLoop perm (prefixes a) (absS s) with
        | (none, t') => (R.ok a, t')
        | (some e, _) => (R.err (some e), absS s)))
    rw [if_neg Bool.false_ne_true, prefixes_eq, mkdirM_eq, prefixes_eq, List.find?_cons, hbad0]
    rcases mkdir_walk mode perm hI hperm a [] e0 he0 hd0 hl0 (by simpa using hl) with ⟨q, h1, h2⟩ | ⟨h1, hB⟩
    · simp only [h1, mapVal, M_bind_apply, forM_cons_apply, mkStep_apply, hadd0, h2, liftR]
      exact sim_same (by simp)
    · obtain ⟨s', t', h2, h3, h4, h5, h6⟩ := Built.cons_dir hadd0 hg0 hk0 hB
      simp only [h1, h2, h3, mapVal, M_bind_apply, M_pure_apply, liftR]
      exact ⟨by simp, fun _ => ⟨(show s'.cwd = t'.cwd by rw [h6, h5]; rfl), fun k => (h4 k).symm⟩⟩

end

theorem sim_mkdirP (hI : InvFacts s) (p : Str) : Refines env s (.mkdirP p) :=
  refines_of rfl <| by
    refine sim_withPath env p s Val.path _ _ ?_
    intro a
    exact sim_mkdir_key none 0o755 s hI (fun q s h => absNode_mkDirEntry_none s q h) a

theorem sim_mkdirM (hI : InvFacts s) (p : Str) (m : Nat) : Refines env s (.mkdirM p m) := by
  intro x hx
  change (if permOk m = true ∧ m ≠ 0 then some _ else none) = _ at hx
  by_cases hm : permOk m = true ∧ m ≠ 0
  · rw [if_pos hm] at hx
    cases hx
    have hm' : m < 0o10000 := by simpa [permOk] using hm.1
    exact sim_withPath env p s Val.path _ _ fun a =>
      sim_mkdir_key (some m) m s hI (fun q s h => absNode_mkDirEntry_some s q m hm' hm.2 h) a
  · rw [if_neg hm] at hx; cases hx

/-! ### the group-A theorem -/

/-- the read-only operations of group A -/
def GroupAQuery : Op → Bool
  | .cwd | .root | .abs _ | .exists _ | .isDir _ | .isFile _ | .isSymlink _ | .isSymlinkDir _
  | .isSymlinkFile _ | .isExec _ | .isReadonly _ | .mode _ | .uid _ | .gid _ | .owner _
  | .readAll _ | .read _ | .readlink _ | .readlinkAbs _ => true
  | _ => false

/-- queries and simple creators -/
def GroupA : Op → Bool
  | .setCwd _ | .mkfile _ | .mkdirP _ | .mkdirM _ _ | .writeAll _ _ | .appendAll _ _ => true
  | op => GroupAQuery op

theorem refines_step_groupA (env : Env) (s : State) (op : Op) (hA : GroupA op = true)
    (hI : Spec.Inv s) (hOk : EntriesOk s) (r : R Val) (t' : T)
    (h : specStep env (absS s) op = some (r, t')) :
    ResMatch (step env s op).1 r ∧ (r ≠ .unspecified → TEquiv (absS (step env s op).2) t') := by
  have hF := inv_facts hI
  cases op with
  | cwd => exact sim_cwd env s _ h
  | root => exact sim_root env s hF _ h
  | abs p => exact sim_abs env s p _ h
  | «exists» p => exact sim_exists env s p _ h
  | isDir p => exact sim_isDir env s p _ h
  | isFile p => exact sim_isFile env s p hOk _ h
  | isSymlink p => exact sim_isSymlink env s p _ h
  | isSymlinkDir p => exact sim_isSymlinkDir env s p _ h
  | isSymlinkFile p => exact sim_isSymlinkFile env s p hOk _ h
  | isExec p => exact sim_isExec env s p hOk _ h
  | isReadonly p => exact sim_isReadonly env s p hOk _ h
  | mode p => exact sim_mode env s p hOk _ h
  | uid p => exact sim_uid env s p _ h
  | gid p => exact sim_gid env s p _ h
  | owner p => exact sim_owner env s p _ h
  | readAll p => exact sim_readAll env s p hF hOk _ h
  | read p => exact sim_read env s p hF hOk _ h
  | readlink p => exact sim_readlink env s p hOk _ h
  | readlinkAbs p => exact sim_readlinkAbs env s p hOk _ h
  | setCwd p => exact sim_setCwd env s p _ h
  | mkfile p => exact sim_mkfile env s hF hOk p _ h
  | mkdirP p => exact sim_mkdirP env s hF p _ h
  | mkdirM p m => exact sim_mkdirM env s hF p m _ h
  | writeAll p d => exact sim_writeAll env s hF hOk p d _ h
  | appendAll p d => exact sim_appendAll env s hF hOk p d _ h
  | _ => cases hA

/-! ### `_add`, `_mkdir_m` and `sync` keep `EntriesOk` -/

theorem es_add (e : Entry) (he : entryOkB e.path e = true) (s : State) (hs : EntriesOk s) :
    EntriesOk (add e s).2 := by
  by_cases hne : e.path = []
  · rw [add_root s hne]; exact hs
  · cases hd : alLookup e.path.dropLast s.entries with
    | none => rw [add_noParent hne hd]; exact hs
    | some d =>
      cases hc : (!d.dir || d.link) with
      | true => rw [add_badParent hne hd hc]; exact hs
      | false =>
        cases hx : alLookup e.path s.entries with
        | some x => rw [add_exists hne hd hc hx]; exact hs
        | none =>
          have hdir : d.dir = true := by revert hc; cases d.dir <;> simp
          have hlink : d.link = false := by revert hc; cases d.link <;> simp
          rw [add_fresh hne hd hdir hlink hx]
          -- `entryOkB` does not look at the child list
          exact all_alInsert _ _ _ _ (all_alInsert _ _ _ _ hs he)
            (show entryOkB e.path.dropLast d = true from List.all_eq_true.mp hs _ (alLookup_mem hd))

theorem entryOk_mkFileEntry (p : FsPath) : entryOkB (mkFileEntry p).path (mkFileEntry p) = true := by
  simp [entryOkB, mkFileEntry, kindOf, optsMode, defaultMode, typeBits]

theorem entryOk_mkDirEntry (p : FsPath) (mode : Option Nat) :
    entryOkB (mkDirEntry p mode).path (mkDirEntry p mode) = true := by
  have hk : kindOf (mkDirEntry p mode) = .dir := rfl
  simp only [entryOkB, hk, typeBits, Bool.and_eq_true, decide_eq_true_eq, Bool.or_eq_true, Bool.not_eq_true']
  refine ⟨⟨rfl, ?_, ?_⟩, Or.inl rfl⟩
  · simp only [mkDirEntry, optsMode, Bool.false_eq_true, if_false, if_true]
    exact or_and_self _ _
  · cases mode with
    | none =>
      have : (mkDirEntry p none).mode = 0o40755 := rfl
      rw [this]; decide
    | some m =>
      by_cases h0 : m = 0
      · subst h0
        have : (mkDirEntry p (some 0)).mode = 0o40755 := rfl
        rw [this]; decide
      · have : (mkDirEntry p (some m)).mode = (m &&& 0o7777) ||| 0o40000 := by
          unfold mkDirEntry; simp [optsMode_some, h0]
        rw [this, or_sub_typeBits _ _ (and_perm_lt m) (Or.inl rfl)]
        exact and_perm_lt m

theorem es_syncM (p : FsPath) (b : Bytes) (s : State) (hs : EntriesOk s) : EntriesOk (syncM p b s).2 := by
  have : (syncM p b s).2.entries = s.entries := by
    unfold syncM
    simp only [M_bind_apply, getEntry]
    cases alLookup p s.entries with
    | none => rfl
    | some _ =>
      simp only [M_bind_apply, getFile]
      cases alLookup p s.files <;> rfl
  unfold EntriesOk
  rw [this]; exact hs

theorem es_mkdirM (p : FsPath) (mode : Option Nat) (s : State) (hs : EntriesOk s) :
    EntriesOk (mkdirM p mode s).2 := by
  rw [mkdirM_eq]
  generalize prefixes p = qs
  induction qs generalizing s with
  | nil => exact hs
  | cons q qs ih =>
    rw [forM_cons_apply, mkStep_apply]
    have := es_add (mkDirEntry q mode) (entryOk_mkDirEntry q mode) s hs
    rcases h : add (mkDirEntry q mode) s with ⟨o, s'⟩
    rw [h] at this
    cases o with
    | ok a => exact ih s' this
    | err k => exact this
    | panic => exact this
    | hang => exact this

end Rivia.Lemmas.RefineA
