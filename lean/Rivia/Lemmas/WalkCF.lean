/-
  Rivia.Lemmas.WalkCF — `follow = false` as a case of Lemmas/WalkFollow.lean (`Walk.collectEntries_eff`,
  `Walk.runIter_any`) and the listing helpers; the option domains of the exactness theorems, and
  `contents_first` together with `files()`.

  * `ExactDom3` / `ExactDomF3` (`OrdOk ∧ KindOk`, nothing else) are the domains on which the machine
    equals the walk (`Walk.collectEntries_exact` below, `runIter_exact` in
    Lemmas/WalkFollow.lean): since the two repairs of `EntriesIter` (`process` filters before it
    defers; the deferred stack records depths and a directory is released when the stack of open
    directories is back at its depth) `contents_first` is exact with any depth window and kind
    filter.
  * `ExactDom2` / `ExactDomF2` (`contents_first` only with `min_depth = 0`: what the first repair
    alone gave) and the side condition `FlagsOkFor` are what some property theorems are stated
    with; they are contained in the former, the side condition is not needed.
  * the `*_cfOff` lemmas: with `files()` and exclusive kind flags nothing is ever deferred, the run
    equals the run without `contents_first`. Facts about the machine in their own right; the
    exactness theorems do not rest on them.
-/
import Rivia.Lemmas.Walk
import Rivia.Lemmas.WalkFollow

namespace Rivia.Lemmas.Walk
open Rivia Rivia.Memfs Rivia.Spec Rivia.Lemmas.WalkF

/-! ### `follow = false`: the machine against `Spec.walk` -/

/-- `feed`: any function that runs `step` along a list until it fails -/
theorem runIter_any {σ} {snap : Snap} (hwf : SnapWf snap) {o : Opts} (hfol : o.follow = false)
    {rootE : Entry} (hr : InSnap snap rootE) (step : Entry → σ → Outcome Unit × σ)
    (feed : List Entry → σ → Outcome Unit × σ) (hnil : ∀ w, feed [] w = (.ok (), w))
    (hcons : ∀ e es w, feed (e :: es) w = match step e w with | (.ok (), w') => feed es w' | r => r)
    (f : Nat) (hf : travFuel snap ≤ f) (w : σ) :
    runIter snap o noPre rootE step f {} w = feed (entriesSpec snap (eff o) rootE) w := by
  rw [runIter_walkF_any hwf hr step feed hnil hcons f
      (Nat.le_trans (fuelNeed_le_travFuel hwf (o := eff o) hfol hr) hf),
    entriesSpecF_no_follow hwf (o := eff o) hfol hr]
  cases feed (entriesSpec snap (eff o) rootE) w with
  | mk r w' => cases r <;> rfl

theorem collectEntries_eff {snap : Snap} (hwf : SnapWf snap) {o : Opts} (hfol : o.follow = false)
    {rootE : Entry} (hr : InSnap snap rootE) :
    collectEntries snap o rootE = .ok (entriesSpec snap (eff o) rootE) := by
  unfold collectEntries
  rw [runIter_any hwf hfol hr _ (fun ys acc => (.ok (), ys.reverse ++ acc)) (fun _ => rfl) (fun e es acc => by simp)
    _ (Nat.le_refl _)]
  simp

theorem collectEntries_exact {snap : Snap} (hwf : SnapWf snap) {o : Opts} (hfol : o.follow = false)
    (hord : OrdOk o) (hk : KindOk o) {rootE : Entry} (hr : InSnap snap rootE) :
    collectEntries snap o rootE = .ok (entriesSpec snap o rootE) := by
  rw [collectEntries_eff hwf hfol hr, eff_eq hk hord]

theorem collectEntries_all {snap : Snap} (hwf : SnapWf snap) {o : Opts} (hfol : o.follow = false)
    {rootE : Entry} (hr : InSnap snap rootE) {es : List Entry} (h : collectEntries snap o rootE = .ok es) :
    (es.map (·.path)).Nodup ∧ ∀ y ∈ es, InSnap snap y ∧ rootE.path <+: y.path ∧
      (y = rootE ∨ y.path.length - rootE.path.length ≤ o.maxDepth) := by
  rw [collectEntries_eff hwf hfol hr] at h
  cases h
  refine ⟨walk_nodup hwf (eff o) _ rootE 0 hr, fun y hy => ?_⟩
  obtain ⟨h1, h2, _, _, _, h3⟩ := spec_filter_respected hwf (eff o) hr y hy
  exact ⟨h1, h2, h3⟩

/-! ### the listing helpers (paths, dirs, files, all_*) -/

theorem listing_eq {env : Env} {path : Str} {md : Option Nat} {dirs files : Bool} {s : State} {a : FsPath}
    {rootE : Entry} {snap : Snap} {es : List Entry}
    (habs : absM env path s = (.ok a, s)) (hdir : isDirP s a = true)
    (hent : entriesOf s a = .ok (rootE, snap))
    (hes : collectEntries snap (listingOpts md dirs files) rootE = .ok es) :
    listing env path md dirs files s =
      (.ok ((es.filter (fun e => !((dirs || files) && e.link))).map (·.path)), s) := by
  have hf : (if dirs = true ∨ files = true then es.filter (fun e => !e.link) else es) =
      es.filter (fun e => !((dirs || files) && e.link)) := by
    cases dirs <;> cases files <;> simp <;> exact (List.filter_eq_self.mpr (fun _ _ => rfl)).symm
  rw [← hf]
  unfold listing
  simp only [bind, M.bind, M.get, habs, hdir, Bool.not_true, Bool.false_eq_true, if_false, M.liftO, hent]
  erw [hes]
  rfl

theorem listingOpts_facts (md : Option Nat) (dirs files : Bool) :
    let o := listingOpts md dirs files
    o.follow = false ∧ o.sorted = true ∧ o.contentsFirst = false ∧ o.dirsFirst = false ∧ o.filesFirst = false ∧
      o.minDepth = 1 ∧ o.maxDepth = depthCap md ∧ o.files = files ∧ o.dirs = (dirs && !files) := by
  cases md <;> cases dirs <;> cases files <;> exact ⟨rfl, rfl, rfl, rfl, rfl, rfl, rfl, rfl, rfl⟩

/-- the entries the collecting loop keeps: `dirs` / `files` / `all_dirs` / `all_files` skip links -/
theorem listing_spec {env : Env} {path : Str} (md : Option Nat) (dirs files : Bool) {s : State} {a : FsPath}
    {rootE : Entry} {snap : Snap}
    (hinv : Spec.Inv s) (habs : absM env path s = (.ok a, s)) (hdir : isDirP s a = true)
    (hent : entriesOf s a = .ok (rootE, snap)) (hwf : SnapWf snap)
    (hsnap : SnapOf s a snap) :
    ∃ ps, listing env path md dirs files s = (.ok ps, s) ∧
      ps = ((entriesSpec snap (listingOpts md dirs files) rootE).filter
              (fun e => !((dirs || files) && e.link))).map (·.path) ∧
      ps.Pairwise (fun p q => TreeFs.pathLt p q = true) ∧ ps.Nodup ∧ a ∉ ps ∧
      ∀ p, p ∈ ps ↔ ∃ t e, p = a ++ t ∧ t ≠ [] ∧ t.length ≤ depthCap md ∧
        alLookup p s.entries = some e ∧ (files = true → e.file = true ∧ e.link = false) ∧
        (dirs = true → files = false → e.dir = true ∧ e.link = false) := by
  have hsub := snapOf_lookup hsnap
  obtain ⟨f1, f2, f3, f4, f5, f6, f7, f8, f9⟩ := listingOpts_facts md dirs files
  have hroot0 : alLookup a s.entries = some rootE := by
    unfold entriesOf at hent
    split at hent
    · cases hent
    · rename_i e he
      split at hent <;> cases hent
      exact he
  have hroot1 : alLookup a snap = some rootE := by rw [hsub a (List.prefix_refl a)]; exact hroot0
  have hpa : rootE.path = a := (wf_lookup hwf hroot1).1
  have hroot : InSnap snap rootE := inSnap_of_lookup hwf hroot1
  have hk : KindOk (listingOpts md dirs files) := by
    unfold KindOk; rw [f8, f9]; cases dirs <;> cases files <;> simp
  have hex := collectEntries_exact hwf f1 (Or.inl f2) hk hroot
  have hsubl : List.Sublist
      (((entriesSpec snap (listingOpts md dirs files) rootE).filter
          (fun e => !((dirs || files) && e.link))).map (·.path))
      ((entriesSpec snap (listingOpts md dirs files) rootE).map (·.path)) :=
    List.Sublist.map _ List.filter_sublist
  have hmem : ∀ y, y ∈ entriesSpec snap (listingOpts md dirs files) rootE ↔ _ :=
    fun y => mem_walk_iff hwf (listingOpts md dirs files) _ rootE 0 y hroot (Nat.lt_succ_of_le (pot_le _ _))
  refine ⟨_, listing_eq habs hdir hent hex, rfl, ?_, ?_, ?_, ?_⟩
  · exact List.Pairwise.sublist hsubl (walk_lex hwf _ f3 f4 f5 _ rootE 0 hroot)
  · exact List.Nodup.sublist hsubl (walk_nodup hwf _ _ rootE 0 hroot)
  · intro hm
    obtain ⟨y, hy, hya⟩ := List.mem_map.mp (hsubl.subset hm)
    have hs := (spec_filter_respected hwf _ hroot y hy).2.2.2.2.1
    rw [f6, hya, hpa] at hs
    omega
  · intro p
    simp only [List.mem_map, List.mem_filter]
    constructor
    · rintro ⟨y, ⟨hy, hkeep⟩, rfl⟩
      obtain ⟨hiy, t, ht, hdep, hch, hsel⟩ := (hmem y).mp hy
      simp only [Nat.zero_add, selected, f6, f7, f8, f9, Bool.and_eq_true, decide_eq_true_eq, Bool.or_eq_true,
        Bool.not_eq_true'] at hdep hsel
      rw [hpa] at ht
      have hne : t ≠ [] := by intro h; subst h; simp at hsel
      refine ⟨t, y, ht, hne, ?_, ?_, ?_, ?_⟩
      · rcases hdep with h | h
        · exact absurd h hne
        · exact h
      · rw [← hsub _ (by rw [ht]; exact List.prefix_append _ _)]; exact hiy
      · intro hf
        refine ⟨?_, by simpa [hf] using hkeep⟩
        rcases hsel.1.2 with h | h
        · rw [hf] at h; cases h
        · exact h
      · intro hd hf
        refine ⟨?_, by simpa [hd] using hkeep⟩
        rcases hsel.2 with h | h
        · rw [hd, hf] at h; cases h
        · exact h
    · rintro ⟨t, e, rfl, hne, hlen, hl, hff, hdd⟩
      have hl' : alLookup (a ++ t) snap = some e := by rw [hsub _ (List.prefix_append _ _)]; exact hl
      have hie := inSnap_of_lookup hwf hl'
      have hep := (wf_lookup hwf hl').1
      refine ⟨e, ⟨(hmem e).mpr ⟨hie, t, by rw [hep, hpa], Or.inr (by rw [f7]; simpa using hlen), ?_, ?_⟩, ?_⟩, hep⟩
      · intro t1 n t2 ht
        obtain ⟨pe, h1, h2⟩ := chain_of_inv hinv hl t1 n t2 ht
        rw [hpa]
        exact ⟨pe, by rw [hsub _ (List.prefix_append _ _)]; exact h1, h2⟩
      · simp only [Nat.zero_add, selected, f6, f8, f9, Bool.and_eq_true, decide_eq_true_eq, Bool.or_eq_true,
          Bool.not_eq_true']
        refine ⟨⟨?_, ?_⟩, ?_⟩
        · cases t with
          | nil => exact absurd rfl hne
          | cons _ _ => simp
        · cases hf : files
          · exact Or.inl rfl
          · exact Or.inr (hff hf).1
        · cases hd : dirs
          · left; simp
          · cases hf : files
            · exact Or.inr (hdd hd hf).1
            · left; simp
      · cases hf : files
        · cases hd : dirs
          · simp
          · simp [(hdd hd hf).2]
        · simp [(hff hf).2]

/-- agreement with the queries: the listed paths are exactly the paths strictly below `a` within the
    depth limit that exist and answer the matching query (`is_file`: `file && !link`, `is_dir`:
    `isDirP`) -/
theorem listing_agrees_iff {env : Env} {path : Str} (md : Option Nat) (dirs files : Bool) {s : State} {a : FsPath}
    {rootE : Entry} {snap : Snap} {ps : List FsPath}
    (hinv : Spec.Inv s) (habs : absM env path s = (.ok a, s)) (hdir : isDirP s a = true)
    (hent : entriesOf s a = .ok (rootE, snap)) (hwf : SnapWf snap) (hsnap : SnapOf s a snap)
    (h : listing env path md dirs files s = (.ok ps, s)) :
    ∀ p, p ∈ ps ↔ ∃ t e, p = a ++ t ∧ t ≠ [] ∧ t.length ≤ depthCap md ∧ alLookup p s.entries = some e ∧
      (files = true → (e.file && !e.link) = true) ∧ (dirs = true → files = false → isDirP s p = true) := by
  obtain ⟨ps', h1, _, _, _, _, h6⟩ := listing_spec md dirs files hinv habs hdir hent hwf hsnap
  rw [h] at h1
  have : ps = ps' := by injection h1 with h1 _; injection h1
  subst this
  intro p
  rw [h6]
  constructor
  · rintro ⟨t, e, rfl, hne, hlen, hl, hf, hd⟩
    exact ⟨t, e, rfl, hne, hlen, hl, fun h => by simp [(hf h).1, (hf h).2],
      fun h h' => by simp [isDirP, hl, (hd h h').1, (hd h h').2]⟩
  · rintro ⟨t, e, rfl, hne, hlen, hl, hf, hd⟩
    refine ⟨t, e, rfl, hne, hlen, hl, fun h => by simpa using hf h, fun h h' => ?_⟩
    have := hd h h'
    simpa [isDirP, hl] using this

/-- every listed path answers the matching query: `files` / `all_files` list only paths with
    `is_file`, `dirs` / `all_dirs` only paths with `is_dir` -/
theorem listing_agrees {env : Env} {path : Str} (md : Option Nat) (dirs files : Bool) {s : State} {a : FsPath}
    {rootE : Entry} {snap : Snap} {ps : List FsPath}
    (hinv : Spec.Inv s) (habs : absM env path s = (.ok a, s)) (hdir : isDirP s a = true)
    (hent : entriesOf s a = .ok (rootE, snap)) (hwf : SnapWf snap) (hsnap : SnapOf s a snap)
    (h : listing env path md dirs files s = (.ok ps, s)) :
    ∀ p ∈ ps, ∃ e, alLookup p s.entries = some e ∧
      (files = true → (e.file && !e.link) = true) ∧ (dirs = true → files = false → isDirP s p = true) := by
  intro p hp
  obtain ⟨t, e, _, _, _, hl, hf, hd⟩ :=
    (listing_agrees_iff md dirs files hinv habs hdir hent hwf hsnap h p).mp hp
  exact ⟨e, hl, hf, hd⟩

theorem listing_complete {env : Env} {path : Str} (md : Option Nat) (dirs files : Bool) {s : State} {a : FsPath}
    {rootE : Entry} {snap : Snap} {ps : List FsPath}
    (hinv : Spec.Inv s) (habs : absM env path s = (.ok a, s)) (hdir : isDirP s a = true)
    (hent : entriesOf s a = .ok (rootE, snap)) (hwf : SnapWf snap) (hsnap : SnapOf s a snap)
    (h : listing env path md dirs files s = (.ok ps, s)) :
    ∀ t e, t ≠ [] → t.length ≤ depthCap md → alLookup (a ++ t) s.entries = some e →
      (files = true → (e.file && !e.link) = true) → (dirs = true → files = false → isDirP s (a ++ t) = true) →
      a ++ t ∈ ps :=
  fun t e hne hlen hl hf hd =>
    (listing_agrees_iff md dirs files hinv habs hdir hent hwf hsnap h _).mpr ⟨t, e, rfl, hne, hlen, hl, hf, hd⟩

end Rivia.Lemmas.Walk

namespace Rivia.Lemmas.WalkCF
open Rivia Rivia.Memfs Rivia.Spec
open Rivia.Lemmas.Walk Rivia.Lemmas.WalkF

/-- no snapshot entry carries both kind flags (decidable). Every constructor of the
    implementation sets exactly one of `dir` / `file`; the model's `Entry` keeps them as two
    independent fields and neither `SnapWf` nor `Spec.Inv` records their exclusiveness. -/
def FlagsExcl (snap : Snap) : Prop := ∀ kv ∈ snap, kv.2.dir = true → kv.2.file = false

instance (snap : Snap) : Decidable (FlagsExcl snap) := by unfold FlagsExcl; infer_instance

/-- the entry does not carry both kind flags -/
def QE (e : Entry) : Prop := e.dir = true → e.file = false

theorem QE_doFollow {e : Entry} (b : Bool) (h : QE e) : QE (e.doFollow b) := by
  unfold QE Entry.doFollow at *
  split <;> exact h

theorem QE_of_lookup {snap : Snap} (hs : FlagsExcl snap) {k : FsPath} {e : Entry} (h : alLookup k snap = some e) :
    QE e := hs (k, e) (alLookup_mem h)

/-- the options with `contents_first` switched off -/
def cfOff (o : Opts) : Opts := { o with contentsFirst := false }

@[simp] theorem cfOff_follow (o : Opts) : (cfOff o).follow = o.follow := rfl
@[simp] theorem cfOff_files (o : Opts) : (cfOff o).files = o.files := rfl
@[simp] theorem cfOff_dirs (o : Opts) : (cfOff o).dirs = o.dirs := rfl
@[simp] theorem cfOff_minDepth (o : Opts) : (cfOff o).minDepth = o.minDepth := rfl
@[simp] theorem cfOff_maxDepth (o : Opts) : (cfOff o).maxDepth = o.maxDepth := rfl
@[simp] theorem cfOff_maxDesc (o : Opts) : (cfOff o).maxDesc = o.maxDesc := rfl
@[simp] theorem cfOff_sorted (o : Opts) : (cfOff o).sorted = o.sorted := rfl
@[simp] theorem cfOff_cf (o : Opts) : (cfOff o).contentsFirst = false := rfl

theorem mkIter_cfOff (snap : Snap) (o : Opts) (p : FsPath) : mkIter snap (cfOff o) p = mkIter snap o p := rfl

theorem kindOk_cfOff {o : Opts} (h : KindOk o) : KindOk (cfOff o) := h
theorem ordOk_cfOff {o : Opts} (h : OrdOk o) : OrdOk (cfOff o) := h

/-! ### the items of a directory iterator are snapshot entries (presented) -/

theorem mem_insertSorted {le : Entry → Entry → Bool} {x y : Entry} :
    ∀ {l : List Entry}, y ∈ insertSorted le x l → y = x ∨ y ∈ l
  | [], h => by simpa [insertSorted] using h
  | z :: l, h => by
    unfold insertSorted at h
    split at h
    · simpa using h
    · rcases List.mem_cons.mp h with h | h
      · exact Or.inr (by simp [h])
      · rcases mem_insertSorted h with h | h
        · exact Or.inl h
        · exact Or.inr (List.mem_cons_of_mem _ h)

theorem mem_sortEntries {le : Entry → Entry → Bool} {y : Entry} :
    ∀ {l : List Entry}, y ∈ sortEntries le l → y ∈ l
  | [], h => by simp [sortEntries] at h
  | x :: l, h => by
    have h' : y ∈ insertSorted (fun a b => le a b) x (sortEntries le l) := h
    rcases mem_insertSorted h' with h | h
    · simp [h]
    · exact List.mem_cons_of_mem _ (mem_sortEntries h)

theorem mkIter_items {snap : Snap} (hs : FlagsExcl snap) {o : Opts} {p : FsPath} {it : EIter}
    (h : mkIter snap o p = .ok it) : ∀ x ∈ it.items, QE x := by
  unfold mkIter at h
  split at h
  · cases h
  · extract_lets kids raw items at h
    have hitems : ∀ x ∈ items, QE x := by
      intro x hx
      obtain ⟨y, hy, rfl⟩ := List.mem_map.mp hx
      obtain ⟨oy, hoy, hid⟩ := List.mem_filterMap.mp hy
      obtain ⟨k, _, hk⟩ := List.mem_map.mp ((List.takeWhile_sublist _).subset hoy)
      cases hid
      exact QE_doFollow _ (QE_of_lookup hs hk)
    -- sorting and grouping only rearrange the items
    have hgroup : ∀ (q : Entry → Bool) x, x ∈ sortEntries nameLe (items.filter q) → QE x :=
      fun q x hx => hitems x (List.mem_filter.mp (mem_sortEntries hx)).1
    intro x hx
    split at h
    · split at h
      · cases h
        rcases List.mem_append.mp hx with hx | hx <;> exact hgroup _ x hx
      · split at h
        · cases h
          rcases List.mem_append.mp hx with hx | hx <;> exact hgroup _ x hx
        · cases h
          exact hitems x (mem_sortEntries hx)
    · cases h
      exact hitems x hx

/-! ### the machine: with `files()` nothing is deferred -/

/-- nothing deferred, every waiting item has exclusive kind flags -/
def NoDef (st : ISt) : Prop := st.deferred = [] ∧ ∀ it ∈ st.iters, ∀ x ∈ it.items, QE x

theorem finP_cfOff {o : Opts} (hf : o.files = true) (d : Nat) {e : Entry} (hq : QE e) (st : ISt) :
    finP o d e st = finP (cfOff o) d e st := by
  unfold finP QE at *
  simp only [cfOff_minDepth, cfOff_files, cfOff_dirs, cfOff_cf]
  cases hd : e.dir <;> cases hfl : e.file <;> simp_all

theorem procP_cfOff (snap : Snap) {o : Opts} (hf : o.files = true) (st : ISt) {e : Entry} (hq : QE e) :
    procP snap o st e = procP snap (cfOff o) st e := by
  have hd : descP snap (cfOff o) st e = descP snap o st e := rfl
  unfold procP
  rw [hd]
  split
  · rfl
  · exact finP_cfOff hf _ hq _

theorem descP_noDef {snap : Snap} (hs : FlagsExcl snap) (o : Opts) (st : ISt) (e : Entry) (hst : NoDef st) :
    NoDef (descP snap o st e).2 := by
  unfold descP
  repeat' split
  all_goals first
    | exact hst
    | (rename_i it hit _
       refine ⟨hst.1, ?_⟩
       intro it' hit'
       rcases List.mem_cons.mp hit' with h | h
       · subst h; exact fun x hx => mkIter_items hs hit x hx
       · exact hst.2 it' h)

theorem procP_noDef {snap : Snap} (hs : FlagsExcl snap) {o : Opts} (hcf : o.contentsFirst = false) (st : ISt)
    (e : Entry) (hst : NoDef st) : NoDef (procP snap o st e).2 := by
  have h := descP_noDef hs o st e hst
  unfold procP
  split
  · rename_i heq; rw [heq] at h; exact h
  · rename_i heq; rw [heq] at h
    unfold finP
    simp only [hcf, Bool.false_eq_true, and_false, if_false]
    repeat' split
    all_goals exact h

theorem process_cfOff {σ} {snap : Snap} (hs : FlagsExcl snap) {o : Opts} (hf : o.files = true)
    (st : ISt) {e : Entry} (hq : QE e) (hst : NoDef st) (w : σ) :
    ∃ ro st2, process snap o noPre st e w = (ro, st2, w) ∧ process snap (cfOff o) noPre st e w = (ro, st2, w) ∧
      NoDef st2 :=
  ⟨_, _, by rw [process_w, procP_cfOff snap hf st hq], process_w _ _ _ _ _, procP_noDef hs (cfOff_cf o) st e hst⟩

theorem deferredReady_nil (n : Nat) : deferredReady n [] = false := rfl

theorem nextLoop_cfOff {σ} {snap : Snap} (hs : FlagsExcl snap) {o : Opts} (hf : o.files = true) :
    ∀ (f : Nat) (st : ISt) (w : σ), NoDef st →
      nextLoop snap o noPre f st w = nextLoop snap (cfOff o) noPre f st w ∧
      NoDef (nextLoop snap (cfOff o) noPre f st w).2.1
  | 0, st, w, hst => ⟨rfl, hst⟩
  | f + 1, st, w, hst => by
    obtain ⟨started, openDesc, iters, deferred⟩ := st
    obtain ⟨hd, hit⟩ := hst
    simp only [] at hd hit
    subst hd
    cases iters with
    | nil =>
      refine ⟨?_, ?_⟩
      · simp only [nextLoop, ite_self]
      · simp only [nextLoop, ite_self]
        exact ⟨rfl, hit⟩
    | cons top below =>
      obtain ⟨tp, tc, items⟩ := top
      cases items with
      | nil =>
        have hst1 : NoDef ⟨started, if tc then openDesc else openDesc - 1, below, []⟩ :=
          ⟨rfl, fun it h => hit it (List.mem_cons_of_mem _ h)⟩
        have ih := nextLoop_cfOff hs hf f ⟨started, if tc then openDesc else openDesc - 1, below, []⟩ w hst1
        simp only [nextLoop, deferredReady_nil, Bool.false_eq_true, and_false, if_false]
        exact ih
      | cons x xs =>
        have hx : QE (x.doFollow o.follow) :=
          QE_doFollow _ (hit ⟨tp, tc, x :: xs⟩ List.mem_cons_self x List.mem_cons_self)
        have hst1 : NoDef ⟨started, openDesc, ⟨tp, tc, xs⟩ :: below, []⟩ := by
          refine ⟨rfl, ?_⟩
          intro it h
          rcases List.mem_cons.mp h with h | h
          · subst h
            intro y hy
            exact hit ⟨tp, tc, x :: xs⟩ List.mem_cons_self y (List.mem_cons_of_mem _ hy)
          · exact hit it (List.mem_cons_of_mem _ h)
        obtain ⟨ro, st2, h1, h2, hn⟩ := process_cfOff hs hf ⟨started, openDesc, ⟨tp, tc, xs⟩ :: below, []⟩ hx hst1 w
        simp only [nextLoop, deferredReady_nil, Bool.false_eq_true, and_false, if_false, cfOff_follow, h1, h2]
        cases ro with
        | none => exact nextLoop_cfOff hs hf f st2 w hn
        | some r => exact ⟨rfl, hn⟩

theorem nextE_cfOff {σ} {snap : Snap} (hs : FlagsExcl snap) {o : Opts} (hf : o.files = true) {rootE : Entry}
    (hr : QE rootE) (f : Nat) (st : ISt) (w : σ) (hst : NoDef st) :
    nextE snap o noPre rootE f st w = nextE snap (cfOff o) noPre rootE f st w ∧
    NoDef (nextE snap (cfOff o) noPre rootE f st w).2.1 := by
  unfold nextE
  split
  · have hx : QE (rootE.doFollow o.follow) := QE_doFollow _ hr
    obtain ⟨ro, st2, h1, h2, hn⟩ := process_cfOff hs hf { st with started := true } hx hst w
    simp only [cfOff_follow, h1, h2]
    cases ro with
    | none => exact nextLoop_cfOff hs hf f st2 w hn
    | some r => exact ⟨rfl, hn⟩
  · exact nextLoop_cfOff hs hf f st w hst

theorem runIter_cfOff {σ} {snap : Snap} (hs : FlagsExcl snap) {o : Opts} (hf : o.files = true) {rootE : Entry}
    (hr : QE rootE) (step : Entry → σ → Outcome Unit × σ) :
    ∀ (f : Nat) (st : ISt) (w : σ), NoDef st →
      runIter snap o noPre rootE step f st w = runIter snap (cfOff o) noPre rootE step f st w
  | 0, _, _, _ => rfl
  | f + 1, st, w, hst => by
    unfold runIter
    obtain ⟨h1, h2⟩ := nextE_cfOff hs hf hr (f + 1) st w hst
    rw [h1]
    revert h2
    generalize nextE snap (cfOff o) noPre rootE (f + 1) st w = R
    obtain ⟨ro, st', w'⟩ := R
    intro h2
    cases ro with
    | none => rfl
    | some oc =>
      cases oc with
      | ok e =>
        simp only []
        cases hse : step e w' with
        | mk r2 w3 =>
          cases r2 with
          | ok u => cases u; exact runIter_cfOff hs hf hr step f st' w3 h2
          | err k => rfl
          | panic => rfl
          | hang => rfl
      | err k => rfl
      | panic => rfl
      | hang => rfl

theorem collectEntries_cfOff {snap : Snap} (hs : FlagsExcl snap) {o : Opts} (hf : o.files = true) {rootE : Entry}
    (hr : QE rootE) : collectEntries snap o rootE = collectEntries snap (cfOff o) rootE := by
  unfold collectEntries
  rw [runIter_cfOff hs hf hr _ _ _ _ ⟨rfl, fun _ h => by cases h⟩]

/-! ### the specification walks: with `files()` no directory is selected -/

theorem selected_dir_files {o : Opts} (hf : o.files = true) {e : Entry} (hq : QE e) (hd : e.dir = true) (d : Nat) :
    selected o e d = false := by
  simp [selected, hf, hq hd]

theorem QE_children {snap : Snap} (hs : FlagsExcl snap) {o : Opts} {e c : Entry} (h : c ∈ children snap o e) : QE c := by
  unfold children at h
  rw [mem_groupKinds] at h
  obtain ⟨n, _, hn⟩ := List.mem_filterMap.mp h
  exact QE_of_lookup hs hn

theorem walk_cfOff {snap : Snap} (hs : FlagsExcl snap) {o : Opts} (hf : o.files = true) :
    ∀ (k : Nat) (e : Entry) (d : Nat), QE e → walk snap o k e d = walk snap (cfOff o) k e d
  | 0, _, _, _ => rfl
  | k + 1, e, d, hq => by
    have hch : children snap (cfOff o) e = children snap o e := rfl
    have hsel : selected (cfOff o) e d = selected o e d := rfl
    have hdes : descends (cfOff o) e d = descends o e d := rfl
    have hbelow : (children snap o e).flatMap (fun c => walk snap o k c (d + 1)) =
        (children snap o e).flatMap (fun c => walk snap (cfOff o) k c (d + 1)) :=
      flatMap_congr' (fun c hc => walk_cfOff hs hf k c (d + 1) (QE_children hs hc))
    simp only [walk, hch, hsel, hdes, cfOff_cf, Bool.false_and, Bool.false_eq_true, if_false, hbelow]
    by_cases hc : (o.contentsFirst && e.dir) = true
    · have hd : e.dir = true := by simp only [Bool.and_eq_true] at hc; exact hc.2
      simp [hc, selected_dir_files hf hq hd]
    · simp [hc]

theorem entriesSpec_cfOff {snap : Snap} (hs : FlagsExcl snap) {o : Opts} (hf : o.files = true) {rootE : Entry}
    (hr : QE rootE) : entriesSpec snap o rootE = entriesSpec snap (cfOff o) rootE :=
  walk_cfOff hs hf _ rootE 0 hr

theorem QE_childrenF {snap : Snap} (hs : FlagsExcl snap) {o : Opts} {e : Entry} {kids : List Entry}
    (hk : childrenF snap o e = some kids) {c : Entry} (h : c ∈ kids) : QE c := by
  unfold childrenF at hk
  obtain ⟨ns, _, hns⟩ := Option.map_eq_some_iff.mp hk
  subst hns
  rw [mem_groupKinds] at h
  have h2 : c ∈ (ns.filterMap (fun n => alLookup (e.path ++ [n]) snap)).map (present o) := by
    unfold orderEntries at h
    split at h
    · exact (List.mem_mergeSort).mp h
    · exact h
  obtain ⟨y, hy, rfl⟩ := List.mem_map.mp h2
  obtain ⟨n, _, hn⟩ := List.mem_filterMap.mp hy
  exact QE_doFollow _ (QE_of_lookup hs hn)

theorem walkF_cfOff {snap : Snap} (hs : FlagsExcl snap) {o : Opts} (hf : o.files = true) :
    ∀ (k : Nat) (chain : List FsPath) (e : Entry) (d : Nat), QE e →
      walkF snap o k chain e d = walkF snap (cfOff o) k chain e d
  | 0, _, _, _, _ => rfl
  | k + 1, chain, e, d, hq => by
    -- a directory is not selected, so it does not matter on which side of its contents it stands
    have hself : (o.contentsFirst && e.dir) = true → (if selected o e d = true then [e] else []) = [] :=
      fun hc => by
        rw [Bool.and_eq_true] at hc
        rw [selected_dir_files hf hq hc.2]; rfl
    have hch : childrenF snap (cfOff o) e = childrenF snap o e := rfl
    have hsel : selected (cfOff o) e d = selected o e d := rfl
    have hent : entersF (cfOff o) e d = entersF o e d := rfl
    have hlp : loopsF (cfOff o) chain e = loopsF o chain e := rfl
    have hcf : ((cfOff o).contentsFirst && e.dir) = false := rfl
    rw [walkF, walkF, hch, hsel, hent, hlp, hcf]
    simp only []
    generalize (if selected o e d = true then [e] else []) = self at hself
    cases hk : childrenF snap o e with
    | none => rfl
    | some kids =>
      simp only []
      rw [seqF_congr (f := fun c => walkF snap o k (e.path :: chain) c (d + 1))
        (g := fun c => walkF snap (cfOff o) k (e.path :: chain) c (d + 1))
        (fun c hc => walkF_cfOff hs hf k (e.path :: chain) c (d + 1) (QE_childrenF hs hk hc))]
      by_cases hc : (o.contentsFirst && e.dir) = true
      · simp only [hc, if_true, hself hc, Bool.false_eq_true, if_false, List.nil_append, List.append_nil]
      · simp only [hc, Bool.false_eq_true, if_false]

theorem entriesSpecF_cfOff {snap : Snap} (hs : FlagsExcl snap) {o : Opts} (hf : o.files = true) {rootE : Entry}
    (hr : QE rootE) : entriesSpecF snap o rootE = entriesSpecF snap (cfOff o) rootE :=
  walkF_cfOff hs hf _ [] _ 0 (QE_doFollow _ hr)

theorem sizeF_cfOff (snap : Snap) (o : Opts) : ∀ (k : Nat) (chain : List FsPath) (e : Entry) (d : Nat),
    sizeF snap (cfOff o) k chain e d = sizeF snap o k chain e d
  | 0, _, _, _ => rfl
  | k + 1, chain, e, d => by
    have hch : childrenF snap (cfOff o) e = childrenF snap o e := rfl
    have hent : entersF (cfOff o) e d = entersF o e d := rfl
    have hlp : loopsF (cfOff o) chain e = loopsF o chain e := rfl
    have hfun : (fun c => sizeF snap (cfOff o) k (e.path :: chain) c (d + 1)) =
        (fun c => sizeF snap o k (e.path :: chain) c (d + 1)) :=
      funext fun c => sizeF_cfOff snap o k (e.path :: chain) c (d + 1)
    simp only [sizeF, hch, hent, hlp, hfun]

theorem fuelNeed_cfOff (snap : Snap) (o : Opts) (rootE : Entry) :
    fuelNeed snap (cfOff o) rootE = fuelNeed snap o rootE := by
  unfold fuelNeed
  rw [sizeF_cfOff]
  rfl

/-! ### the wider option domains -/

/-- the option combinations for which the repaired implementation is exact (decidable), links not
    followed: as `ExactDom`, but `contents_first` (with `min_depth = 0`) may be combined with a
    kind filter -/
def ExactDom2 (o : Opts) : Prop :=
  o.follow = false ∧ OrdOk o ∧
    ((o.contentsFirst = false ∧ KindOk o) ∨ (o.contentsFirst = true ∧ o.minDepth = 0 ∧ KindOk o))

instance (o : Opts) : Decidable (ExactDom2 o) := by unfold ExactDom2; infer_instance

theorem ExactDom.to2 {o : Opts} (h : ExactDom o) : ExactDom2 o := by
  obtain ⟨h1, h2, h3 | ⟨h3, h4, h5, h6⟩⟩ := h
  · exact ⟨h1, h2, Or.inl h3⟩
  · exact ⟨h1, h2, Or.inr ⟨h3, h4, by unfold KindOk; simp [h5]⟩⟩

/-- as `DomF` (links followed), `contents_first` with `min_depth = 0` and any exclusive filter -/
def DomF2 (o : Opts) : Prop :=
  (o.contentsFirst = false ∧ KindOk o) ∨ (o.contentsFirst = true ∧ o.minDepth = 0 ∧ KindOk o)

instance (o : Opts) : Decidable (DomF2 o) := by unfold DomF2; infer_instance

theorem DomF.to2 {o : Opts} (h : DomF o) : DomF2 o := by
  rcases h with h | ⟨h3, h4, h5, h6⟩
  · exact Or.inl h
  · exact Or.inr ⟨h3, h4, by unfold KindOk; simp [h5]⟩

/-- the wider domain of the exactness theorems with links followed -/
def ExactDomF2 (o : Opts) : Prop := o.follow = true ∧ OrdOk o ∧ DomF2 o

instance (o : Opts) : Decidable (ExactDomF2 o) := by unfold ExactDomF2; infer_instance

/-- the option combinations for which the implementation is exact after BOTH repairs (decidable),
    links not followed: no restriction on `contents_first` or the depth window at all — only
    exclusive kind filters (`KindOk`) and grouping with a sort (`OrdOk`) -/
def ExactDom3 (o : Opts) : Prop := o.follow = false ∧ OrdOk o ∧ KindOk o

instance (o : Opts) : Decidable (ExactDom3 o) := by unfold ExactDom3; infer_instance

theorem ExactDom2.to3 {o : Opts} (h : ExactDom2 o) : ExactDom3 o := by
  obtain ⟨h1, h2, h3 | ⟨_, _, h3⟩⟩ := h
  · exact ⟨h1, h2, h3.2⟩
  · exact ⟨h1, h2, h3⟩

theorem ExactDom.to3 {o : Opts} (h : ExactDom o) : ExactDom3 o := (ExactDom.to2 h).to3

/-- the same with links followed -/
def ExactDomF3 (o : Opts) : Prop := o.follow = true ∧ OrdOk o ∧ KindOk o

instance (o : Opts) : Decidable (ExactDomF3 o) := by unfold ExactDomF3; infer_instance

theorem DomF2.kindOk {o : Opts} (h : DomF2 o) : KindOk o := by
  rcases h with h | ⟨_, _, h⟩
  · exact h.2
  · exact h

theorem ExactDomF2.to3 {o : Opts} (h : ExactDomF2 o) : ExactDomF3 o := ⟨h.1, h.2.1, h.2.2.kindOk⟩

/-- the side condition of the `files().contents_first()` case: exclusive kind flags -/
def FlagsOkFor (snap : Snap) (o : Opts) : Prop := o.contentsFirst = true → o.files = true → FlagsExcl snap

instance (snap : Snap) (o : Opts) : Decidable (FlagsOkFor snap o) := by unfold FlagsOkFor; infer_instance

/-- exactness for EVERY option combination with `follow = false`, `OrdOk`, `KindOk`
    (no side condition: the depth-tagged deferred stack makes `FlagsOkFor` unnecessary) -/
theorem collectEntries_exact3 {snap : Snap} (hwf : SnapWf snap) {o : Opts} (hdom : ExactDom3 o)
    {rootE : Entry} (hr : InSnap snap rootE) :
    collectEntries snap o rootE = .ok (entriesSpec snap o rootE) := by
  obtain ⟨hfol, hord, hk⟩ := hdom
  exact collectEntries_exact hwf hfol hord hk hr

theorem es_eq_of_exact3 {snap : Snap} {o : Opts} {rootE : Entry} {es : List Entry}
    (hwf : SnapWf snap) (hroot : InSnap snap rootE) (hdom : ExactDom3 o)
    (h : collectEntries snap o rootE = .ok es) : es = entriesSpec snap o rootE := by
  rw [collectEntries_exact3 hwf hdom hroot] at h
  exact (Outcome.ok.inj h).symm

end Rivia.Lemmas.WalkCF
