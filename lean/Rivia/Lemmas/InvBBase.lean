/-
  Rivia.Lemmas.InvBBase — C03 (group B) foundations: the invariant read through the lookup functions of
  the two maps (`InvL`, `InvP`, `inv_iff : Inv s ↔ InvP s`) and, in the same form, the three extra
  clauses `move_p` needs (`ExtL`; `extS_iff` ties them to `KeysWf`, `SortedKids`, `FlagsOk`).
-/
import Rivia.Lemmas.MemfsBase
import Rivia.Lemmas.InvA

namespace Rivia.Lemmas.InvB
open Rivia Rivia.Memfs Rivia.File Rivia.Spec Rivia.Lemmas

/-! ### association lists -/

section AL
variable {β : Type}

def keys (l : List (FsPath × β)) : List FsPath := l.map (·.1)

@[simp] theorem keys_nil : keys ([] : List (FsPath × β)) = [] := rfl
@[simp] theorem keys_cons (kv : FsPath × β) (l : List (FsPath × β)) : keys (kv :: l) = kv.1 :: keys l := rfl

theorem alLookup_isSome_iff (k : FsPath) (l : List (FsPath × β)) :
    (alLookup k l).isSome = true ↔ k ∈ keys l :=
  alLookup_isSome_iff_mem_keys

end AL

/-! ### the invariant on lookup functions -/

/-- the clauses of `invViolation` that speak about the two maps, stated on their lookup functions -/
structure InvL (E : FsPath → Option Entry) (F : FsPath → Option Bytes) : Prop where
  root : ∃ e, E [] = some e ∧ e.dir = true ∧ e.link = false
  parent : ∀ k e, E k = some e → k ≠ [] →
    ∃ pe fs, E k.dropLast = some pe ∧ pe.dir = true ∧ pe.link = false ∧ pe.files = some fs ∧ baseName k ∈ fs
  kids : ∀ k e fs n, E k = some e → e.files = some fs → n ∈ fs → (E (k ++ [n])).isSome = true
  data : ∀ k e, E k = some e → ((e.file = true ∧ e.link = false) ↔ (F k).isSome = true)
  dangling : ∀ k, (F k).isSome = true → (E k).isSome = true
  path : ∀ k e, E k = some e → e.path = k
  dirflag : ∀ k e, E k = some e → (e.files.isSome = true ↔ e.dir = true)
  nodupKids : ∀ k e fs, E k = some e → e.files = some fs → fs.Nodup

def EL (s : State) : FsPath → Option Entry := fun k => alLookup k s.entries
def FL (s : State) : FsPath → Option Bytes := fun k => alLookup k s.files

/-- Prop-level formulation of `Inv` -/
def InvP (s : State) : Prop :=
  (keys s.entries).Nodup ∧ (keys s.files).Nodup ∧ s.root = [] ∧ InvL (EL s) (FL s)

/-! ### `Inv s ↔ InvP s` -/

theorem invP_iff_A (s : State) : InvP s ↔ InvA.InvP s :=
  ⟨fun ⟨h1, h2, h3, hL⟩ => ⟨h1, hL.root, h3, hL.parent, hL.kids, hL.data, hL.dangling, h2, hL.path,
      hL.dirflag, hL.nodupKids⟩,
    fun h => ⟨h.keysNodup, h.dataNodup, h.rootNil, h.rootOk, h.parent, h.child, h.data, h.dataKey,
      h.pathField, h.filesDir, h.childNodup⟩⟩

theorem inv_iff (s : State) : Spec.Inv s ↔ InvP s :=
  (InvA.inv_iff s).trans (invP_iff_A s).symm

/-! ### the three extra invariants needed for `moveP` (not part of `Inv`) -/

/-- the order the child lists are kept in (`insertName` assumes it) -/
def nameLE (a b : Str) : Prop := strLt b a = false

instance (a b : Str) : Decidable (nameLE a b) := by unfold nameLE; infer_instance

/-- every name of every key (and of cwd) is a real path element: non-empty, not `.`, slash-free -/
def KeysWf (s : State) : Prop :=
  (∀ kv ∈ s.entries, ∀ n ∈ kv.1, BodyPiece n) ∧ (∀ n ∈ s.cwd, BodyPiece n)

/-- every child-name list is sorted -/
def SortedKids (s : State) : Prop :=
  ∀ kv ∈ s.entries, ∀ fs, kv.2.files = some fs → fs.Pairwise nameLE

/-- no entry is flagged both as a file and as a directory -/
def FlagsOk (s : State) : Prop :=
  ∀ kv ∈ s.entries, ¬ (kv.2.file = true ∧ kv.2.dir = true)

instance (s : State) : Decidable (FlagsOk s) := by unfold FlagsOk; infer_instance

instance (p : Str) : Decidable (BodyPiece p) := by unfold BodyPiece; infer_instance
instance (s : State) : Decidable (KeysWf s) := by unfold KeysWf; infer_instance
instance (s : State) : Decidable (SortedKids s) := by unfold SortedKids; infer_instance

/-- lookup form of `KeysWf`, `SortedKids` and `FlagsOk` -/
structure ExtL (E : FsPath → Option Entry) : Prop where
  keysWf : ∀ k e, E k = some e → ∀ n ∈ k, BodyPiece n
  sorted : ∀ k e fs, E k = some e → e.files = some fs → fs.Pairwise nameLE
  flags : ∀ k e, E k = some e → ¬ (e.file = true ∧ e.dir = true)

def ExtS (s : State) : Prop := ExtL (EL s) ∧ ∀ n ∈ s.cwd, BodyPiece n

theorem extS_iff {s : State} (hnd : (keys s.entries).Nodup) :
    ExtS s ↔ KeysWf s ∧ SortedKids s ∧ FlagsOk s := by
  unfold ExtS KeysWf SortedKids FlagsOk
  constructor
  · rintro ⟨⟨h1, h2, h4⟩, h3⟩
    refine ⟨⟨?_, h3⟩, ?_, ?_⟩
    · rintro ⟨k, e⟩ hkv; exact h1 k e (alLookup_of_mem hnd hkv)
    · rintro ⟨k, e⟩ hkv fs hf; exact h2 k e fs (alLookup_of_mem hnd hkv) hf
    · rintro ⟨k, e⟩ hkv; exact h4 k e (alLookup_of_mem hnd hkv)
  · rintro ⟨⟨h1, h3⟩, h2, h4⟩
    refine ⟨⟨?_, ?_, ?_⟩, h3⟩
    · intro k e hk; exact h1 (k, e) (alLookup_mem hk)
    · intro k e fs hk hf; exact h2 (k, e) (alLookup_mem hk) fs hf
    · intro k e hk; exact h4 (k, e) (alLookup_mem hk)

/-- `InvP`, plus the extras when `b` holds (`b := False`: plain invariant; `b := True`: strengthened) -/
def Good (b : Prop) (s : State) : Prop := InvP s ∧ (b → ExtS s)

end Rivia.Lemmas.InvB
