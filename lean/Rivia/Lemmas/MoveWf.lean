/-
  Rivia.Lemmas.MoveWf — on keys made of ordinary path components the destination computed by
  `move_p` is the list-level one (`dstOf_sub`: `sk ++ r` goes to `moveDst st sk dk ++ r`), and therefore
  lies outside the source subtree whenever the call passes the validation of `moveM` on a
  well-formed state.  This discharges the domain hypothesis `MoveDstOutside` of FuelMove.lean.
-/
import Rivia.Lemmas.NoPanic
import Rivia.Lemmas.MoveP

namespace Rivia.Lemmas
open Rivia Rivia.Str Rivia.Memfs Rivia.Spec

theorem strict_prefix_real_dir {s : State} (hi : InvF s) {a k : FsPath} {e : Entry}
    (hk : alLookup k s.entries = some e) (hpre : a <+: k) (hne : a ≠ k) :
    ∃ pe, alLookup a s.entries = some pe ∧ pe.dir = true ∧ pe.link = false := by
  obtain ⟨t, rfl⟩ := hpre
  exact ancestor_is_dir hi t a e hk fun h => hne (by rw [h, List.append_nil])

/-- two prefixes of the same list are comparable -/
theorem prefix_comparable {a b l : FsPath} (ha : a <+: l) (hb : b <+: l) : a <+: b ∨ b <+: a := by
  by_cases h : a.length ≤ b.length
  · exact .inl (List.prefix_of_prefix_length_le ha hb h)
  · exact .inr (List.prefix_of_prefix_length_le hb ha (by omega))

/-! ### the validation of `moveM` implies `MoveDstOutside` on ordinary states -/

/-- all keys consist of ordinary path components -/
def NamesWf (s : State) : Prop := ∀ kv ∈ s.entries, WfKey kv.1

/-- a real directory is not also a regular file -/
def KindExcl (s : State) : Prop :=
  ∀ kv ∈ s.entries, kv.2.dir = true → kv.2.link = false → kv.2.file = false

instance (s : State) : Decidable (NamesWf s) := by unfold NamesWf; infer_instance
instance (s : State) : Decidable (KindExcl s) := by unfold KindExcl; infer_instance

/-- what lies at or below the source goes to `moveDst st sk dk ++ r`; were that inside the source
    subtree, the final destination would be a proper ancestor of the source, hence a real directory -/
theorem moveOutside {st : State} (hi : InvF st) (hw : NamesWf st) (hk : KindExcl st) {sk dk : FsPath}
    (hdk : WfKey dk) {e : Entry} (hsrc : alLookup sk st.entries = some e)
    (hne : moveDst st sk dk ≠ sk) (hval : ¬ List.isPrefixOf sk (moveDst st sk dk) = true)
    (hdst : alLookup (moveDst st sk dk) st.entries = none ∨
      ∃ x, alLookup (moveDst st sk dk) st.entries = some x ∧ x.file = true) :
    MoveDstOutside st sk dk := by
  intro kv hkv hu hsk0
  obtain ⟨r, hr⟩ := hu
  have hwk := hw kv hkv
  rw [← hr] at hwk ⊢
  have hpre := preOf_spec hsk0
  have hD : moveDst st sk dk = if isDirP st dk = true then dk ++ [baseName sk] else dk := by
    by_cases hci : isDirP st dk = true
    · exact moveDst_eq hwk.left (hsk0 hci) hdk
    · unfold moveDst; rw [if_neg hci, if_neg hci]
  show ¬ sk <+: dstOf dk (sk ++ r) (preOf (isDirP st dk) sk)
  rw [dstOf_sub hdk hwk.left hwk.right hpre, ← hD]
  intro hin
  rcases prefix_comparable hin (List.prefix_append _ r) with h | h
  · exact hval (List.isPrefixOf_iff_prefix.2 h)
  · obtain ⟨pe, hpe, hd, hl⟩ := strict_prefix_real_dir hi hsrc h hne
    rcases hdst with hnone | ⟨x, hx, hxf⟩
    · rw [hnone] at hpe; cases hpe
    · rw [hx] at hpe
      cases hpe
      have := hk (_, pe) (alLookup_mem hx) hd hl
      rw [hxf] at this
      cases this

/-- `move_p` terminates on a well-formed state whose names are ordinary components and whose real
    directories are not also files, provided the resolved destination consists of ordinary
    components as well -/
theorem moveM_runs_wf (env : Env) (src dst : Str) (st : State) (hinv : Spec.Inv st)
    (hw : NamesWf st) (hk : KindExcl st)
    (hdkwf : ∀ dk, absM env dst st = (.ok dk, st) → WfKey dk) :
    wpAllow False False (moveM env src dst) st (fun _ _ => True) := by
  refine moveM_runs env src dst st fun _ =>
    ⟨hinv, fun sk dk e D _ hdk he hD hne hpre hdst => ?_⟩
  subst hD
  exact moveOutside (invF_of_inv hinv) hw hk (hdkwf dk hdk) he hne hpre hdst

/-- the resolved destination of the call consists of ordinary components -/
def DstWf (env : Env) (s : State) (b : Str) : Prop :=
  match absM env b s with
  | (.ok dk, _) => WfKey dk
  | _ => True

instance (env : Env) (s : State) (b : Str) : Decidable (DstWf env s b) := by
  unfold DstWf; split <;> infer_instance

theorem step_moveP_wf {env : Env} {s : State} (a : Str) {b : Str} (hinv : Spec.Inv s)
    (hw : NamesWf s) (hk : KindExcl s) (hd : DstWf env s b) :
    (step env s (.moveP a b)).1 ≠ .hang := by
  refine (wpAllow_mapVal (moveM_runs_wf env a b s hinv hw hk fun dk hdk => ?_)).ne_hang
  unfold DstWf at hd
  rw [hdk] at hd
  exact hd

end Rivia.Lemmas
