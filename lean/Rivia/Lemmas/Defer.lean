/-
  Rivia.Lemmas.Defer — invariants of the defer-guard machine `Rivia.Defer.exec` and of its ghost
  instrumentation `execI` (scope ids).
-/
import Rivia.Model.Defer

namespace Rivia.Defer

/-! ## pending guards after each kind of step -/

theorem pending_reg (s : DState) :
    ({ s with next := s.next + 1, cur := s.cur ++ [s.next] } : DState).pending = s.next :: s.pending := by
  simp [DState.pending, unwindScopes]

theorem pending_open (s : DState) :
    ({ s with cur := [], outer := s.cur :: s.outer } : DState).pending = s.pending := by
  simp [DState.pending, unwindScopes]

theorem pending_close (s : DState) (t : List Nat) (ss : List (List Nat)) (h : s.outer = t :: ss) :
    s.pending = s.cur.reverse ++
      ({ s with cur := t, outer := ss, log := s.log ++ s.cur.reverse } : DState).pending := by
  simp [DState.pending, unwindScopes, h]

/-! ## the invariant: every label below `next` is either logged once or pending once, and the
pending guards would run in strictly decreasing order -/

structure Inv (s : DState) : Prop where
  cnt : ∀ k, s.log.count k + s.pending.count k = if k < s.next then 1 else 0
  dec : s.pending.Pairwise (· > ·)

theorem inv_init : Inv DState.init := by
  constructor
  · intro k; simp [DState.init, DState.pending, unwindScopes]
  · simp [DState.init, DState.pending, unwindScopes]

theorem Inv.pending_lt {s : DState} (h : Inv s) {y : Nat} (hy : y ∈ s.pending) : y < s.next := by
  have h1 := h.cnt y
  have h2 : 0 < s.pending.count y := List.count_pos_iff.mpr hy
  split at h1 <;> omega

theorem inv_reg {s : DState} (h : Inv s) :
    Inv { s with next := s.next + 1, cur := s.cur ++ [s.next] } := by
  constructor
  · intro k
    rw [pending_reg]
    have h1 := h.cnt k
    simp only [List.count_cons]
    by_cases hk : k = s.next
    · subst hk; simp at h1 ⊢; omega
    · have e1 : (s.next == k) = false := by simp; omega
      have e2 : (k < s.next + 1) ↔ (k < s.next) := by omega
      simp only [e1, e2, Bool.false_eq_true, if_false, Nat.add_zero]
      exact h1
  · rw [pending_reg]
    exact List.pairwise_cons.mpr ⟨fun y hy => h.pending_lt hy, h.dec⟩

theorem inv_open {s : DState} (h : Inv s) :
    Inv { s with cur := [], outer := s.cur :: s.outer } := by
  constructor
  · intro k; rw [pending_open]; exact h.cnt k
  · rw [pending_open]; exact h.dec

theorem inv_close {s : DState} (h : Inv s) {t : List Nat} {ss : List (List Nat)}
    (ho : s.outer = t :: ss) :
    Inv { s with cur := t, outer := ss, log := s.log ++ s.cur.reverse } := by
  have hp := pending_close s t ss ho
  constructor
  · intro k
    have h1 := h.cnt k
    rw [hp] at h1
    simp only [List.count_append] at h1 ⊢
    simpa [Nat.add_assoc] using h1
  · have := h.dec
    rw [hp] at this
    exact (List.pairwise_append.mp this).2.1

theorem exec_inv (prog : List DItem) : ∀ {s : DState}, Inv s → Inv (exec s prog).1 := by
  induction prog with
  | nil => intro s h; exact h
  | cons i r ih =>
    intro s h
    cases i with
    | reg => exact ih (inv_reg h)
    | openS => exact ih (inv_open h)
    | closeS =>
      simp only [exec]
      split
      · exact h
      · next t ss ho => exact ih (inv_close h ho)
    | ret => exact h
    | pan => exact h

/-! ## how many guards were created -/

@[simp] theorem executedRegs_nil : executedRegs [] = 0 := rfl
theorem executedRegs_cons (i : DItem) (r : List DItem) :
    executedRegs (i :: r) =
      match i with
      | .reg => executedRegs r + 1
      | .openS | .closeS => executedRegs r
      | .ret | .pan => 0 := by
  cases i <;> simp +decide [executedRegs, livePart]

theorem exec_next (prog : List DItem) : ∀ (s : DState), balancedAt s.outer.length prog = true →
    (exec s prog).1.next = s.next + executedRegs prog := by
  induction prog with
  | nil => intro s _; simp [exec]
  | cons i r ih =>
    intro s hb
    cases i with
    | reg =>
      simp only [exec, executedRegs_cons]
      rw [ih _ (by simpa [balancedAt] using hb)]; simp only []; omega
    | openS =>
      simp only [exec, executedRegs_cons]
      rw [ih _ (by simpa [balancedAt] using hb)]
    | closeS =>
      simp only [exec, executedRegs_cons]
      split
      · next ho => simp [ho, balancedAt] at hb
      · next t ss ho =>
        rw [ih _ (by simpa [ho, balancedAt] using hb)]
    | ret => simp [exec, executedRegs_cons]
    | pan => simp [exec, executedRegs_cons]

/-! ## the ending is irrelevant for the log -/

theorem exec_append_exit (pre post : List DItem) (x : DItem) (hx : x = .ret ∨ x = .pan) :
    ∀ s : DState, (exec s (pre ++ x :: post)).1 = (exec s pre).1 := by
  induction pre with
  | nil => intro s; rcases hx with rfl | rfl <;> simp [exec]
  | cons i r ih =>
    intro s
    cases i with
    | reg => simp only [List.cons_append, exec]; exact ih _
    | openS => simp only [List.cons_append, exec]; exact ih _
    | closeS =>
      simp only [List.cons_append, exec]
      split
      · rfl
      · exact ih _
    | ret => simp [exec]
    | pan => simp [exec]

/-- balance is what keeps a `closeS` of the prefix from closing the function scope -/
theorem exec_append_noExit (pre rest : List DItem) (hne : ∀ i ∈ pre, i ≠ .ret ∧ i ≠ .pan) :
    ∀ s : DState, balancedAt s.outer.length (pre ++ rest) = true →
      exec s (pre ++ rest) = exec (exec s pre).1 rest := by
  induction pre with
  | nil => intro s _; rfl
  | cons i r ih =>
    have hr := fun j hj => hne j (List.mem_cons_of_mem _ hj)
    intro s hb
    cases i with
    | reg => exact ih hr _ hb
    | openS => exact ih hr _ hb
    | closeS =>
      simp only [List.cons_append, exec]
      split
      · next ho => rw [ho] at hb; cases hb
      · next t ss ho => rw [ho] at hb; exact ih hr _ hb
    | ret => exact absurd rfl (hne _ List.mem_cons_self).1
    | pan => exact absurd rfl (hne _ List.mem_cons_self).2

/-! ## positions in a strictly decreasing list -/

theorem idxOf_lt_of_pairwise_gt {P : List Nat} (hP : P.Pairwise (· > ·)) {a b : Nat}
    (ha : a ∈ P) (hb : b ∈ P) (hab : a < b) : P.idxOf b < P.idxOf a := by
  have hi := List.idxOf_lt_length_of_mem ha
  have hj := List.idxOf_lt_length_of_mem hb
  apply Nat.lt_of_not_le
  intro hle
  rcases Nat.lt_or_eq_of_le hle with h | h
  · have := List.pairwise_iff_getElem.mp hP _ _ hi hj h
    rw [List.getElem_idxOf, List.getElem_idxOf] at this
    omega
  · have e : P[P.idxOf a] = P[P.idxOf b] := by simp only [h]
    rw [List.getElem_idxOf, List.getElem_idxOf] at e
    omega

theorem exitState_inv (prog : List DItem) : Inv (exec .init prog).1 := exec_inv prog inv_init

theorem Inv.not_mem_log {s : DState} (h : Inv s) {a : Nat} (ha : a ∈ s.pending) : a ∉ s.log := by
  intro hl
  have h1 := h.cnt a
  have h2 : 0 < s.pending.count a := List.count_pos_iff.mpr ha
  have h3 : 0 < s.log.count a := List.count_pos_iff.mpr hl
  split at h1 <;> omega

theorem Inv.count_final {s : DState} (h : Inv s) (k : Nat) :
    (s.log ++ s.pending).count k = if k < s.next then 1 else 0 := by
  rw [List.count_append]; exact h.cnt k


/-! ## ghost scope ids -/

def IState.erase (s : IState) : DState :=
  ⟨s.next, s.cur.map (·.2), s.outer.map (fun o => o.2.map (·.2)), s.log.map (·.2)⟩

theorem unwindScopesI_map (l : List (List (Nat × Nat))) :
    (unwindScopesI l).map (·.2) = unwindScopes (l.map (fun sc => sc.map (·.2))) := by
  induction l with
  | nil => rfl
  | cons sc l ih => simp [unwindScopesI, unwindScopes, ih]

theorem pendingI_erase (s : IState) : s.pending.map (·.2) = s.erase.pending := by
  simp [IState.pending, DState.pending, IState.erase, unwindScopesI_map, List.map_map,
    Function.comp_def]

theorem execI_erase (prog : List DItem) : ∀ s : IState,
    (execI s prog).1.erase = (exec s.erase prog).1 ∧ (execI s prog).2 = (exec s.erase prog).2 := by
  induction prog with
  | nil => intro s; simp [execI, exec]
  | cons i r ih =>
    intro s
    cases i with
    | reg =>
      simp only [execI, exec]
      have := ih { s with next := s.next + 1, cur := s.cur ++ [(s.curSid, s.next)] }
      simpa [IState.erase] using this
    | openS =>
      simp only [execI, exec]
      have := ih { s with nextSid := s.nextSid + 1, curSid := s.nextSid, cur := [],
                          outer := (s.curSid, s.cur) :: s.outer }
      simpa [IState.erase] using this
    | closeS =>
      simp only [execI, exec]
      cases ho : s.outer with
      | nil => simp [IState.erase, ho]
      | cons t ss =>
        have := ih { s with curSid := t.1, cur := t.2, outer := ss, log := s.log ++ s.cur.reverse }
        simpa [IState.erase, ho] using this
    | ret => simp [execI, exec]
    | pan => simp [execI, exec]

theorem runDeferI_erase (prog : List DItem) : (runDeferI prog).map (·.2) = (runDefer prog).log := by
  have h := (execI_erase prog IState.init).1
  have h0 : IState.init.erase = DState.init := rfl
  simp only [runDeferI, runDefer, finish, List.map_append, pendingI_erase, h, h0]
  rw [← h0, ← h]; rfl

/-- same scope instance ⇒ later created runs first -/
abbrev SameScopeRev (x y : Nat × Nat) : Prop := x.1 = y.1 → x.2 > y.2

def IState.openSids (s : IState) : List Nat := s.curSid :: s.outer.map (·.1)

structure IInv (s : IState) : Prop where
  base : Inv s.erase
  hlog : s.log.Pairwise SameScopeRev
  hfresh : ∀ x ∈ s.log, x.1 < s.nextSid ∧ x.1 ∉ s.openSids
  hcur : ∀ x ∈ s.cur, x.1 = s.curSid
  houter : ∀ o ∈ s.outer, ∀ x ∈ o.2, x.1 = o.1
  hnodup : s.openSids.Nodup
  hlt : ∀ i ∈ s.openSids, i < s.nextSid

theorem iinv_init : IInv IState.init := by
  refine ⟨inv_init, ?_, ?_, ?_, ?_, ?_, ?_⟩ <;> simp [IState.init, IState.openSids]

theorem mem_unwindScopesI {y : Nat × Nat} {l : List (List (Nat × Nat))} :
    y ∈ unwindScopesI l ↔ ∃ sc ∈ l, y ∈ sc := by
  induction l with
  | nil => simp [unwindScopesI]
  | cons sc l ih => simp [unwindScopesI, ih]

theorem IInv.pending_sid {s : IState} (h : IInv s) {y : Nat × Nat} (hy : y ∈ s.pending) :
    y.1 ∈ s.openSids := by
  simp only [IState.pending, mem_unwindScopesI, List.mem_cons, List.mem_map] at hy
  obtain ⟨sc, hsc | ⟨o, ho, rfl⟩, hy⟩ := hy
  · subst hsc; simp [IState.openSids, h.hcur y hy]
  · simp only [IState.openSids, List.mem_cons, List.mem_map]
    exact Or.inr ⟨o, ho, (h.houter o ho y hy).symm⟩

theorem pairwise_sameScopeRev_of_dec {l : List (Nat × Nat)} (h : (l.map (·.2)).Pairwise (· > ·)) :
    l.Pairwise SameScopeRev :=
  List.Pairwise.imp (S := SameScopeRev) (fun hxy _ => hxy) (List.pairwise_map.mp h)

theorem iinv_reg {s : IState} (h : IInv s) :
    IInv { s with next := s.next + 1, cur := s.cur ++ [(s.curSid, s.next)] } := by
  refine ⟨?_, h.hlog, h.hfresh, ?_, h.houter, h.hnodup, h.hlt⟩
  · have := inv_reg h.base
    simpa [IState.erase] using this
  · intro x hx
    rcases List.mem_append.mp hx with hx | hx
    · exact h.hcur x hx
    · simp at hx; subst hx; rfl

theorem iinv_open {s : IState} (h : IInv s) :
    IInv { s with nextSid := s.nextSid + 1, curSid := s.nextSid, cur := [],
                  outer := (s.curSid, s.cur) :: s.outer } := by
  refine ⟨inv_open h.base, h.hlog, ?_, ?_, ?_, ?_, ?_⟩
  · intro x hx
    have := h.hfresh x hx
    refine ⟨Nat.lt_succ_of_lt this.1, ?_⟩
    intro hm
    rcases List.mem_cons.mp hm with he | hm
    · exact Nat.ne_of_lt this.1 he
    · exact this.2 hm
  · intro x hx; cases hx
  · intro o ho x hx
    rcases List.mem_cons.mp ho with rfl | ho
    · exact h.hcur x hx
    · exact h.houter o ho x hx
  · exact List.nodup_cons.mpr ⟨fun hm => Nat.lt_irrefl _ (h.hlt _ hm), h.hnodup⟩
  · intro i hi
    rcases List.mem_cons.mp hi with rfl | hi
    · exact Nat.lt_succ_self _
    · exact Nat.lt_succ_of_lt (h.hlt i hi)

theorem iinv_close {s : IState} (h : IInv s) {t : Nat × List (Nat × Nat)}
    {ss : List (Nat × List (Nat × Nat))} (ho : s.outer = t :: ss) :
    IInv { s with curSid := t.1, cur := t.2, outer := ss, log := s.log ++ s.cur.reverse } := by
  obtain ⟨next, nextSid, curSid, cur, outer, log⟩ := s
  obtain rfl : outer = t :: ss := ho
  have hnd : curSid ∉ t.1 :: ss.map (·.1) ∧ (t.1 :: ss.map (·.1)).Nodup := List.nodup_cons.mp h.hnodup
  refine ⟨?_, ?_, ?_, ?_, ?_, hnd.2, ?_⟩
  · have := inv_close h.base (t := t.2.map (·.2)) (ss := ss.map fun o => o.2.map (·.2)) rfl
    simpa [IState.erase] using this
  · refine List.pairwise_append.mpr ⟨h.hlog, ?_, ?_⟩
    · apply pairwise_sameScopeRev_of_dec
      have hd := h.base.dec
      rw [← pendingI_erase] at hd
      simp only [IState.pending, unwindScopesI, List.map_append] at hd
      exact (List.pairwise_append.mp hd).1
    · intro x hx y hy hxy
      have hy' : y.1 = curSid := h.hcur y (List.mem_reverse.mp hy)
      exact absurd (hxy.trans hy' ▸ List.mem_cons_self) (h.hfresh x hx).2
  · intro x hx
    rcases List.mem_append.mp hx with hx | hx
    · exact ⟨(h.hfresh x hx).1, fun hm => (h.hfresh x hx).2 (List.mem_cons_of_mem _ hm)⟩
    · have hx' : x.1 = curSid := h.hcur x (List.mem_reverse.mp hx)
      rw [hx']
      exact ⟨h.hlt _ List.mem_cons_self, hnd.1⟩
  · exact h.houter t List.mem_cons_self
  · exact fun o hoo => h.houter o (List.mem_cons_of_mem _ hoo)
  · exact fun i hi => h.hlt i (List.mem_cons_of_mem _ hi)

theorem execI_iinv (prog : List DItem) : ∀ {s : IState}, IInv s → IInv (execI s prog).1 := by
  induction prog with
  | nil => intro s h; exact h
  | cons i r ih =>
    intro s h
    cases i with
    | reg => exact ih (iinv_reg h)
    | openS => exact ih (iinv_open h)
    | closeS =>
      simp only [execI]
      split
      · exact h
      · next t ss ho => exact ih (iinv_close h ho)
    | ret => exact h
    | pan => exact h

theorem IInv.final {s : IState} (h : IInv s) : (s.log ++ s.pending).Pairwise SameScopeRev := by
  refine List.pairwise_append.mpr ⟨h.hlog, ?_, ?_⟩
  · apply pairwise_sameScopeRev_of_dec
    rw [pendingI_erase]; exact h.base.dec
  · intro x hx y hy hxy
    have := (h.hfresh x hx).2
    rw [hxy] at this
    exact absurd (h.pending_sid hy) this

/-! ## the guards of one scope instance run as one contiguous block -/

/-- between two entries of the same scope instance there are only entries of that instance -/
def Contig (L : List (Nat × Nat)) : Prop :=
  ∀ (i j k : Nat) (a b c : Nat × Nat), i < j → j < k →
    L[i]? = some a → L[j]? = some b → L[k]? = some c → a.1 = c.1 → b.1 = c.1

theorem contig_append_block {L B : List (Nat × Nat)} {s : Nat} (hL : Contig L)
    (hLs : ∀ x ∈ L, x.1 ≠ s) (hB : ∀ y ∈ B, y.1 = s) : Contig (L ++ B) := by
  intro i j k a b c hij hjk ha hb hc h
  by_cases hkL : k < L.length
  · have hjL := Nat.lt_trans hjk hkL
    rw [List.getElem?_append_left hkL] at hc
    rw [List.getElem?_append_left hjL] at hb
    rw [List.getElem?_append_left (Nat.lt_trans hij hjL)] at ha
    exact hL i j k a b c hij hjk ha hb hc h
  · -- `c` lies in the block, so `a` does, and so does everything behind `a`
    rw [List.getElem?_append_right (Nat.le_of_not_lt hkL)] at hc
    have hcs : c.1 = s := hB c (List.mem_of_getElem? hc)
    have hiL : ¬ i < L.length := fun hi => by
      rw [List.getElem?_append_left hi] at ha
      exact hLs a (List.mem_of_getElem? ha) (h.trans hcs)
    rw [List.getElem?_append_right (Nat.le_trans (Nat.le_of_not_lt hiL) (Nat.le_of_lt hij))] at hb
    rw [hB b (List.mem_of_getElem? hb), hcs]

theorem contig_unwind (scs : List (Nat × List (Nat × Nat))) : ∀ L : List (Nat × Nat), Contig L →
    (∀ o ∈ scs, ∀ x ∈ o.2, x.1 = o.1) → (scs.map (·.1)).Nodup →
    (∀ x ∈ L, x.1 ∉ scs.map (·.1)) → Contig (L ++ unwindScopesI (scs.map (·.2))) := by
  induction scs with
  | nil => intro L hL _ _ _; simpa [unwindScopesI] using hL
  | cons o scs ih =>
    intro L hL hsc hnd hfr
    simp only [List.map_cons, unwindScopesI, ← List.append_assoc]
    have hnd' := List.nodup_cons.mp hnd
    refine ih (L ++ o.2.reverse) ?_ (fun o' ho' => hsc o' (List.mem_cons_of_mem _ ho')) hnd'.2 ?_
    · refine contig_append_block (s := o.1) hL ?_ ?_
      · intro x hx he; exact hfr x hx (by simp [he])
      · intro y hy; exact hsc o (by simp) y (List.mem_reverse.mp hy)
    · intro x hx
      rcases List.mem_append.mp hx with hx | hx
      · intro hm; exact hfr x hx (List.mem_cons_of_mem _ hm)
      · rw [hsc o (by simp) x (List.mem_reverse.mp hx)]; exact hnd'.1

theorem execI_contig (prog : List DItem) : ∀ {s : IState}, IInv s → Contig s.log →
    Contig (execI s prog).1.log := by
  induction prog with
  | nil => intro s _ h; exact h
  | cons i r ih =>
    intro s h hc
    cases i with
    | reg => exact ih (iinv_reg h) hc
    | openS => exact ih (iinv_open h) hc
    | closeS =>
      simp only [execI]
      split
      · exact hc
      · next t ss ho =>
        refine ih (iinv_close h ho) (contig_append_block (s := s.curSid) hc ?_ ?_)
        · intro x hx he
          exact (h.hfresh x hx).2 (by simp [IState.openSids, he])
        · intro y hy; exact h.hcur y (List.mem_reverse.mp hy)
    | ret => exact hc
    | pan => exact hc

theorem contig_nil : Contig [] := by
  intro i j k a b c _ _ ha; simp at ha

theorem runDeferI_contig (prog : List DItem) : Contig (runDeferI prog) := by
  have h := execI_iinv prog iinv_init
  have hc := execI_contig prog iinv_init contig_nil
  have := contig_unwind (((execI .init prog).1.curSid, (execI .init prog).1.cur) :: (execI .init prog).1.outer)
    _ hc ?_ h.hnodup (fun x hx => (h.hfresh x hx).2)
  · simpa [runDeferI, IState.pending] using this
  · intro o ho x hx
    rcases List.mem_cons.mp ho with rfl | ho
    · exact h.hcur x hx
    · exact h.houter o ho x hx

end Rivia.Defer
