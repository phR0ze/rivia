/-
  Rivia.Lemmas.ReturnsAll — what "every call that does not follow links returns on a reachable state"
  (Props/C12R) needs: the alphabet `NoFollowOp`, and `move_p` / `mkfile_m` return under the invariants
  of reachable states.
-/
import Rivia.Lemmas.ReturnsKeys
import Rivia.Lemmas.ReachInv
import Rivia.Lemmas.InvAll

namespace Rivia.Lemmas.RetAll
open Rivia Rivia.Memfs Rivia.Spec Rivia.Lemmas

/-- the calls whose options do not ask to follow links -/
def NoFollowOp : Op → Prop
  | .entries _ r => r.follow = false
  | .chmodB _ c => c.follow = false
  | .chownB _ c => c.follow = false
  | .copyB _ _ c => c.follow = false
  | _ => True

instance : DecidablePred NoFollowOp := fun op => by unfold NoFollowOp; split <;> infer_instance

/-- all of them but `move_p` / `mkfile_m` are in the alphabet of `step_term_no_hang` -/
theorem termOp_of_noFollow (op : Op) (h : NoFollowOp op) (h1 : ∀ a b, op ≠ .moveP a b)
    (h2 : ∀ p m, op ≠ .mkfileM p m) : TermOp op = true := by
  cases op <;> first
    | rfl
    | exact absurd rfl (h1 _ _)
    | exact absurd rfl (h2 _ _)
    | (simp only [NoFollowOp] at h; simp [TermOp, h])

theorem namesWf_of_keysW {s : State} (h : Reach.KeysW s) : NamesWf s := fun kv hkv => h.1 kv hkv

theorem kindExcl_of_kindWf {s : State} (h : KindWf s) : KindExcl s := by
  intro kv hkv hd _
  have := h kv hkv
  rw [hd] at this
  simpa using this

theorem dstWf_of_keysW (env : Env) {s : State} (b : Str) (h : Reach.KeysW s) : DstWf env s b := by
  unfold DstWf
  split
  · rename_i dk s' heq
    have hs : s' = s := by
      have := absM_state env b s
      rw [heq] at this
      exact this
    subst hs
    exact absM_wf h.2 heq
  · trivial

/-- `move_p` returns on every state with `Inv`, well-formed keys and sane kind flags -/
theorem step_moveP_returns (env : Env) (s : State) (a b : Str) (hI : Spec.Inv s) (hK : Reach.KeysW s)
    (hE : RefineA.EntriesOk s) : (step env s (.moveP a b)).1 ≠ .hang :=
  step_moveP_wf a hI (namesWf_of_keysW hK) (kindExcl_of_kindWf (Reach.kindWf_of_entriesOk hE))
    (dstWf_of_keysW env b hK)

/-- `mkfile_m` returns on every state with the (inductive) strong invariant of C03 -/
theorem step_mkfileM_returns (env : Env) (s : State) (p : Str) (mode : Nat) (h : InvB.Strong s) :
    (step env s (.mkfileM p mode)).1 ≠ .hang := by
  apply step_mkfileM_no_hang
  have h1 := InvAll.strong_step env s (.mkfile p) h (step_simple_fine env s (.mkfile p) rfl).2
  rw [step, mapVal_snd] at h1
  exact h1.1

end Rivia.Lemmas.RetAll
