/-
  Rivia.Lemmas.Noop — lemmas for C01 (second sentence): a single-target call that reports failure
  leaves the state exactly as it was.

  `NoopM m s` says this of the computation `m` started in `s`.  It is proved along the text of each
  operation from rules for the pieces: a read in front keeps the state (`NoopM.getEntry_bind`,
  `NoopM.absM_bind`, …), a piece that never fails needs no argument (`NeverErr`), and `_add`, the one
  writer that can fail, fails before it writes when the invariant holds (`NoopM.add_bind`).
  `move_p` is not treated here: `Props/C01noop.lean` reads it off the total description
  `Lemmas.moveM_total`.
-/
import Rivia.Lemmas.MemfsBase
import Rivia.Lemmas.InvBBase
import Rivia.Lemmas.RefineA
namespace Rivia.Lemmas.Noop
open Rivia Rivia.Memfs Rivia.Spec Rivia.Memfs.M

variable {α β : Type}

@[simp] theorem pure_apply (a : α) (s : State) : (Pure.pure a : M α) s = (.ok a, s) := rfl
@[simp] theorem mpure_apply (a : α) (s : State) : (M.pure a : M α) s = (.ok a, s) := rfl
@[simp] theorem fail_apply (k : ErrKind) (s : State) : (M.fail k : M α) s = (.err k, s) := rfl
@[simp] theorem hang_apply (s : State) : (M.hang : M α) s = (.hang, s) := rfl

theorem bind_apply (m : M α) (f : α → M β) (s : State) :
    (m >>= f) s = match m s with
      | (.ok a, s') => f a s'
      | (.err k, s') => (.err k, s')
      | (.panic, s') => (.panic, s')
      | (.hang, s') => (.hang, s') := rfl

theorem bind_ok {m : M α} {s s' : State} {a : α} (h : m s = (.ok a, s')) (f : α → M β) :
    (m >>= f) s = f a s' := by rw [bind_apply, h]
theorem bind_err {m : M α} {s s' : State} {k} (h : m s = (.err k, s')) (f : α → M β) :
    (m >>= f) s = (.err k, s') := by rw [bind_apply, h]
theorem bind_panic {m : M α} {s s' : State} (h : m s = (.panic, s')) (f : α → M β) :
    (m >>= f) s = (.panic, s') := by rw [bind_apply, h]
theorem bind_hang {m : M α} {s s' : State} (h : m s = (.hang, s')) (f : α → M β) :
    (m >>= f) s = (.hang, s') := by rw [bind_apply, h]

@[simp] theorem pure_bind_apply (a : α) (f : α → M β) (s : State) : ((Pure.pure a : M α) >>= f) s = f a s := rfl
@[simp] theorem mpure_bind_apply (a : α) (f : α → M β) (s : State) : ((M.pure a : M α) >>= f) s = f a s := rfl
@[simp] theorem fail_bind_apply (k) (f : α → M β) (s : State) : ((M.fail k : M α) >>= f) s = (.err k, s) := rfl
@[simp] theorem getEntry_bind_apply (p) (f : Option Entry → M β) (s : State) :
    (getEntry p >>= f) s = f (alLookup p s.entries) s := rfl
@[simp] theorem getFile_bind_apply (p) (f : Option File.Bytes → M β) (s : State) :
    (getFile p >>= f) s = f (alLookup p s.files) s := rfl
@[simp] theorem setEntry_bind_apply (p e) (f : Unit → M β) (s : State) :
    (setEntry p e >>= f) s = f () { s with entries := alInsert p e s.entries } := rfl
@[simp] theorem setFile_bind_apply (p b) (f : Unit → M β) (s : State) :
    (setFile p b >>= f) s = f () { s with files := alInsert p b s.files } := rfl
@[simp] theorem removeEntry_bind_apply (p) (f : Option Entry → M β) (s : State) :
    (removeEntry p >>= f) s = f (alLookup p s.entries) { s with entries := alErase p s.entries } := rfl
@[simp] theorem removeFile_bind_apply (p) (f : Option File.Bytes → M β) (s : State) :
    (removeFile p >>= f) s = f (alLookup p s.files) { s with files := alErase p s.files } := rfl
@[simp] theorem modify_bind_apply (g) (f : Unit → M β) (s : State) :
    (M.modify g >>= f) s = f () (g s) := rfl
@[simp] theorem get_bind_apply (f : State → M β) (s : State) :
    (M.get >>= f) s = f s s := rfl
@[simp] theorem liftO_ok_bind_apply (a : α) (f : α → M β) (s : State) :
    (M.liftO (.ok a) >>= f) s = f a s := rfl
@[simp] theorem liftO_err_bind_apply (k) (f : α → M β) (s : State) :
    (M.liftO (.err k : Outcome α) >>= f) s = (.err k, s) := rfl

/-! ### the invariant as propositions -/

/-- the clauses of `Inv` as propositions -/
structure InvP (s : State) : Prop where
  keysNodup : (s.entries.map (·.1)).Nodup
  root : ∃ e, alLookup [] s.entries = some e ∧ e.dir = true ∧ e.link = false
  rootNil : s.root = []
  parent : ∀ kv ∈ s.entries, kv.1 ≠ [] → ∃ pe fs, alLookup kv.1.dropLast s.entries = some pe ∧ pe.dir = true ∧
      pe.link = false ∧ pe.files = some fs ∧ baseName kv.1 ∈ fs
  listed : ∀ kv ∈ s.entries, ∀ fs, kv.2.files = some fs → ∀ n ∈ fs, (alLookup (kv.1 ++ [n]) s.entries).isSome = true
  data : ∀ kv ∈ s.entries, (kv.2.file && !kv.2.link) = (alLookup kv.1 s.files).isSome
  dangling : ∀ kv ∈ s.files, (alLookup kv.1 s.entries).isSome = true
  filesNodup : (s.files.map (·.1)).Nodup
  pathField : ∀ kv ∈ s.entries, kv.2.path = kv.1
  dirFlag : ∀ kv ∈ s.entries, kv.2.files.isSome = kv.2.dir
  childNodup : ∀ kv ∈ s.entries, ∀ fs, kv.2.files = some fs → fs.Nodup

theorem invP_of_inv {s : State} (h : Spec.Inv s) : InvP s := by
  obtain ⟨hE, hF, hr, hL⟩ := (InvB.inv_iff s).1 h
  have look : ∀ kv ∈ s.entries, alLookup kv.1 s.entries = some kv.2 := fun _ hkv => alLookup_of_mem hE hkv
  exact {
    keysNodup := hE
    root := hL.root
    rootNil := hr
    parent := fun kv hkv => hL.parent _ _ (look kv hkv)
    listed := fun kv hkv fs hf n => hL.kids _ _ fs n (look kv hkv) hf
    data := fun kv hkv => Bool.eq_iff_iff.2 (by simpa [InvB.FL] using hL.data _ _ (look kv hkv))
    dangling := fun kv hkv => hL.dangling _ (by rw [InvB.FL, alLookup_of_mem hF hkv]; rfl)
    filesNodup := hF
    pathField := fun kv hkv => hL.path _ _ (look kv hkv)
    dirFlag := fun kv hkv => Bool.eq_iff_iff.2 (hL.dirflag _ _ (look kv hkv))
    childNodup := fun kv hkv fs => hL.nodupKids _ _ fs (look kv hkv) }

theorem InvP.parent' {s : State} (h : InvP s) {k : FsPath} {e : Entry} (hk : alLookup k s.entries = some e)
    (hne : k ≠ []) : ∃ pe fs, alLookup k.dropLast s.entries = some pe ∧ pe.dir = true ∧
      pe.link = false ∧ pe.files = some fs ∧ baseName k ∈ fs :=
  h.parent (k, e) (alLookup_mem hk) hne

theorem InvP.listed' {s : State} (h : InvP s) {k : FsPath} {e : Entry} (hk : alLookup k s.entries = some e)
    {fs : List Str} (hf : e.files = some fs) {n : Str} (hn : n ∈ fs) :
    (alLookup (k ++ [n]) s.entries).isSome = true :=
  h.listed (k, e) (alLookup_mem hk) fs hf n hn

theorem InvP.newName {s : State} (h : InvP s) {p : FsPath} {d : Entry} (hp : p ≠ [])
    (hd : alLookup p.dropLast s.entries = some d) (hx : alLookup p s.entries = none) :
    ∀ fs, d.files = some fs → baseName p ∉ fs := by
  intro fs hf hn
  have := h.listed' hd hf hn
  rw [dropLast_append_baseName hp, hx] at this
  cases this

theorem InvP.below_none {s : State} (h : InvP s) :
    ∀ (r p : FsPath), alLookup p s.entries = none → alLookup (p ++ r) s.entries = none
  | [], p, hp => by rwa [List.append_nil]
  | x :: r, p, hp => by
    have hx : alLookup (p ++ [x]) s.entries = none := by
      cases hx : alLookup (p ++ [x]) s.entries with
      | none => rfl
      | some c =>
        obtain ⟨pe, _, hpe, _⟩ := h.parent' hx (by simp)
        rw [List.dropLast_concat, hp] at hpe
        cases hpe
    simpa using InvP.below_none h r (p ++ [x]) hx

/-! ### `add` -/

theorem addChild_new {d : Entry} {name : Str} (hd : d.dir = true)
    (hnew : ∀ fs, d.files = some fs → name ∉ fs) : ∃ d', d.addChild name = .ok (true, d') := by
  unfold Entry.addChild
  rw [if_neg (by simp [hd])]
  cases hf : d.files with
  | none => exact ⟨_, rfl⟩
  | some fs =>
    have := insertName_fst_of_not_mem (hnew fs hf)
    dsimp only
    generalize insertName name fs = r at this ⊢
    obtain ⟨b, fs'⟩ := r
    cases this
    exact ⟨_, rfl⟩

/-- the state after `add e` created the entry under the parent entry `d'` -/
def addedState (e d' : Entry) (s : State) : State :=
  { s with files := if (!e.link && e.file) = true then alInsert e.path [] s.files else s.files,
           entries := alInsert e.path.dropLast d' (alInsert e.path e s.entries) }

theorem lookup_addedState (e d' : Entry) (s : State) (k : FsPath) :
    alLookup k (addedState e d' s).entries =
      if e.path.dropLast = k then some d' else if e.path = k then some e else alLookup k s.entries := by
  simp only [addedState, alLookup_alInsert]

theorem addedState_entry {e d' : Entry} {s : State} (hp : e.path ≠ []) :
    alLookup e.path (addedState e d' s).entries = some e := by
  rw [lookup_addedState, if_neg (dropLast_ne_self hp), if_pos rfl]

theorem addedState_file {e d' : Entry} {s : State} (h : (!e.link && e.file) = true) :
    alLookup e.path (addedState e d' s).files = some [] := by
  simp only [addedState, h, if_true, alLookup_alInsert_self]

theorem add_root {e : Entry} (s : State) (hp : e.path = []) : add e s = (.ok e.path, s) := by
  simp [add, hp]

theorem add_existing {e d x : Entry} {s : State} (hp : e.path ≠ [])
    (hd : alLookup e.path.dropLast s.entries = some d) (hb : ¬ (!d.dir || d.link) = true)
    (hx : alLookup e.path s.entries = some x) :
    (∃ k, add e s = (.err k, s)) ∨ add e s = (.ok e.path, s) := by
  unfold add
  rw [if_neg hp, getEntry_bind_apply, hd]
  dsimp only
  rw [if_neg hb, getEntry_bind_apply, hx]
  dsimp only
  by_cases h1 : (e.file && !x.file) = true
  · rw [if_pos h1]; exact .inl ⟨_, rfl⟩
  rw [if_neg h1]
  by_cases h2 : (e.link && !x.link) = true
  · rw [if_pos h2]; exact .inl ⟨_, rfl⟩
  rw [if_neg h2]
  by_cases h3 : (e.dir && !x.dir) = true
  · rw [if_pos h3]; exact .inl ⟨_, rfl⟩
  rw [if_neg h3]; exact .inr rfl

theorem add_new {e d : Entry} {s : State} (hp : e.path ≠ [])
    (hd : alLookup e.path.dropLast s.entries = some d) (hdd : d.dir = true) (hdl : d.link = false)
    (hx : alLookup e.path s.entries = none)
    (hnew : ∀ fs, d.files = some fs → baseName e.path ∉ fs) :
    ∃ d', add e s = (.ok e.path, addedState e d' s) := by
  obtain ⟨d', h1⟩ := addChild_new hdd hnew
  refine ⟨d', ?_⟩
  simp only [add, hp, if_false, getEntry_bind_apply, hd, hdd, hdl, hx, Bool.not_true, Bool.or_false,
    Bool.false_eq_true]
  unfold addedState
  split
  · simp only [setFile_bind_apply, setEntry_bind_apply, getEntry_bind_apply,
      alLookup_alInsert_ne (dropLast_ne_self hp).symm, hd, h1, liftO_ok_bind_apply]
    simp
  · simp only [setEntry_bind_apply, getEntry_bind_apply,
      alLookup_alInsert_ne (dropLast_ne_self hp).symm, hd, h1, liftO_ok_bind_apply]
    simp

theorem add_cases {s : State} (h : InvP s) (e : Entry) :
    (∃ k, add e s = (.err k, s)) ∨ add e s = (.ok e.path, s) ∨
    ∃ d', e.path ≠ [] ∧ alLookup e.path s.entries = none ∧ add e s = (.ok e.path, addedState e d' s) := by
  by_cases hp : e.path = []
  · exact .inr (.inl (add_root s hp))
  cases hd : alLookup e.path.dropLast s.entries with
  | none => exact .inl ⟨.doesNotExist, by unfold add; rw [if_neg hp, getEntry_bind_apply, hd]; rfl⟩
  | some d =>
    by_cases hb : (!d.dir || d.link) = true
    · refine .inl ⟨.isNotDir, ?_⟩
      unfold add
      rw [if_neg hp, getEntry_bind_apply, hd]
      dsimp only
      rw [if_pos hb]
      rfl
    cases hx : alLookup e.path s.entries with
    | some x => exact (add_existing hp hd hb hx).imp_right .inl
    | none =>
      simp only [Bool.or_eq_true, Bool.not_eq_eq_eq_not, Bool.not_true, not_or, Bool.not_eq_false,
        Bool.not_eq_true] at hb
      obtain ⟨d', h1⟩ := add_new hp hd hb.1 hb.2 hx (h.newName hp hd hx)
      exact .inr (.inr ⟨d', hp, rfl, h1⟩)

/-! ### "a reported failure leaves the state as it was" -/

/-- `m` run on `s`: every `Err` outcome comes with the unchanged state -/
def NoopM {α} (m : M α) (s : State) : Prop := ∀ k s', m s = (.err k, s') → s' = s

/-- `m` never reports an error, whatever the state -/
def NeverErr (m : M α) : Prop := ∀ s k s', m s ≠ (.err k, s')

theorem noop_of_mapVal {f : α → Val} {m : M α} {s : State} (h : NoopM m s) {k : ErrKind}
    (he : (mapVal f m s).1 = .err k) : (mapVal f m s).2 = s := by
  unfold mapVal at he ⊢
  rcases hm : m s with ⟨o, s'⟩
  rw [hm] at he
  cases o with
  | err k' => exact h k' s' hm
  | _ => cases he

theorem NeverErr.pure (a : α) : NeverErr (Pure.pure a : M α) := fun _ _ _ h => by cases h
theorem NeverErr.mpure (a : α) : NeverErr (M.pure a : M α) := fun _ _ _ h => by cases h
theorem NeverErr.getEntry (p : FsPath) : NeverErr (getEntry p) := fun _ _ _ h => by cases h
theorem NeverErr.getFile (p : FsPath) : NeverErr (getFile p) := fun _ _ _ h => by cases h
theorem NeverErr.setEntry (p : FsPath) (e : Entry) : NeverErr (setEntry p e) := fun _ _ _ h => by cases h
theorem NeverErr.setFile (p : FsPath) (b : File.Bytes) : NeverErr (setFile p b) := fun _ _ _ h => by cases h
theorem NeverErr.removeEntry (p : FsPath) : NeverErr (removeEntry p) := fun _ _ _ h => by cases h
theorem NeverErr.removeFile (p : FsPath) : NeverErr (removeFile p) := fun _ _ _ h => by cases h
theorem NeverErr.modify (g : State → State) : NeverErr (M.modify g) := fun _ _ _ h => by cases h

theorem err_of_bind {m : M α} {f : α → M β} {s s' : State} {k : ErrKind} (he : (m >>= f) s = (.err k, s')) :
    m s = (.err k, s') ∨ ∃ a s1, m s = (.ok a, s1) ∧ f a s1 = (.err k, s') := by
  rw [bind_apply] at he
  rcases hm : m s with ⟨o, s1⟩
  rw [hm] at he
  cases o with
  | ok a => exact .inr ⟨a, s1, rfl, he⟩
  | err k' => cases he; exact .inl rfl
  | panic => cases he
  | hang => cases he

theorem NeverErr.bind {m : M α} {f : α → M β} (hm : NeverErr m) (hf : ∀ a, NeverErr (f a)) :
    NeverErr (m >>= f) := by
  intro s k s' he
  rcases err_of_bind he with h | ⟨a, s1, _, h⟩
  · exact hm _ _ _ h
  · exact hf _ _ _ _ h

theorem NeverErr.ite {c : Prop} [Decidable c] {m1 m2 : M α} (h1 : NeverErr m1) (h2 : NeverErr m2) :
    NeverErr (if c then m1 else m2) := by split <;> assumption

theorem NoopM.of_neverErr {m : M α} (h : NeverErr m) (s : State) : NoopM m s :=
  fun k s' he => absurd he (h s k s')

theorem NoopM.neverErr_bind {m : M α} {f : α → M β} {s : State} (hm : NeverErr m) (hf : ∀ a, NeverErr (f a)) :
    NoopM (m >>= f) s := NoopM.of_neverErr (hm.bind hf) s

theorem NoopM.bind_neverErr {m : M α} {f : α → M β} {s : State} (hm : NoopM m s) (hf : ∀ a, NeverErr (f a)) :
    NoopM (m >>= f) s := by
  intro k s' he
  rcases err_of_bind he with h | ⟨a, s1, _, h⟩
  · exact hm _ _ h
  · exact absurd h (hf _ _ _ _)

theorem NoopM.read_bind {m : M α} {f : α → M β} {s : State} (hm : (m s).2 = s)
    (hf : ∀ a, (m s).1 = .ok a → NoopM (f a) s) : NoopM (m >>= f) s := by
  intro k s' he
  rcases err_of_bind he with h | ⟨a, s1, h1, h⟩
  · rw [h] at hm; exact hm
  · rw [h1] at hm hf
    cases hm
    exact hf a rfl k s' h

theorem NoopM.fail (k : ErrKind) (s : State) : NoopM (M.fail k : M α) s := fun _ _ h => by cases h; rfl
theorem NoopM.fail_bind (k : ErrKind) (f : α → M β) (s : State) : NoopM (M.fail k >>= f) s :=
  fun _ _ h => by cases h; rfl
theorem NoopM.pure (a : α) (s : State) : NoopM (Pure.pure a : M α) s := fun _ _ h => by cases h
theorem NoopM.mpure (a : α) (s : State) : NoopM (M.pure a : M α) s := fun _ _ h => by cases h
theorem NoopM.pure_bind {a : α} {f : α → M β} {s : State} (h : NoopM (f a) s) :
    NoopM (Pure.pure a >>= f) s := h
theorem NoopM.mpure_bind {a : α} {f : α → M β} {s : State} (h : NoopM (f a) s) :
    NoopM (M.pure a >>= f) s := h
theorem NoopM.getEntry_bind {p : FsPath} {f : Option Entry → M β} {s : State}
    (h : NoopM (f (alLookup p s.entries)) s) : NoopM (getEntry p >>= f) s := h
theorem NoopM.getFile_bind {p : FsPath} {f : Option File.Bytes → M β} {s : State}
    (h : NoopM (f (alLookup p s.files)) s) : NoopM (getFile p >>= f) s := h
theorem NoopM.liftO_bind {o : Outcome α} {f : α → M β} {s : State}
    (h : ∀ a, o = .ok a → NoopM (f a) s) : NoopM (M.liftO o >>= f) s := NoopM.read_bind rfl h
theorem NoopM.ite {c : Prop} [Decidable c] {m1 m2 : M α} {s : State} (h1 : c → NoopM m1 s)
    (h2 : ¬c → NoopM m2 s) : NoopM (if c then m1 else m2) s := by
  split
  · exact h1 ‹_›
  · exact h2 ‹_›

theorem absM_snd (env : Env) (p : Str) (s : State) : (absM env p s).2 = s := absM_state env p s

theorem NoopM.absM_bind {env : Env} {p : Str} {f : FsPath → M β} {s : State}
    (h : ∀ a, NoopM (f a) s) : NoopM (absM env p >>= f) s :=
  NoopM.read_bind (absM_snd env p s) fun a _ => h a

theorem NoopM.dirOf_bind {p : FsPath} {f : FsPath → M β} {s : State}
    (h : p ≠ [] → NoopM (f p.dropLast) s) : NoopM (dirOf p >>= f) s := by
  unfold dirOf
  split
  · exact NoopM.fail_bind _ _ _
  · exact h ‹_›

theorem NoopM.add_bind {e : Entry} {f : FsPath → M β} {s : State} (h : InvP s)
    (h0 : NoopM (f e.path) s)
    (h1 : ∀ s1, alLookup e.path s1.entries = some e →
      ((!e.link && e.file) = true → alLookup e.path s1.files = some []) →
      ∀ k s', f e.path s1 ≠ (.err k, s')) :
    NoopM (add e >>= f) s := by
  intro k s' he
  rcases add_cases h e with ⟨k', ha⟩ | ha | ⟨d', hp, _, ha⟩
  · rw [bind_err ha] at he; cases he; rfl
  · rw [bind_ok ha] at he; exact h0 k s' he
  · rw [bind_ok ha] at he; exact absurd he (h1 _ (addedState_entry hp) addedState_file k s')

/-! ### the operations -/

theorem noop_mkfileM {s : State} (h : InvP s) (env : Env) (p : Str) : NoopM (mkfileM env p) s := by
  unfold mkfileM
  refine NoopM.absM_bind fun a => NoopM.add_bind h ?_ ?_
  · exact NoopM.getFile_bind (NoopM.ite (fun _ => NoopM.fail _ _) fun _ => NoopM.pure _ _)
  · intro s1 _ hf k s' he
    rw [getFile_bind_apply, hf rfl] at he
    cases he

/-- `sync` fails only for a missing entry, before it writes -/
theorem noop_syncM (p : FsPath) (data : File.Bytes) (s : State) : NoopM (syncM p data) s := by
  unfold syncM
  refine NoopM.getEntry_bind ?_
  cases alLookup p s.entries with
  | none => exact NoopM.fail _ _
  | some e =>
    refine NoopM.getFile_bind ?_
    cases alLookup p s.files with
    | none => exact NoopM.mpure _ _
    | some b => exact NoopM.of_neverErr (NeverErr.setFile _ _) _

theorem syncM_ok {p : FsPath} {s : State} (h : (alLookup p s.entries).isSome = true) (data : File.Bytes) :
    ∃ s', syncM p data s = (.ok (), s') := by
  cases he : alLookup p s.entries with
  | none => rw [he] at h; cases h
  | some e =>
    unfold syncM
    simp only [getEntry_bind_apply, he, getFile_bind_apply]
    cases alLookup p s.files with
    | none => exact ⟨_, rfl⟩
    | some b => exact ⟨_, rfl⟩

theorem noop_writeAllM {s : State} (h : InvP s) (env : Env) (p : Str) (data : File.Bytes) :
    NoopM (writeAllM env p data) s := by
  unfold writeAllM
  refine NoopM.absM_bind fun a => NoopM.add_bind h ?_ ?_
  · -- the handle is dropped: the outcome of its `sync` is ignored
    exact NoopM.getFile_bind (NoopM.ite (fun _ => NoopM.fail _ _) fun _ _ _ he => by cases he)
  · intro s1 _ hf k s' he
    have hf : alLookup a s1.files = some [] := hf rfl
    rw [getFile_bind_apply, hf] at he
    cases he

theorem noop_appendAllM {s : State} (h : InvP s) (env : Env) (p : Str) (data : File.Bytes) :
    NoopM (appendAllM env p data) s := by
  unfold appendAllM
  refine NoopM.absM_bind fun a => NoopM.add_bind h (NoopM.getFile_bind ?_) ?_
  · cases alLookup a s.files with
    | none => exact NoopM.fail _ _
    | some b => exact NoopM.bind_neverErr (noop_syncM _ _ _) fun _ _ _ _ he => by cases he
  · intro s1 hs1 hf k s' he
    have hs1 : alLookup a s1.entries = some _ := hs1
    have hf : alLookup a s1.files = some [] := hf rfl
    obtain ⟨s2, h2⟩ := syncM_ok (p := a) (s := s1) (by rw [hs1]; rfl) ([] ++ data)
    simp only [getFile_bind_apply, hf] at he
    rw [bind_ok h2] at he
    cases he

theorem noop_removeM (s : State) (env : Env) (p : Str) : NoopM (removeM env p) s := by
  unfold removeM
  apply NoopM.absM_bind; intro a
  apply NoopM.getEntry_bind
  extract_lets jp3 jp2 jp1
  -- `jp1`: the rest after the emptiness check; `jp2`, `jp3`: the writes, which never fail
  have hjp3 : ∀ r, NeverErr (jp3 r) := fun r =>
    NeverErr.bind (NeverErr.removeEntry _) (fun _ => NeverErr.pure _)
  have hjp2 : ∀ r, NeverErr (jp2 r) := by
    intro r
    apply NeverErr.bind (NeverErr.getEntry _)
    intro x
    cases x with
    | none => exact NeverErr.bind (NeverErr.mpure _) hjp3
    | some e => exact NeverErr.ite (NeverErr.bind (NeverErr.removeFile _) (fun _ => hjp3 ())) (hjp3 ())
  have hjp1 : ∀ r, NoopM (jp1 r) s := by
    intro r
    apply NoopM.getEntry_bind
    apply NoopM.ite
    · intro _; exact NoopM.pure _ _
    intro _
    apply NoopM.dirOf_bind
    intro _
    apply NoopM.getEntry_bind
    cases alLookup a.dropLast s.entries with
    | none => exact NoopM.mpure_bind (NoopM.of_neverErr (hjp2 ()) _)
    | some pe =>
      apply NoopM.liftO_bind
      intro pe' _
      exact NoopM.neverErr_bind (NeverErr.setEntry _ _) hjp2
  cases alLookup a s.entries with
  | none => exact NoopM.mpure_bind (hjp1 ())
  | some e =>
    dsimp only
    cases e.files with
    | none => exact NoopM.mpure_bind (hjp1 ())
    | some fs =>
      dsimp only
      apply NoopM.ite
      · intro _; exact NoopM.fail_bind _ _ _
      · intro _; exact NoopM.mpure_bind (hjp1 ())

theorem noop_setCwdM (s : State) (env : Env) (p : Str) : NoopM (setCwdM env p) s := by
  unfold setCwdM
  apply NoopM.absM_bind; intro a
  apply NoopM.getEntry_bind
  cases alLookup a s.entries with
  | none => exact NoopM.fail _ _
  | some e =>
    dsimp only
    apply NoopM.ite
    · intro _; exact NoopM.fail _ _
    · intro _; exact NoopM.neverErr_bind (NeverErr.modify _) (fun _ => NeverErr.pure _)

theorem noop_symlinkM {s : State} (h : InvP s) (env : Env) (l t : Str) : NoopM (symlinkM env l t) s := by
  unfold symlinkM
  apply NoopM.absM_bind; intro a
  apply NoopM.getEntry_bind
  apply NoopM.ite
  · intro _; exact NoopM.fail _ _
  intro _
  extract_lets jp
  have hjp : ∀ r, NoopM (jp r) s := by
    intro r
    apply NoopM.absM_bind; intro t'
    apply NoopM.dirOf_bind; intro _
    apply NoopM.getEntry_bind
    exact NoopM.add_bind h (NoopM.pure _ _) fun _ _ _ => NeverErr.pure _ _
  apply NoopM.ite
  · intro _; exact NoopM.mpure_bind (hjp _)
  · intro _
    apply NoopM.dirOf_bind; intro _
    exact NoopM.mpure_bind (hjp _)

/-! ### `mkdirM`

  The loop walks the prefixes of the target, shortest first.  Existing ones precede missing ones
  (`InvP.below_none`): while the prefixes exist nothing is written, and once a directory has been
  created every later prefix is new below a new empty directory, so its creation cannot fail. -/

open RefineA (chainFrom prefixes_eq mkStep mkStep_apply mkdirM_eq forM_cons_apply)

/-- `q` is an empty real directory with nothing below it -/
def Fresh (q : FsPath) (s : State) : Prop :=
  (∃ d, alLookup q s.entries = some d ∧ d.dir = true ∧ d.link = false ∧ d.files = some []) ∧
  ∀ r, r ≠ [] → alLookup (q ++ r) s.entries = none

theorem fresh_added {p : FsPath} (hp : p ≠ []) (mode : Option Nat) (d' : Entry) {s : State}
    (hbelow : ∀ r, r ≠ [] → alLookup (p ++ r) s.entries = none) :
    Fresh p (addedState (mkDirEntry p mode) d' s) := by
  refine ⟨⟨mkDirEntry p mode, addedState_entry (e := mkDirEntry p mode) hp, rfl, rfl, rfl⟩, fun r hr => ?_⟩
  rw [lookup_addedState, if_neg, if_neg, hbelow r hr]
  · exact self_ne_append hr
  · intro hc
    have h1 := congrArg List.length hc
    have h2 : r.length ≠ 0 := by simpa using hr
    simp only [mkDirEntry, List.length_dropLast, List.length_append] at h1
    omega

theorem mkdir_fresh (mode : Option Nat) : ∀ (rest : List Str) (q : FsPath) (s1 : State), Fresh q s1 →
    ∀ k s', ((chainFrom q rest).forM (mkStep mode)) s1 ≠ (.err k, s')
  | [], _, _, _, _, _, he => by cases he
  | n :: rest, q, s1, ⟨⟨d, hq, hdd, hdl, hdf⟩, hnone⟩, k, s', he => by
    have hp : q ++ [n] ≠ [] := by simp
    obtain ⟨d', ha⟩ := add_new (e := mkDirEntry (q ++ [n]) mode) (s := s1) hp
      (by rw [show (mkDirEntry (q ++ [n]) mode).path = q ++ [n] from rfl, List.dropLast_concat]; exact hq)
      hdd hdl (hnone [n] (by simp)) (by intro fs hfs; rw [hdf] at hfs; cases hfs; simp)
    rw [chainFrom, forM_cons_apply, mkStep_apply, ha] at he
    refine mkdir_fresh mode rest (q ++ [n]) _ (fresh_added hp mode d' fun r hr => ?_) k s' he
    rw [List.append_assoc]
    exact hnone _ (by simp)

theorem mkdir_walk (mode : Option Nat) {s : State} (h : InvP s) : ∀ (rest : List Str) (q : FsPath),
    NoopM ((chainFrom q rest).forM (mkStep mode)) s
  | [], _, _, _, he => by cases he
  | n :: rest, q, k, s', he => by
    rw [chainFrom, forM_cons_apply, mkStep_apply] at he
    rcases add_cases h (mkDirEntry (q ++ [n]) mode) with ⟨k', ha⟩ | ha | ⟨d', hp, hx, ha⟩
    · rw [ha] at he; cases he; rfl
    · rw [ha] at he; exact mkdir_walk mode h rest _ k s' he
    · rw [ha] at he
      exact absurd he (mkdir_fresh mode rest _ _ (fresh_added hp mode d' fun r _ => h.below_none r _ hx) k s')

theorem noop_mkdirM {s : State} (h : InvP s) (abs : FsPath) (mode : Option Nat) : NoopM (mkdirM abs mode) s := by
  intro k s' he
  rw [mkdirM_eq, prefixes_eq, forM_cons_apply, mkStep_apply,
    add_root (e := mkDirEntry [] mode) s rfl] at he
  exact mkdir_walk mode h abs [] k s' he

theorem noop_mkdirOp {s : State} (h : InvP s) (env : Env) (p : Str) (mode : Option Nat) :
    NoopM (mkdirOp env p mode) s := by
  unfold mkdirOp
  exact NoopM.absM_bind fun a => NoopM.bind_neverErr (noop_mkdirM h a mode) fun _ => NeverErr.pure _

end Rivia.Lemmas.Noop
