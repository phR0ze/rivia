/-
  Rivia.Lemmas.RefineB.Remove — refinement of `remove` (C01, group B), and what it shares with
  `remove_all`: ancestors of a live key, and the relation "`s'` is `s` without the subtrees `G`".
-/
import Rivia.Lemmas.RefineB.Base

namespace Rivia.Lemmas.RefineB
open Rivia Rivia.Memfs Rivia.Spec Rivia.Spec.TreeFs M

/-! ### ancestors -/

/-- the part of the invariant that is kept while entries are removed leaf by leaf -/
structure LInv (s : State) : Prop where
  nodup : (s.entries.map (·.1)).Nodup
  parent : ∀ k e, alLookup k s.entries = some e → k ≠ [] →
    ∃ pe fs, alLookup k.dropLast s.entries = some pe ∧ pe.dir = true ∧ pe.files = some fs ∧ baseName k ∈ fs
  listed : ∀ k e fs n, alLookup k s.entries = some e → e.files = some fs → n ∈ fs →
    (alLookup (k ++ [n]) s.entries).isSome
  childNodup : ∀ k e fs, alLookup k s.entries = some e → e.files = some fs → fs.Nodup

theorem InvP.linv {s : State} (h : InvP s) : LInv s :=
  ⟨h.nodup, fun k e hk hne => by
      obtain ⟨pe, fs, h1, h2, _, h4, h5⟩ := h.parent k e hk hne
      exact ⟨pe, fs, h1, h2, h4, h5⟩,
    h.listed, h.childNodup⟩

theorem LInv.parent_snoc {s : State} (hI : LInv s) {p : FsPath} {x : Str}
    (h : (alLookup (p ++ [x]) s.entries).isSome) :
    ∃ pe fs, alLookup p s.entries = some pe ∧ pe.dir = true ∧ pe.files = some fs ∧ x ∈ fs := by
  obtain ⟨e, he⟩ := Option.isSome_iff_exists.1 h
  have := hI.parent _ e he (List.concat_ne_nil x p)
  rwa [List.dropLast_concat, baseName_snoc] at this

theorem LInv.anc {s : State} (hI : LInv s) : ∀ (r : List Str) (p : FsPath) (x : Str),
    (alLookup (p ++ x :: r) s.entries).isSome →
    ∃ pe fs, alLookup p s.entries = some pe ∧ pe.dir = true ∧ pe.files = some fs ∧ x ∈ fs
  | [], _, _, h => hI.parent_snoc h
  | y :: r, p, x, h => by
    have h' : (alLookup ((p ++ [x]) ++ y :: r) s.entries).isSome := by rwa [List.append_assoc]
    obtain ⟨pe, _, h1, _⟩ := hI.anc r (p ++ [x]) y h'
    exact hI.parent_snoc (by rw [h1]; rfl)

theorem anc {s : State} (hI : InvP s) : ∀ (n : Nat) (r : List Str) (p : FsPath) (x : Str), r.length = n →
    (alLookup (p ++ x :: r) s.entries).isSome →
    ∃ pe fs, alLookup p s.entries = some pe ∧ pe.dir = true ∧ pe.link = false ∧ pe.files = some fs ∧ x ∈ fs := by
  intro _ r p x _ hk
  obtain ⟨pe, fs, h1, _, h3, h4⟩ := hI.linv.anc r p x hk
  obtain ⟨c, hc⟩ := Option.isSome_iff_exists.1 (hI.listed p pe fs x h1 h3 h4)
  obtain ⟨_, _, g1, g2, g3, _⟩ := hI.parent _ c hc (List.concat_ne_nil x p)
  rw [List.dropLast_concat, h1] at g1
  cases g1
  exact ⟨pe, fs, h1, g2, g3, h3, h4⟩

theorem no_desc {s : State} (hI : LInv s) {p : FsPath} {e : Entry} (hp : alLookup p s.entries = some e)
    (hf : e.files = none ∨ e.files = some []) (x : Str) (r : List Str) :
    alLookup (p ++ x :: r) s.entries = none := by
  cases h : alLookup (p ++ x :: r) s.entries with
  | none => rfl
  | some e' =>
    obtain ⟨pe, fs, h1, _, h4, h5⟩ := hI.anc r p x (by rw [h]; rfl)
    rw [hp] at h1; cases h1
    rcases hf with hf | hf <;> rw [hf] at h4 <;> cases h4
    cases h5

theorem below_isEmpty_iff {s : State} (hI : InvP s) {p : FsPath} {e : Entry}
    (hp : alLookup p s.entries = some e) :
    (below (absS s) p).isEmpty = true ↔ (e.files = none ∨ e.files = some []) := by
  unfold below absS
  simp only [List.map_map, List.isEmpty_iff, List.filter_eq_nil_iff, List.mem_map, Function.comp]
  constructor
  · intro h
    cases hf : e.files with
    | none => exact Or.inl rfl
    | some fs =>
      cases fs with
      | nil => exact Or.inr rfl
      | cons n ns =>
        exfalso
        have hl := hI.listed p e (n :: ns) n hp hf List.mem_cons_self
        rw [alLookup_isSome_iff] at hl
        obtain ⟨kv, hkv, hk⟩ := List.mem_map.1 hl
        refine h (p ++ [n]) ⟨kv, hkv, hk⟩ ((isProperPrefix_iff _ _).2 ⟨List.prefix_append _ _, ?_⟩)
        rw [List.length_append, List.length_singleton]; omega
  · intro h k ⟨kv, hkv, hk⟩ hpp
    obtain ⟨x, r, hq⟩ := properPrefix_split hpp
    have := no_desc hI.linv hp h x r
    rw [← hq, ← hk, alLookup_eq_none_iff] at this
    exact this (List.mem_map.2 ⟨kv, hkv, rfl⟩)

/-! ### an entry map without some subtrees -/

/-- `MemfsEntry::remove(name)` on the child set -/
def rmName (pe : Entry) (n : Str) : Entry :=
  match pe.files with
  | some fs => { pe with files := some (fs.filter (· ≠ n)) }
  | none => pe

theorem removeChild_eq (pe : Entry) (n : Str) :
    pe.removeChild n = if pe.dir then .ok (rmName pe n) else .err .isNotDir := by
  obtain ⟨path, alt, rel, dir, file, link, mode, uid, gid, follow, cached, files⟩ := pe
  cases dir <;> cases files <;> rfl

theorem sameCore_rmName (pe : Entry) (n : Str) : SameCore pe (rmName pe n) := by
  unfold rmName; split <;> exact ⟨rfl, rfl, rfl, rfl, rfl, rfl⟩

def filtNames (e : Entry) (P : Str → Bool) : Entry :=
  match e.files with
  | some fs => { e with files := some (fs.filter P) }
  | none => e

theorem rmName_eq_filt (e : Entry) (n : Str) : rmName e n = filtNames e (fun x => decide (x ≠ n)) := rfl

theorem filtNames_congr {P Q : Str → Bool} (e : Entry) (h : ∀ y, P y = Q y) : filtNames e P = filtNames e Q :=
  congrArg (filtNames e) (funext h)

theorem filtNames_filtNames (e : Entry) (P Q : Str → Bool) :
    filtNames (filtNames e P) Q = filtNames e (fun x => P x && Q x) := by
  obtain ⟨path, alt, rel, dir, file, link, mode, uid, gid, follow, cached, files⟩ := e
  cases files with
  | none => rfl
  | some fs =>
    simp only [filtNames, List.filter_filter]
    congr 3
    funext x; exact Bool.and_comm _ _

theorem filtNames_true (e : Entry) : filtNames e (fun _ => true) = e := by
  obtain ⟨path, alt, rel, dir, file, link, mode, uid, gid, follow, cached, files⟩ := e
  cases files with
  | none => rfl
  | some fs => simp [filtNames]

theorem filtNames_files {e : Entry} {fs : List Str} (P : Str → Bool) (h : e.files = some fs) :
    (filtNames e P).files = some (fs.filter P) := by
  unfold filtNames; rw [h]

theorem filtNames_files_eq {e : Entry} {P : Str → Bool} {fs : List Str} (h : (filtNames e P).files = some fs) :
    ∃ fs0, e.files = some fs0 ∧ fs = fs0.filter P := by
  unfold filtNames at h
  split at h
  · next fs0 h0 => exact ⟨fs0, h0, (Option.some.inj h).symm⟩
  · next h0 => rw [h0] at h; cases h

theorem sameCore_filtNames (e : Entry) (P : Str → Bool) : SameCore e (filtNames e P) := by
  unfold filtNames; split <;> exact ⟨rfl, rfl, rfl, rfl, rfl, rfl⟩

theorem filtNames_dir (e : Entry) (P : Str → Bool) : (filtNames e P).dir = e.dir := (sameCore_filtNames e P).2.1

/-- `s'` is `s` without the keys in `G` (a union of subtrees), seen through lookups: what is left of an
    entry has lost the names of its children in `G` -/
structure Pruned (s s' : State) (G : FsPath → Bool) : Prop where
  gone : ∀ k, G k = true → alLookup k s'.entries = none
  kept : ∀ k, G k = false → alLookup k s'.entries =
    (alLookup k s.entries).map fun e => filtNames e fun y => !G (k ++ [y])
  files : ∀ k, G k = false → alLookup k s'.files = alLookup k s.files
  cwd : s'.cwd = s.cwd

theorem Pruned.refl (s : State) : Pruned s s fun _ => false := by
  refine ⟨fun _ h => Bool.noConfusion h, fun k _ => ?_, fun _ _ => rfl, rfl⟩
  cases alLookup k s.entries with
  | none => rfl
  | some e => exact congrArg some (filtNames_true e).symm

theorem Pruned.trans {s s1 s2 : State} {G1 G2 : FsPath → Bool} (h1 : Pruned s s1 G1) (h2 : Pruned s1 s2 G2) :
    Pruned s s2 fun k => G1 k || G2 k := by
  refine ⟨fun k hk => ?_, fun k hk => ?_, fun k hk => ?_, h2.cwd.trans h1.cwd⟩
  · cases hG2 : G2 k with
    | true => exact h2.gone k hG2
    | false =>
      rw [h2.kept k hG2, h1.gone k ((Bool.or_eq_true_iff.1 hk).resolve_right (by rw [hG2]; exact Bool.false_ne_true))]
      rfl
  · obtain ⟨hG1, hG2⟩ := Bool.or_eq_false_iff.1 hk
    rw [h2.kept k hG2, h1.kept k hG1, Option.map_map]
    refine congrArg (fun f => Option.map f _) (funext fun e => ?_)
    rw [Function.comp, filtNames_filtNames]
    exact filtNames_congr e fun y => (Bool.not_or _ _).symm
  · obtain ⟨hG1, hG2⟩ := Bool.or_eq_false_iff.1 hk
    rw [h2.files k hG2, h1.files k hG1]

theorem Pruned.old {s s' : State} {G : FsPath → Bool} (h : Pruned s s' G) {k : FsPath} {e' : Entry}
    (hk : alLookup k s'.entries = some e') :
    G k = false ∧ ∃ e, alLookup k s.entries = some e ∧ e' = filtNames e fun y => !G (k ++ [y]) := by
  cases hG : G k with
  | true => rw [h.gone k hG] at hk; cases hk
  | false =>
    rw [h.kept k hG] at hk
    cases h0 : alLookup k s.entries with
    | none => rw [h0] at hk; cases hk
    | some e => rw [h0] at hk; exact ⟨rfl, e, rfl, (Option.some.inj hk).symm⟩

theorem Pruned.isSome_of {s s' : State} {G : FsPath → Bool} (h : Pruned s s' G) {k : FsPath}
    (hk : (alLookup k s'.entries).isSome) : (alLookup k s.entries).isSome := by
  obtain ⟨e', he'⟩ := Option.isSome_iff_exists.1 hk
  obtain ⟨_, e, he, _⟩ := h.old he'
  rw [he]; rfl

theorem Pruned.get {s s' : State} {G : FsPath → Bool} (h : Pruned s s' G) (k : FsPath) :
    get (absS s') k = if G k then none else get (absS s) k := by
  rw [get_absS, get_absS]
  cases hG : G k with
  | true => rw [h.gone k hG]; rfl
  | false =>
    rw [h.kept k hG]
    cases alLookup k s.entries with
    | none => rfl
    | some e => exact congrArg some (absNode_congr (sameCore_filtNames e _) fun _ => h.files k hG)

theorem Pruned.linv {s s' : State} {G : FsPath → Bool} (h : Pruned s s' G) (hI : LInv s)
    (hG : ∀ k y, G k = true → G (k ++ [y]) = true) (hn : (s'.entries.map (·.1)).Nodup) : LInv s' := by
  refine ⟨hn, ?_, ?_, ?_⟩
  · intro k e' hk hkne
    obtain ⟨hGk, e, he, _⟩ := h.old hk
    obtain ⟨pe, fs, g1, g2, g3, g4⟩ := hI.parent k e he hkne
    have hGd : G k.dropLast = false := by
      cases hd : G k.dropLast with
      | false => rfl
      | true => have := hG _ (baseName k) hd; rw [dropLast_append_baseName hkne, hGk] at this; cases this
    refine ⟨filtNames pe _, _, by rw [h.kept _ hGd, g1]; rfl, (filtNames_dir pe _).trans g2, filtNames_files _ g3,
      List.mem_filter.2 ⟨g4, ?_⟩⟩
    show (!G (k.dropLast ++ [baseName k])) = true
    rw [dropLast_append_baseName hkne, hGk]; rfl
  · intro k e' fs n hk hfs hn'
    obtain ⟨_, e, he, rfl⟩ := h.old hk
    obtain ⟨fs0, hf0, rfl⟩ := filtNames_files_eq hfs
    obtain ⟨hn0, hGn⟩ := List.mem_filter.1 hn'
    obtain ⟨c, hc⟩ := Option.isSome_iff_exists.1 (hI.listed k e fs0 n he hf0 hn0)
    rw [h.kept _ ((Bool.not_eq_true' _).mp hGn), hc]; rfl
  · intro k e' fs hk hfs
    obtain ⟨_, e, he, rfl⟩ := h.old hk
    obtain ⟨fs0, hf0, rfl⟩ := filtNames_files_eq hfs
    exact (hI.childNodup k e fs0 he hf0).filter _

theorem prefixOrEq_snoc (w k : FsPath) (y : Str) (h : isPrefixOrEq w k = true) : isPrefixOrEq w (k ++ [y]) = true :=
  (isPrefixOrEq_iff _ _).2 (((isPrefixOrEq_iff _ _).1 h).trans (List.prefix_append _ _))

/-- outside the subtree at `w` only its parent lists a name leading into it -/
theorem filt_prefix {w k : FsPath} (hne : w ≠ []) (hk : ¬ w <+: k) (e : Entry) :
    filtNames e (fun y => !isPrefixOrEq w (k ++ [y])) = if k = w.dropLast then rmName e (baseName w) else e := by
  have hcases : ∀ y, isPrefixOrEq w (k ++ [y]) = true → w = k ++ [y] := fun y h =>
    (List.prefix_concat_iff.1 ((isPrefixOrEq_iff _ _).1 h)).resolve_right hk
  split
  · next hd =>
    refine filtNames_congr e fun y => ?_
    by_cases hy : y = baseName w
    · rw [hd, hy, dropLast_append_baseName hne, (isPrefixOrEq_iff w w).2 (List.prefix_refl w)]
      exact (decide_eq_false (not_not_intro rfl)).symm
    · have hb : isPrefixOrEq w (k ++ [y]) = false :=
        Bool.eq_false_iff.2 fun h => hy (by rw [hcases y h, baseName_snoc])
      rw [hb, decide_eq_true hy]
      rfl
  · next hd =>
    rw [filtNames_congr (Q := fun _ => true) e fun y =>
      congrArg (!·) (Bool.eq_false_iff.2 fun h => hd (by rw [hcases y h, List.dropLast_concat])), filtNames_true]

/-- `hfl` leaves the data map free at `w`: `remove` erases there only for a file, `remove_all` always -/
theorem pruned_leaf {s : State} (hI : LInv s) {w : FsPath} {e pe : Entry} (hne : w ≠ [])
    (hk : alLookup w s.entries = some e) (hf : e.files = none ∨ e.files = some [])
    (hd : alLookup w.dropLast s.entries = some pe) {fl : List (FsPath × File.Bytes)}
    (hfl : ∀ x, x ≠ w → alLookup x fl = alLookup x s.files) :
    Pruned s { s with entries := alErase w (alInsert w.dropLast (rmName pe (baseName w)) s.entries), files := fl }
      (isPrefixOrEq w) := by
  have hL : ∀ x, alLookup x (alErase w (alInsert w.dropLast (rmName pe (baseName w)) s.entries)) =
      if w = x then none else if w.dropLast = x then some (rmName pe (baseName w)) else alLookup x s.entries :=
    fun x => by rw [alLookup_alErase (nodup_alInsert hI.nodup), alLookup_alInsert]
  have hw : ∀ {k}, isPrefixOrEq w k = false → ¬ w <+: k := fun hG h => by
    rw [(isPrefixOrEq_iff _ _).2 h] at hG; cases hG
  refine ⟨fun k hG => ?_, fun k hG => ?_, fun k hG => hfl k fun (h : k = w) => hw hG (h ▸ List.prefix_refl _), rfl⟩
  · show alLookup k (alErase _ _) = none
    rw [hL]
    obtain ⟨t, rfl⟩ := (isPrefixOrEq_iff w k).1 hG
    cases t with
    | nil => rw [List.append_nil, if_pos rfl]
    | cons x r =>
      have h1 : w ≠ w ++ x :: r := fun h => by have := congrArg List.length h; simp at this
      have h2 : w.dropLast ≠ w ++ x :: r := fun h => by have := congrArg List.length h; simp at this; omega
      rw [if_neg h1, if_neg h2, no_desc hI hk hf x r]
  · show alLookup k (alErase _ _) = _
    rw [hL, if_neg fun (h : w = k) => hw hG (h ▸ List.prefix_refl _), funext (filt_prefix hne (hw hG))]
    by_cases h2 : w.dropLast = k
    · subst h2; rw [if_pos rfl, hd, Option.map_some, if_pos rfl]
    · rw [if_neg h2]
      cases alLookup k s.entries with
      | none => rfl
      | some e0 => rw [Option.map_some, if_neg (Ne.symm h2)]

/-! ### `remove` -/

def removeK (p : FsPath) : M Unit := do
  match (← getEntry p) with
  | some e => match e.files with
    | some fs => if !fs.isEmpty then fail .dirContainsFiles else M.pure ()
    | none => M.pure ()
  | none => M.pure ()
  if (← getEntry p).isNone then return () else
  let d ← dirOf p
  match (← getEntry d) with
  | some pe =>
    let pe' ← liftO (pe.removeChild (baseName p))
    setEntry d pe'
  | none => M.pure ()
  match (← getEntry p) with
  | some e => if e.file then do let _ ← removeFile p
  | none => M.pure ()
  let _ ← removeEntry p
  return ()

theorem removeM_eq (env : Env) (path : Str) : removeM env path = (absM env path >>= removeK) := rfl

/-- a missing path: `Ok(())`, nothing touched (whatever its parent is; `k = []` included) -/
theorem removeK_absent {k : FsPath} {s : State} (hk : alLookup k s.entries = none) :
    removeK k s = (.ok (), s) := by
  unfold removeK
  simp only [getEntry_bind, hk, mpure_bind, Option.isNone_none, if_true]
  rfl

theorem removeK_nonempty {k : FsPath} {s : State} {e : Entry} {n : Str} {ns : List Str}
    (hk : alLookup k s.entries = some e) (hf : e.files = some (n :: ns)) :
    removeK k s = (.err .dirContainsFiles, s) := by
  unfold removeK
  simp only [getEntry_bind, hk, hf, List.isEmpty_cons, Bool.not_false, if_true, fail_bind]

theorem removeK_present {k : FsPath} {s : State} {e pe : Entry} (hne : k ≠ [])
    (hk : alLookup k s.entries = some e) (hf : e.files = none ∨ e.files = some [])
    (hd : alLookup k.dropLast s.entries = some pe) (hpd : pe.dir = true) :
    removeK k s = (.ok (), { s with
      entries := alErase k (alInsert k.dropLast (rmName pe (baseName k)) s.entries),
      files := if e.file then alErase k s.files else s.files }) := by
  unfold removeK
  have hdk := dropLast_ne_self hne
  rcases hf with hf | hf <;>
  · simp only [getEntry_bind, hk, hf, mpure_bind, dirOf_bind, hne, if_false, hd, removeChild_eq, hpd, if_true,
      liftO_ok_bind, setEntry_bind, alLookup_alInsert_ne hdk, List.isEmpty_nil, Bool.not_true, Bool.false_eq_true,
      Option.isNone_some]
    cases e.file with
    | true => simp only [if_true, removeFile_bind, removeEntry_bind]; rfl
    | false => simp only [Bool.false_eq_true, if_false, removeEntry_bind]; rfl

theorem get_del {s : State} (hI : InvP s) (k x : FsPath) :
    get (del (absS s) k) x = if k = x then none else get (absS s) x := by
  unfold del TreeFs.get
  rw [alLookup_alErase]
  unfold absS
  simp only [List.map_map]
  exact hI.nodup

theorem removeK_sim {s : State} {k : FsPath} (hI : InvP s) (hne : k ≠ []) :
    Sim (mapVal (fun _ => Val.unit) (removeK k) s) (liftR (fun _ => Val.unit) (remove (absS s) k)) := by
  unfold mapVal remove
  rw [get_absS]
  cases hk : alLookup k s.entries with
  | none =>
    simp only [Option.map_none, hne, if_false]
    rw [removeK_absent hk]
    cases get (absS s) k.dropLast with
    | none => exact sim_ok (TEquiv.refl _)
    | some n =>
      by_cases hkd : n.kind = Kind.dir
      · simp only [hkd, if_true, liftR]; exact sim_ok (TEquiv.refl _)
      · simp only [hkd, if_false, liftR]; exact sim_unspec _ _
  | some e =>
    simp only [Option.map_some, hne, if_false]
    obtain ⟨pe, _, hd, hpd, _⟩ := hI.parent k e hk hne
    by_cases hf : e.files = none ∨ e.files = some []
    · rw [removeK_present hne hk hf hd hpd, (below_isEmpty_iff hI hk).2 hf]
      simp only [if_true, liftR]
      have R := pruned_leaf hI.linv hne hk hf hd (fl := if e.file then alErase k s.files else s.files)
        fun x hx => by split; exact alLookup_alErase_ne (Ne.symm hx) _; rfl
      refine sim_ok ⟨rfl, fun x => ?_⟩
      rw [R.get, get_del hI]
      by_cases hx : k = x
      · rw [if_pos ((isPrefixOrEq_iff k x).2 (hx ▸ List.prefix_refl _)), if_pos hx]
      · rw [if_neg hx]
        split
        · next hp =>
          obtain ⟨t, rfl⟩ := (isPrefixOrEq_iff k x).1 hp
          cases t with
          | nil => exact absurd (List.append_nil k).symm hx
          | cons y r => rw [get_absS, no_desc hI.linv hk hf y r]; rfl
        · rfl
    · obtain ⟨n, ns, hf'⟩ : ∃ n ns, e.files = some (n :: ns) := by
        cases h : e.files with
        | none => exact absurd (Or.inl h) hf
        | some fs =>
          cases fs with
          | nil => exact absurd (Or.inr h) hf
          | cons n ns => exact ⟨n, ns, rfl⟩
      rw [removeK_nonempty hk hf', Bool.eq_false_iff.2 fun h => hf ((below_isEmpty_iff hI hk).1 h)]
      simp only [Bool.false_eq_true, if_false, liftR]
      exact sim_err_some (TEquiv.refl _)

theorem entryAt_ok {s : State} {env : Env} {p a : Str} (ha : absWith env (renderP s.cwd) p = .ok a) :
    entryAt s env p = some (toPath a, alLookup (toPath a) s.entries) := by
  unfold entryAt; rw [ha]

theorem remove_refines (env : Env) (s : State) (p : Str) (hI : Inv s) (_hW : KeysWf s)
    (hc : classOf s env (.remove p) = "-") : Refines env s (.remove p) := by
  rw [refines_iff]
  intro y hy
  simp only [specStep, Option.some.injEq] at hy
  subst hy
  show Sim (mapVal (fun _ => Val.unit) (removeM env p) s) _
  rw [removeM_eq]
  apply sim_withPath
  intro a ha
  apply removeK_sim (inv_props hI)
  intro h0
  simp only [classOf, entryAt_ok ha, h0] at hc
  exact absurd hc (by decide)

end Rivia.Lemmas.RefineB
