/-
  Rivia.Lemmas.RefineB.Base — common notions of the group-B refinement proofs (C01):
  `TEquiv`, `ResMatch`, `KeysWf`, facts about association lists and keys beyond `Lemmas/MemfsBase`, the
  Prop-level reading `InvP` of the decidable invariant `Inv` (from `InvB.inv_iff`), `get (absS s) k`,
  the reference's `chown` / `chmod` as maps over the nodes `selB` selects, and the glue for path resolution.
-/
import Rivia.Lemmas.MemfsBase
import Rivia.Lemmas.InvBBase
import Rivia.Lemmas.ModeBits
import Rivia.Lemmas.RefineA

namespace Rivia.Lemmas.RefineB
open Rivia Rivia.Memfs Rivia.Spec Rivia.Spec.TreeFs

/-! ### the notions of the refinement statement -/

def TEquiv (a b : T) : Prop := a.cwd = b.cwd ∧ ∀ k, get a k = get b k

theorem TEquiv.refl (a : T) : TEquiv a a := ⟨rfl, fun _ => rfl⟩

def ResMatch : Outcome Val → R Val → Prop
  | _, .unspecified => True
  | .ok v, .ok w => v = w
  | .err k, .err (some k') => k = k'
  | .err _, .err none => True
  | _, _ => False

/-- every name of every key of the entry map, of the data map and of the cwd is a proper name -/
def KeysWf (s : State) : Prop :=
  (∀ kv ∈ s.entries, ∀ n ∈ kv.1, Wf n) ∧ (∀ kv ∈ s.files, ∀ n ∈ kv.1, Wf n) ∧ ∀ n ∈ s.cwd, Wf n

/-- the shape of every per-operation refinement theorem -/
def Refines (env : Env) (s : State) (op : Op) : Prop :=
  ∀ r t', specStep env (absS s) op = some (r, t') →
    ResMatch (step env s op).1 r ∧ (r ≠ .unspecified → TEquiv (absS (step env s op).2) t')

section AL
variable {β : Type}

export Rivia.Lemmas (alLookup_alInsert alLookup_alErase alLookup_eq_none_iff nodup_alInsert nodup_alErase)

theorem alLookup_isSome_iff (k : FsPath) (l : List (FsPath × β)) :
    (alLookup k l).isSome ↔ k ∈ l.map (·.1) := alLookup_isSome_iff_mem_keys

theorem alErase_of_not_mem {k : FsPath} {l : List (FsPath × β)} (h : k ∉ l.map (·.1)) :
    alErase k l = l := Lemmas.alErase_of_not_mem h

end AL

theorem snoc_ne_self (k : FsPath) (n : Str) : k ++ [n] ≠ k := Lemmas.snoc_ne_self k n

theorem prefix_snoc_not_self (w : FsPath) (x : Str) : ¬ (w ++ [x]) <+: w := by
  intro h; have := h.length_le; rw [List.length_append, List.length_singleton] at this; omega

theorem snoc_prefix_inj {w k : FsPath} {a b : Str} (ha : (w ++ [a]) <+: k) (hb : (w ++ [b]) <+: k) : a = b := by
  obtain ⟨t1, h1⟩ := ha
  obtain ⟨t2, h2⟩ := hb
  rw [← h2, List.append_assoc, List.append_assoc] at h1
  exact (List.cons.inj (List.append_cancel_left h1)).1

theorem isPrefixOrEq_iff (p q : FsPath) : isPrefixOrEq p q = true ↔ p <+: q := by
  unfold isPrefixOrEq
  rw [List.prefix_iff_eq_take]
  simp only [Bool.and_eq_true, decide_eq_true_eq, beq_iff_eq]
  constructor
  · intro h; exact h.2.symm
  · intro h; refine ⟨?_, h.symm⟩
    have := congrArg List.length h
    simp at this; omega

theorem isProperPrefix_iff (p q : FsPath) : isProperPrefix p q = true ↔ p <+: q ∧ p.length < q.length := by
  unfold isProperPrefix
  rw [List.prefix_iff_eq_take]
  simp only [Bool.and_eq_true, decide_eq_true_eq, beq_iff_eq]
  constructor
  · intro h; exact ⟨h.2.symm, h.1⟩
  · intro h; exact ⟨h.2, h.1.symm⟩

theorem properPrefix_split {p q : FsPath} (h : isProperPrefix p q = true) : ∃ x r, q = p ++ x :: r := by
  obtain ⟨⟨t, ht⟩, hl⟩ := (isProperPrefix_iff p q).1 h
  cases t with
  | nil => rw [List.append_nil] at ht; subst ht; omega
  | cons x r => exact ⟨x, r, ht.symm⟩

/-- without a symbolic expression `sys::mode` returns the octal value -/
theorem mode_octal (k : Chmod.EKind) (cur oct : Nat) : Chmod.mode k cur oct [] = .ok oct := by
  unfold Chmod.mode
  by_cases h : oct = 0
  · simp [h]
  · simp [h]

/-! ### the reference's `chown` and `chmod`: a map over the selected nodes -/

theorem get_map_if (t : T) (P : FsPath → Bool) (f : Node → Node) (k : FsPath) :
    get { t with nodes := t.nodes.map (fun kv => if P kv.1 then (kv.1, f kv.2) else kv) } k =
      (get t k).map (fun v => if P k then f v else v) := by
  have : (fun kv : FsPath × Node => if P kv.1 then (kv.1, f kv.2) else kv) =
      fun kv => (kv.1, if P kv.1 then f kv.2 else kv.2) := funext fun kv => by split <;> rfl
  unfold TreeFs.get
  rw [this]
  exact alLookup_map k (fun k v => if P k then f v else v) t.nodes

/-- the reference's selection: the root, and with `recursive` everything below it when it is a directory -/
def selB (t : T) (p : FsPath) (rec : Bool) (k : FsPath) : Bool :=
  decide (k = p) || (rec && isProperPrefix p k && isDir t p)

def ownFn (uid gid : Option Nat) (n : Node) : Node :=
  { n with uid := uid.getD n.uid, gid := gid.getD n.gid }

theorem chown_eq (t : T) (p : FsPath) (uid gid : Option Nat) (rec : Bool) :
    chown t p uid gid rec = match get t p with
      | none => (.err (some .doesNotExist), t)
      | some _ => (.ok (), { t with nodes := t.nodes.map (fun kv =>
          if selB t p rec kv.1 then (kv.1, ownFn uid gid kv.2) else kv) }) := by
  unfold chown
  cases get t p <;> rfl

def permFn (dP fP : Option Nat) (n : Node) : Node :=
  match n.kind, dP, fP with
  | .dir, some m, _ => { n with perm := m }
  | .file, _, some m => { n with perm := m }
  | _, _, _ => n

theorem chmodOctal_eq (t : T) (p : FsPath) (dP fP : Option Nat) (rec : Bool) :
    chmodOctal t p dP fP rec = match get t p with
      | none => (.err (some .doesNotExist), t)
      | some _ => (.ok (), { t with nodes := t.nodes.map (fun kv =>
          if selB t p rec kv.1 then (kv.1, permFn dP fP kv.2) else kv) }) := by
  unfold chmodOctal
  cases get t p with
  | none => rfl
  | some _ =>
    simp only
    congr 3
    funext kv
    obtain ⟨k, n⟩ := kv
    obtain ⟨kind, perm, uid, gid, target, data⟩ := n
    unfold selB permFn
    cases kind <;> cases dP <;> cases fP <;> rfl

theorem permFn_dir {n : Node} (h : n.kind = Kind.dir) (m : Nat) (fP : Option Nat) :
    permFn (some m) fP n = { n with perm := m } := by
  unfold permFn; rw [h]

theorem permFn_dir_none {n : Node} (h : n.kind = Kind.dir) (fP : Option Nat) : permFn none fP n = n := by
  unfold permFn; rw [h]

theorem permFn_file {n : Node} (h : n.kind = Kind.file) (dP : Option Nat) (m : Nat) :
    permFn dP (some m) n = { n with perm := m } := by
  unfold permFn; rw [h]

theorem permFn_file_none {n : Node} (h : n.kind = Kind.file) (dP : Option Nat) : permFn dP none n = n := by
  unfold permFn; rw [h]

theorem permFn_link {n : Node} {b : Bool} (h : n.kind = Kind.link b) (dP fP : Option Nat) : permFn dP fP n = n := by
  unfold permFn; rw [h]

/-- what a symbolic `chmod` does to one node: the expression applied to its mode, links left alone -/
def symFn (cs : List Clause) (n : Node) : Node :=
  match n.kind with
  | .dir => { n with perm := applyExpr ⟨true, false, false⟩ cs n.mode - typeBits .dir }
  | .file => { n with perm := applyExpr ⟨false, true, false⟩ cs n.mode - typeBits .file }
  | .link _ => n

theorem chmodSym_eq (t : T) (p : FsPath) (sym : List Char) (rec : Bool) :
    chmodSym t p sym rec = match get t p with
      | none => (.err (some .doesNotExist), t)
      | some _ => match parseExpr sym with
        | none => (.err none, t)
        | some cs => (.ok (), { t with nodes := t.nodes.map (fun kv =>
            if selB t p rec kv.1 then (kv.1, symFn cs kv.2) else kv) }) := by
  unfold chmodSym
  cases get t p with
  | none => rfl
  | some _ =>
    simp only
    cases parseExpr sym with
    | none => rfl
    | some cs =>
      simp only
      congr 3
      funext kv
      obtain ⟨k, n⟩ := kv
      obtain ⟨kind, perm, uid, gid, target, data⟩ := n
      unfold selB symFn
      cases kind <;> rfl

theorem symFn_dir {n : Node} (h : n.kind = Kind.dir) (cs : List Clause) :
    symFn cs n = { n with perm := applyExpr ⟨true, false, false⟩ cs n.mode - typeBits .dir } := by
  unfold symFn; rw [h]

theorem symFn_file {n : Node} (h : n.kind = Kind.file) (cs : List Clause) :
    symFn cs n = { n with perm := applyExpr ⟨false, true, false⟩ cs n.mode - typeBits .file } := by
  unfold symFn; rw [h]

theorem symFn_link {n : Node} {b : Bool} (h : n.kind = Kind.link b) (cs : List Clause) : symFn cs n = n := by
  unfold symFn; rw [h]

/-! ### the abstraction, pointwise -/

theorem get_absS (s : State) (k : FsPath) :
    get (absS s) k = (alLookup k s.entries).map (absNode s k) := RefineA.get_absS s k

theorem absS_cwd (s : State) : (absS s).cwd = s.cwd := rfl

/-- the fields of an entry the abstraction looks at -/
def SameCore (e e' : Entry) : Prop :=
  e'.link = e.link ∧ e'.dir = e.dir ∧ e'.mode = e.mode ∧ e'.uid = e.uid ∧ e'.gid = e.gid ∧ e'.alt = e.alt

theorem SameCore.rfl' (e : Entry) : SameCore e e := ⟨rfl, rfl, rfl, rfl, rfl, rfl⟩

theorem absNode_congr {s s' : State} {k : FsPath} {e e' : Entry} (hc : SameCore e e')
    (hf : e.link = false → alLookup k s'.files = alLookup k s.files) : absNode s' k e' = absNode s k e := by
  obtain ⟨h1, h2, h3, h4, h5, h6⟩ := hc
  unfold absNode kindOf
  rw [h1, h2, h3, h4, h5, h6]
  cases hl : e.link with
  | true => simp
  | false => simp [hf hl]

theorem get_absS_congr {s s' : State} {x : FsPath}
    (h : ∀ e, alLookup x s.entries = some e → ∃ e', alLookup x s'.entries = some e' ∧ SameCore e e' ∧
      (e.link = false → alLookup x s'.files = alLookup x s.files))
    (hn : alLookup x s.entries = none → alLookup x s'.entries = none) :
    get (absS s') x = get (absS s) x := by
  rw [get_absS, get_absS]
  cases hx : alLookup x s.entries with
  | none => rw [hn hx]; rfl
  | some e =>
    obtain ⟨e', h1, h2, h3⟩ := h e hx
    rw [h1]; simp only [Option.map_some]; rw [absNode_congr h2 h3]

theorem kind_dir_iff (s : State) (k : FsPath) (e : Entry) :
    (absNode s k e).kind = Kind.dir ↔ (e.dir = true ∧ e.link = false) := RefineA.kind_dir_iff e

/-! ### the invariant as a conjunction of universally quantified facts -/

structure InvP (s : State) : Prop where
  nodup : (s.entries.map (·.1)).Nodup
  root : ∃ e, alLookup [] s.entries = some e ∧ e.dir = true ∧ e.link = false
  parent : ∀ k e, alLookup k s.entries = some e → k ≠ [] →
    ∃ pe fs, alLookup k.dropLast s.entries = some pe ∧ pe.dir = true ∧ pe.link = false ∧
      pe.files = some fs ∧ baseName k ∈ fs
  listed : ∀ k e fs n, alLookup k s.entries = some e → e.files = some fs → n ∈ fs →
    (alLookup (k ++ [n]) s.entries).isSome
  data : ∀ k e, alLookup k s.entries = some e → (e.file && !e.link) = (alLookup k s.files).isSome
  pathField : ∀ k e, alLookup k s.entries = some e → e.path = k
  dirFiles : ∀ k e, alLookup k s.entries = some e → e.files.isSome = e.dir
  childNodup : ∀ k e fs, alLookup k s.entries = some e → e.files = some fs → fs.Nodup
  filesNodup : (s.files.map (·.1)).Nodup
  dangling : ∀ k, (alLookup k s.files).isSome → (alLookup k s.entries).isSome

theorem inv_props {s : State} (h : Inv s) : InvP s := by
  obtain ⟨hn, hfn, _, L⟩ := (InvB.inv_iff s).1 h
  refine ⟨hn, L.root, L.parent, L.kids, fun k e hk => Bool.eq_iff_iff.2 ?_, L.path,
    fun k e hk => Bool.eq_iff_iff.2 (L.dirflag k e hk), L.nodupKids, hfn, L.dangling⟩
  rw [Bool.and_eq_true, Bool.not_eq_true']
  exact L.data k e hk

/-! ### the state monad, pointwise -/

theorem bind_apply {α β} (m : M α) (f : α → M β) (s : State) :
    (m >>= f) s = match m s with
      | (.ok a, s') => f a s'
      | (.err k, s') => (.err k, s')
      | (.panic, s') => (.panic, s')
      | (.hang, s') => (.hang, s') := rfl

theorem pure_apply {α} (a : α) (s : State) : (pure a : M α) s = (.ok a, s) := rfl
theorem mpure_apply {α} (a : α) (s : State) : (M.pure a : M α) s = (.ok a, s) := rfl
theorem pure_bind' {α β} (a : α) (f : α → M β) : (pure a >>= f : M β) = f a := rfl
theorem mpure_bind {α β} (a : α) (f : α → M β) : (M.pure a >>= f : M β) = f a := rfl
theorem fail_bind {α β} (k : ErrKind) (f : α → M β) (s : State) : ((M.fail k : M α) >>= f) s = (.err k, s) := rfl
theorem fail_apply {α} (k : ErrKind) (s : State) : (M.fail k : M α) s = (.err k, s) := rfl
theorem getEntry_bind {β} (p : FsPath) (f : Option Entry → M β) (s : State) :
    (getEntry p >>= f) s = f (alLookup p s.entries) s := rfl
theorem setEntry_bind {β} (p : FsPath) (e : Entry) (f : Unit → M β) (s : State) :
    (setEntry p e >>= f) s = f () { s with entries := alInsert p e s.entries } := rfl
theorem removeEntry_bind {β} (p : FsPath) (f : Option Entry → M β) (s : State) :
    (removeEntry p >>= f) s = f (alLookup p s.entries) { s with entries := alErase p s.entries } := rfl
theorem getFile_bind {β} (p : FsPath) (f : Option File.Bytes → M β) (s : State) :
    (getFile p >>= f) s = f (alLookup p s.files) s := rfl
theorem setFile_bind {β} (p : FsPath) (b : File.Bytes) (f : Unit → M β) (s : State) :
    (setFile p b >>= f) s = f () { s with files := alInsert p b s.files } := rfl
theorem removeFile_bind {β} (p : FsPath) (f : Option File.Bytes → M β) (s : State) :
    (removeFile p >>= f) s = f (alLookup p s.files) { s with files := alErase p s.files } := rfl
theorem get_bind {β} (f : State → M β) (s : State) : (M.get >>= f) s = f s s := rfl
theorem modify_bind {β} (g : State → State) (f : Unit → M β) (s : State) :
    (M.modify g >>= f) s = f () (g s) := rfl
theorem dirOf_bind {β} (p : FsPath) (f : FsPath → M β) (s : State) :
    (dirOf p >>= f) s = if p = [] then (.err .parentNotFound, s) else f p.dropLast s := by
  unfold dirOf; split <;> rfl
theorem liftO_ok_bind {α β} (a : α) (f : α → M β) : (M.liftO (.ok a) >>= f : M β) = f a := rfl
theorem liftO_err_bind {α β} (k : ErrKind) (f : α → M β) (s : State) :
    (M.liftO (.err k : Outcome α) >>= f) s = (.err k, s) := rfl

theorem absM_apply (env : Env) (p : Str) (s : State) :
    absM env p s = match absWith env (renderP s.cwd) p with
      | .ok a => (.ok (toPath a), s)
      | .err k => (.err k, s)
      | .panic => (.panic, s)
      | .hang => (.hang, s) := rfl

/-! ### simulation of one call -/

/-- model result/state vs reference result/state -/
def Sim (x : Outcome Val × State) (y : SR) : Prop :=
  ResMatch x.1 y.1 ∧ (y.1 ≠ .unspecified → TEquiv (absS x.2) y.2)

theorem refines_iff (env : Env) (s : State) (op : Op) :
    Refines env s op ↔ ∀ y, specStep env (absS s) op = some y → Sim (step env s op) y := by
  unfold Refines Sim
  constructor
  · intro h y hy; exact h y.1 y.2 hy
  · intro h r t hy; exact h (r, t) hy

theorem sim_unspec (x : Outcome Val × State) (t : T) : Sim x (.unspecified, t) := RefineA.sim_unspec x t

theorem sim_err_some {k : ErrKind} {s' : State} {t : T} (h : TEquiv (absS s') t) :
    Sim (.err k, s') (.err (some k), t) := ⟨by simp [ResMatch], fun _ => h⟩

theorem sim_err_none {k : ErrKind} {s' : State} {t : T} (h : TEquiv (absS s') t) :
    Sim (.err k, s') (.err none, t) := ⟨by simp [ResMatch], fun _ => h⟩

theorem sim_ok {v : Val} {s' : State} {t : T} (h : TEquiv (absS s') t) :
    Sim (.ok v, s') (.ok v, t) := ⟨by simp [ResMatch], fun _ => h⟩

theorem sim_withPath {α} (env : Env) (s : State) (p : Str) (K : FsPath → M α) (f : α → Val)
    (k : FsPath → SR) (h : ∀ a, absWith env (renderP s.cwd) p = .ok a →
      Sim (mapVal f (K (toPath a)) s) (k (toPath a))) :
    Sim (mapVal f (absM env p >>= K) s) (withPath env (absS s) p k) := by
  unfold withPath resolve
  rw [absS_cwd]
  unfold mapVal
  rw [bind_apply, absM_apply]
  cases hr : absWith env (renderP s.cwd) p with
  | ok a =>
    have := h a hr
    unfold mapVal at this
    exact this
  | err e => exact sim_err_some (TEquiv.refl _)
  | panic => exact sim_unspec _ _
  | hang => exact sim_unspec _ _

end Rivia.Lemmas.RefineB
