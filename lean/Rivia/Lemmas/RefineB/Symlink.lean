/-
  Rivia.Lemmas.RefineB.Symlink — refinement of `symlink` (C01, group B).
-/
import Rivia.Lemmas.RefineB.Remove
namespace Rivia.Lemmas.RefineB
open Rivia Rivia.Memfs Rivia.Spec Rivia.Spec.TreeFs M

theorem addChild_dir {d : Entry} (n : Str) (hd : d.dir = true) :
    ∃ b d', d.addChild n = .ok (b, d') ∧ SameCore d d' ∧ (b = false → ∃ fs, d.files = some fs ∧ n ∈ fs) := by
  obtain ⟨path, alt, rel, dir, file, link, mode, uid, gid, follow, cached, files⟩ := d
  simp only at hd; subst hd
  cases files with
  | none => exact ⟨true, _, rfl, ⟨rfl, rfl, rfl, rfl, rfl, rfl⟩, by simp⟩
  | some fs =>
    refine ⟨(insertName n fs).1, _, rfl, ⟨rfl, rfl, rfl, rfl, rfl, rfl⟩, fun h => ⟨fs, rfl, ?_⟩⟩
    exact Decidable.byContradiction fun hn => by rw [insertName_fst_of_not_mem hn] at h; cases h

/-- `_add` of a link entry at a fresh key whose parent is a real directory -/
theorem add_link_fresh {s : State} (hI : InvP s) {e d : Entry} {l : FsPath} (hp : e.path = l) (hne : l ≠ [])
    (hl : e.link = true) (hk : alLookup l s.entries = none) (hd : alLookup l.dropLast s.entries = some d)
    (hdd : d.dir = true) (hdl : d.link = false) :
    ∃ d', SameCore d d' ∧
      add e s = (.ok l, { s with entries := alInsert l.dropLast d' (alInsert l e s.entries) }) := by
  obtain ⟨b, d', h1, h2, h3⟩ := addChild_dir (baseName l) hdd
  refine ⟨d', h2, ?_⟩
  have hb : b = true := by
    cases b with
    | true => rfl
    | false =>
      obtain ⟨fs, hf, hn⟩ := h3 rfl
      have := hI.listed _ d fs _ hd hf hn
      have hh : l.dropLast ++ [baseName l] = l := by
        unfold baseName
        rw [List.getLast?_eq_some_getLast hne]
        exact List.dropLast_concat_getLast hne
      rw [hh, hk] at this; cases this
  subst hb
  unfold add
  have hdk := dropLast_ne_self hne
  simp only [hp, hne, if_false, getEntry_bind, hd, hdd, hdl, Bool.not_true, Bool.or_self, Bool.false_eq_true, hk, hl,
    Bool.false_and, setEntry_bind, alLookup_alInsert_ne (Ne.symm hdk), h1, liftO_ok_bind]
  rfl

def symlinkK2 (l t : FsPath) : M FsPath := do
  let ldir ← dirOf l
  let rel := relative (renderP t) (renderP ldir)
  let tIsDir := match (← getEntry t) with | some x => x.dir | none => false
  let e : Entry := { path := l, alt := some t, rel := rel, dir := tIsDir, file := !tIsDir, link := true,
                     mode := optsMode true (!tIsDir) tIsDir none, uid := 1000, gid := 1000,
                     follow := false, cached := false, files := if tIsDir then some [] else none }
  let _ ← add e
  return l

def symlinkK (env : Env) (target : Str) (l : FsPath) : M FsPath := do
  if (← getEntry l).isSome then fail .existsAlready else
  let tstr ← if isAbsolute target then M.pure target else do
    let d ← dirOf l
    M.pure (mash (renderP d) target)
  let t ← absM env tstr
  symlinkK2 l t

theorem symlinkM_eq (env : Env) (link target : Str) :
    symlinkM env link target = (absM env link >>= symlinkK env target) := rfl

theorem symlinkK_exists {env : Env} {target : Str} {l : FsPath} {s : State} {e : Entry}
    (hk : alLookup l s.entries = some e) : symlinkK env target l s = (.err .existsAlready, s) := by
  unfold symlinkK
  simp only [getEntry_bind, hk, Option.isSome_some, if_true, fail_apply]

theorem dirOf_ne {l : FsPath} (hne : l ≠ []) : dirOf l = M.pure l.dropLast := by
  unfold dirOf; rw [if_neg hne]

theorem symlinkK_fresh {env : Env} {target : Str} {l : FsPath} {s : State} (hne : l ≠ [])
    (hk : alLookup l s.entries = none) :
    symlinkK env target l s =
      (absM env (if isAbsolute target then target else mash (renderP l.dropLast) target) >>= symlinkK2 l) s := by
  unfold symlinkK
  simp only [getEntry_bind, hk, Option.isSome_none, Bool.false_eq_true, if_false, dirOf_ne hne, mpure_bind]
  cases isAbsolute target with
  | true => simp only [if_true]
  | false => simp only [Bool.false_eq_true, if_false]

theorem get_put (t : T) (l x : FsPath) (n : Node) : get (put t l n) x = if l = x then some n else get t x := by
  unfold put TreeFs.get; exact alLookup_alInsert _ _ _ _

/-- what `MemfsEntry::opts(&link).file().link_to(&target)` builds -/
def mkLink (l t : FsPath) (tIsDir : Bool) : Entry :=
  { path := l, alt := some t, rel := relative (renderP t) (renderP l.dropLast), dir := tIsDir, file := !tIsDir,
    link := true, mode := optsMode true (!tIsDir) tIsDir none, uid := 1000, gid := 1000,
    follow := false, cached := false, files := if tIsDir then some [] else none }

def tdir (s : State) (t : FsPath) : Bool := match alLookup t s.entries with | some x => x.dir | none => false

theorem symlinkK2_eq {l t : FsPath} (s : State) (hne : l ≠ []) :
    symlinkK2 l t s = (add (mkLink l t (tdir s t)) >>= fun _ => Pure.pure l) s := by
  unfold symlinkK2
  simp only [dirOf_ne hne, mpure_bind, getEntry_bind]
  rfl

theorem add_noparent {s : State} {e : Entry} (hne : e.path ≠ []) (hd : alLookup e.path.dropLast s.entries = none) :
    add e s = (.err .doesNotExist, s) := by
  unfold add
  simp only [hne, if_false, getEntry_bind, hd, fail_apply]

theorem add_parent_notdir {s : State} {e d : Entry} (hne : e.path ≠ [])
    (hd : alLookup e.path.dropLast s.entries = some d) (hdd : (!d.dir || d.link) = true) :
    add e s = (.err .isNotDir, s) := by
  unfold add
  simp only [hne, if_false, getEntry_bind, hd, hdd, if_true, fail_apply]

theorem absNode_mkLink (s : State) (l t : FsPath) (b : Bool) :
    absNode s l (mkLink l t b) = ⟨.link b, 0o777, 1000, 1000, some t, []⟩ := by
  cases b <;> simp [absNode, mkLink, kindOf, optsMode, defaultMode, typeBits]

theorem kind_toDir (s : State) (k : FsPath) (x : Entry) :
    (decide ((absNode s k x).kind = Kind.dir) || decide ((absNode s k x).kind = Kind.link true)) = x.dir := by
  obtain ⟨path, alt, rel, dir, file, link, mode, uid, gid, follow, cached, files⟩ := x
  cases link <;> cases dir <;> simp [absNode, kindOf]

/-- the recorded kind of a new link -/
def toDirOf (t : T) (ta : FsPath) : Bool :=
  match get t ta with | some n => decide (n.kind = Kind.dir) || decide (n.kind = Kind.link true) | none => false

theorem symlink_unfold (t : T) (l ta : FsPath) :
    symlink t l ta = if l = [] then (.err none, t) else
      match parentCheck t l with
      | some e => (.err e, t)
      | none =>
        match get t l with
        | some _ => (.err none, t)
        | none => (.ok l, put t l ⟨.link (toDirOf t ta), 0o777, 1000, 1000, some ta, []⟩) := by
  unfold symlink toDirOf
  cases get t ta <;> rfl

theorem toDirOf_absS (s : State) (ta : FsPath) : toDirOf (absS s) ta = tdir s ta := by
  unfold toDirOf tdir
  rw [get_absS]
  cases alLookup ta s.entries with
  | none => rfl
  | some x => simp only [Option.map_some, kind_toDir]

theorem symlinkK2_sim {s : State} (hI : InvP s) {l ta : FsPath} (hne : l ≠ []) (hk : alLookup l s.entries = none) :
    Sim (mapVal Val.path (symlinkK2 l ta) s) (liftR Val.path (symlink (absS s) l ta)) := by
  rw [symlink_unfold, toDirOf_absS]
  unfold mapVal parentCheck
  simp only [hne, if_false]
  rw [get_absS, get_absS, hk, symlinkK2_eq s hne, bind_apply]
  have hp : (mkLink l ta (tdir s ta)).path = l := rfl
  cases hd : alLookup l.dropLast s.entries with
  | none =>
    rw [add_noparent (by rw [hp]; exact hne) (by rw [hp]; exact hd)]
    simp only [Option.map_none, liftR]
    exact sim_err_some (TEquiv.refl _)
  | some d =>
    simp only [Option.map_some, Option.map_none, kind_dir_iff]
    by_cases hdd : d.dir = true ∧ d.link = false
    · obtain ⟨d', hsc, hadd⟩ := add_link_fresh hI hp hne rfl hk hd hdd.1 hdd.2
      rw [hadd]
      simp only [hdd, and_self, if_true, liftR]
      apply sim_ok
      refine ⟨rfl, fun x => ?_⟩
      rw [get_put]
      by_cases hlx : l = x
      · subst hlx
        rw [get_absS]
        simp only [alLookup_alInsert, dropLast_ne_self hne, if_false, if_true, Option.map_some, absNode_mkLink]
      · rw [if_neg hlx]
        apply get_absS_congr
        · intro e he
          simp only [alLookup_alInsert, hlx, if_false]
          by_cases hdx : l.dropLast = x
          · subst hdx; rw [hd] at he; cases he
            exact ⟨d', by simp, hsc, fun _ => trivial⟩
          · exact ⟨e, by simp [hdx, he], SameCore.rfl' e, fun _ => trivial⟩
        · intro hn
          simp only [alLookup_alInsert, hlx, if_false]
          have : l.dropLast ≠ x := by intro e; subst e; rw [hd] at hn; cases hn
          simp [this, hn]
    · rw [add_parent_notdir (by rw [hp]; exact hne) (by rw [hp]; exact hd)
        (by cases h1 : d.dir <;> cases h2 : d.link <;> simp_all)]
      simp only [hdd, if_false, liftR]
      exact sim_err_some (TEquiv.refl _)

theorem symlink_refines (env : Env) (s : State) (l tg : Str) (hI : Inv s) (_hW : KeysWf s)
    (_hc : classOf s env (.symlink l tg) = "-") : Refines env s (.symlink l tg) := by
  have hP := inv_props hI
  rw [refines_iff]
  intro y hy
  simp only [specStep, Option.some.injEq] at hy
  subst hy
  show Sim (mapVal Val.path (symlinkM env l tg) s) _
  rw [symlinkM_eq]
  apply sim_withPath
  intro a _
  rw [get_absS]
  cases hk : alLookup (toPath a) s.entries with
  | some e =>
    simp only [Option.map_some, Option.isSome_some, or_true, if_true]
    unfold mapVal
    rw [symlinkK_exists hk]
    exact sim_err_none (TEquiv.refl _)
  | none =>
    have hne : toPath a ≠ [] := by
      intro h0; obtain ⟨e, he, _⟩ := hP.root; rw [h0, he] at hk; cases hk
    simp only [Option.map_none, Option.isSome_none, Bool.false_eq_true, or_false, hne, if_false]
    have : mapVal Val.path (symlinkK env tg (toPath a)) s =
        mapVal Val.path (absM env (if isAbsolute tg then tg else mash (renderP (toPath a).dropLast) tg) >>=
          symlinkK2 (toPath a)) s := by
      unfold mapVal; rw [symlinkK_fresh hne hk]
    rw [this]
    apply sim_withPath
    intro b _
    exact symlinkK2_sim hP hne hk

end Rivia.Lemmas.RefineB
