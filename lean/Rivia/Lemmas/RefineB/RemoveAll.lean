/-
  Rivia.Lemmas.RefineB.RemoveAll — refinement of `remove_all` (C01, group B): the worklist of
  `removeAllLoop` erases exactly the keys below the target, within its fuel.
-/
import Rivia.Lemmas.RefineB.Symlink
namespace Rivia.Lemmas.RefineB
open Rivia Rivia.Memfs Rivia.Spec Rivia.Spec.TreeFs M

/-! ### one iteration of the `remove_all` worklist -/

theorem loop_nil (f : Nat) (s : State) : removeAllLoop (f + 1) [] s = (.ok (), s) := rfl

theorem loop_cons (f : Nat) (p : FsPath) (W : List FsPath) (s : State) :
    removeAllLoop (f + 1) (p :: W) s =
      (match alLookup p s.entries with
        | none => removeAllLoop f W
        | some e =>
          match e.files with
          | some (n :: ns) => removeAllLoop f (((n :: ns).map (fun x => p ++ [x])).reverse ++ p :: W)
          | _ => do
            let d ← dirOf p
            match (← getEntry d) with
            | some pe =>
              let pe' ← liftO (pe.removeChild (baseName p))
              setEntry d pe'
            | none => M.pure ()
            let _ ← removeFile p
            let _ ← removeEntry p
            removeAllLoop f W) s := rfl

theorem loop_absent {f : Nat} {p : FsPath} {W : List FsPath} {s : State} (hk : alLookup p s.entries = none) :
    removeAllLoop (f + 1) (p :: W) s = removeAllLoop f W s := by
  rw [loop_cons, hk]

theorem loop_push {f : Nat} {p : FsPath} {W : List FsPath} {s : State} {e : Entry} {n : Str} {ns : List Str}
    (hk : alLookup p s.entries = some e) (hf : e.files = some (n :: ns)) :
    removeAllLoop (f + 1) (p :: W) s =
      removeAllLoop f (((n :: ns).map (fun x => p ++ [x])).reverse ++ p :: W) s := by
  rw [loop_cons, hk]
  simp only [hf]

theorem loop_leaf {f : Nat} {p : FsPath} {W : List FsPath} {s : State} {e pe : Entry} (hne : p ≠ [])
    (hk : alLookup p s.entries = some e) (hf : e.files = none ∨ e.files = some [])
    (hd : alLookup p.dropLast s.entries = some pe) (hpd : pe.dir = true) :
    removeAllLoop (f + 1) (p :: W) s = removeAllLoop f W { s with
      entries := alErase p (alInsert p.dropLast (rmName pe (baseName p)) s.entries), files := alErase p s.files } := by
  rw [loop_cons, hk]
  rcases hf with hf | hf <;>
  · simp only [hf, dirOf_bind, hne, if_false, getEntry_bind, hd, removeChild_eq, hpd, if_true, liftO_ok_bind,
      setEntry_bind, removeFile_bind, removeEntry_bind]

/-! ### removing a whole subtree -/

/-- the keys at or below the children `xs` of `w` -/
def underKids (w : FsPath) (xs : List Str) (k : FsPath) : Bool := xs.any fun x => isPrefixOrEq (w ++ [x]) k

/-- Working off `w` from the top of the worklist takes `c` iterations, which the entries that go pay for
    twice over (an inner node is visited once to push its children and once to go), and leaves `s'`. -/
def WorksOff (s : State) (w : FsPath) : Prop :=
  ∃ s' c, Pruned s s' (isPrefixOrEq w) ∧ LInv s' ∧ c + 1 + 2 * s'.entries.length ≤ 2 * s.entries.length ∧
    ∀ f W, removeAllLoop (f + c) (w :: W) s = removeAllLoop f W s'

/-- the induction is on a bound `n` for how far keys reach below `w` -/
def SubStmt (n : Nat) : Prop :=
  ∀ (s : State) (w : FsPath) (e : Entry), LInv s → w ≠ [] → alLookup w s.entries = some e →
    (∀ k, (alLookup k s.entries).isSome → k.length < w.length + n) → WorksOff s w

theorem rmKids_lemma {n : Nat} (IH : SubStmt n) (w : FsPath) :
    ∀ (xs : List Str) (s : State), LInv s → (∀ x ∈ xs, (alLookup (w ++ [x]) s.entries).isSome) → xs.Nodup →
      (∀ k, (alLookup k s.entries).isSome → k.length < w.length + 1 + n) →
      ∃ s' c, Pruned s s' (underKids w xs) ∧ LInv s' ∧
        c + xs.length + 2 * s'.entries.length ≤ 2 * s.entries.length ∧
        ∀ f W, removeAllLoop (f + c) (xs.map (fun x => w ++ [x]) ++ W) s = removeAllLoop f W s' := by
  intro xs
  induction xs with
  | nil => exact fun s hI _ _ _ => ⟨s, 0, Pruned.refl s, hI, by rw [List.length_nil]; omega, fun f W => rfl⟩
  | cons x xs ih =>
    intro s hI hex hnd hb
    have hnd' := List.nodup_cons.1 hnd
    obtain ⟨ex, hx⟩ := Option.isSome_iff_exists.1 (hex x List.mem_cons_self)
    obtain ⟨s1, c1, hR1, hI1, hc1, hrun1⟩ := IH s (w ++ [x]) ex hI (List.concat_ne_nil x w) hx
      fun k hk => by have := hb k hk; rw [List.length_append, List.length_singleton]; exact this
    -- the other children are still there
    have hex1 : ∀ y ∈ xs, (alLookup (w ++ [y]) s1.entries).isSome := by
      intro y hy
      obtain ⟨ey, hey⟩ := Option.isSome_iff_exists.1 (hex y (List.mem_cons_of_mem _ hy))
      have : isPrefixOrEq (w ++ [x]) (w ++ [y]) = false := Bool.eq_false_iff.2 fun h =>
        hnd'.1 (snoc_prefix_inj ((isPrefixOrEq_iff _ _).1 h) (List.prefix_refl _) ▸ hy)
      rw [hR1.kept _ this, hey]; rfl
    obtain ⟨s2, c2, hR2, hI2, hc2, hrun2⟩ := ih s1 hI1 hex1 hnd'.2 fun k hk => hb k (hR1.isSome_of hk)
    refine ⟨s2, c1 + c2, hR1.trans hR2, hI2, by rw [List.length_cons]; omega, fun f W => ?_⟩
    rw [List.map_cons, List.cons_append, Nat.add_comm c1 c2, ← Nat.add_assoc, hrun1, hrun2]

theorem sub_leaf {s : State} {w : FsPath} {e : Entry} (hI : LInv s) (hne : w ≠ [])
    (hk : alLookup w s.entries = some e) (hf : e.files = none ∨ e.files = some []) : WorksOff s w := by
  obtain ⟨pe, _, hd, hpd, _⟩ := hI.parent w e hk hne
  have R := pruned_leaf hI hne hk hf hd (fl := alErase w s.files) fun x hx => alLookup_alErase_ne (Ne.symm hx) _
  refine ⟨_, 1, R, R.linv hI (prefixOrEq_snoc w) (nodup_alErase (nodup_alInsert hI.nodup)), ?_,
    fun f W => loop_leaf hne hk hf hd hpd⟩
  have h1 : w.dropLast ∈ s.entries.map (·.1) := (alLookup_isSome_iff _ _).1 (by rw [hd]; rfl)
  have h2 : w ∈ (alInsert w.dropLast (rmName pe (baseName w)) s.entries).map (·.1) := by
    rw [keys_alInsert, if_pos h1]; exact (alLookup_isSome_iff _ _).1 (by rw [hk]; rfl)
  have h3 := length_alErase_of_mem h2
  rw [length_alInsert_of_mem h1] at h3
  show 1 + 1 + 2 * (alErase _ _).length ≤ _
  omega

/-- the inner-node case of the subtree lemma: the children go first, which makes `w` a leaf -/
theorem sub_internal {n : Nat} (IH : SubStmt n) {s : State} {w : FsPath} {e : Entry} {x : Str} {xs : List Str}
    (hI : LInv s) (hne : w ≠ []) (hk : alLookup w s.entries = some e) (hf : e.files = some (x :: xs))
    (hb : ∀ k, (alLookup k s.entries).isSome → k.length < w.length + (n + 1)) : WorksOff s w := by
  obtain ⟨sm, cm, hRm, hIm, hcm, hrunm⟩ := rmKids_lemma IH w (x :: xs).reverse s hI
    (fun y hy => hI.listed w e _ y hk hf (List.mem_reverse.1 hy))
    ((List.reverse_perm _).symm.nodup (hI.childNodup w e _ hk hf))
    fun k hk' => by rw [Nat.add_assoc, Nat.add_comm 1 n]; exact hb k hk'
  have hwG : underKids w (x :: xs).reverse w = false := Bool.eq_false_iff.2 fun h => by
    obtain ⟨y, _, hy⟩ := List.any_eq_true.1 h
    exact prefix_snoc_not_self w y ((isPrefixOrEq_iff _ _).1 hy)
  have hwm := hRm.kept w hwG
  rw [hk] at hwm
  have hfm : (filtNames e fun y => !underKids w (x :: xs).reverse (w ++ [y])).files = some [] := by
    rw [filtNames_files _ hf, List.filter_eq_nil_iff.2]
    intro y hy
    rw [Bool.not_eq_true, Bool.not_eq_false']
    exact List.any_eq_true.2 ⟨y, List.mem_reverse.2 hy, (isPrefixOrEq_iff _ _).2 (List.prefix_refl _)⟩
  obtain ⟨s', c, hR, hI', hc, hrun⟩ := sub_leaf hIm hne hwm (Or.inr hfm)
  refine ⟨s', 1 + cm + c, ?_, hI', by rw [List.length_reverse, List.length_cons] at hcm; omega, fun f W => ?_⟩
  · have := hRm.trans hR
    rwa [show (fun k => underKids w (x :: xs).reverse k || isPrefixOrEq w k) = isPrefixOrEq w from
      funext fun k => Bool.or_eq_right_iff_imp.2 fun h => by
        obtain ⟨y, _, hy⟩ := List.any_eq_true.1 h
        exact (isPrefixOrEq_iff _ _).2 ((List.prefix_append w [y]).trans ((isPrefixOrEq_iff _ _).1 hy))] at this
  · rw [Nat.add_comm (1 + cm) c, Nat.add_comm 1 cm, ← Nat.add_assoc, ← Nat.add_assoc, loop_push hk hf,
      ← List.map_reverse, hrunm, hrun]

theorem subStmt_all : ∀ n, SubStmt n := by
  intro n
  induction n with
  | zero => exact fun s w e _ _ hk hb => absurd (hb w (by rw [hk]; rfl)) (Nat.lt_irrefl _)
  | succ n ih =>
    intro s w e hI hne hk hb
    cases hf : e.files with
    | none => exact sub_leaf hI hne hk (Or.inl hf)
    | some fs =>
      cases fs with
      | nil => exact sub_leaf hI hne hk (Or.inr hf)
      | cons x xs => exact sub_internal ih hI hne hk hf hb

/-! ### `remove_all` -/

def removeAllK (p : FsPath) : M Unit := do
  let s ← get
  removeAllLoop (4 * (s.entries.length + 2)) [p]

theorem removeAllM_eq (env : Env) (path : Str) : removeAllM env path = (absM env path >>= removeAllK) := rfl

def keyBound {β} (l : List (FsPath × β)) : Nat := (l.map (·.1.length)).foldr (· + ·) 0

theorem le_keyBound {β} {l : List (FsPath × β)} {k : FsPath} (h : k ∈ l.map (·.1)) : k.length ≤ keyBound l := by
  induction l with
  | nil => cases h
  | cons x xs ih =>
    rw [List.map_cons, List.mem_cons] at h
    unfold keyBound
    rw [List.map_cons, List.foldr_cons]
    rcases h with h | h
    · subst h; exact Nat.le_add_right _ _
    · exact Nat.le_trans (ih h) (Nat.le_add_left _ _)

theorem get_filter_absS (s : State) (p k : FsPath) :
    get { absS s with nodes := (absS s).nodes.filter (fun kv => !(isPrefixOrEq p kv.1)) } k =
      if isPrefixOrEq p k then none else get (absS s) k := by
  unfold TreeFs.get
  rw [alLookup_filter_key (fun q => !(isPrefixOrEq p q)) k]
  cases isPrefixOrEq p k <;> rfl

theorem removeAllK_sim {s : State} {p : FsPath} (hP : InvP s) (hne : p ≠ []) :
    Sim (mapVal (fun _ => Val.unit) (removeAllK p) s) (liftR (fun _ => Val.unit) (removeAll (absS s) p)) := by
  unfold removeAll
  rw [if_neg hne]
  unfold mapVal removeAllK
  rw [get_bind]
  cases hk : alLookup p s.entries with
  | none =>
    rw [show 4 * (s.entries.length + 2) = (4 * s.entries.length + 6 + 1) + 1 from rfl, loop_absent hk, loop_nil]
    refine sim_ok ⟨rfl, fun k => ?_⟩
    rw [get_filter_absS]
    split
    · next hG =>
      -- nothing lives at or below a missing key
      obtain ⟨t, rfl⟩ := (isPrefixOrEq_iff p k).1 hG
      have hnone : alLookup (p ++ t) s.entries = none := by
        cases t with
        | nil => rw [List.append_nil]; exact hk
        | cons x r =>
          refine Option.not_isSome_iff_eq_none.1 fun h => ?_
          obtain ⟨_, _, h1, _⟩ := hP.linv.anc r p x h
          rw [hk] at h1; cases h1
      rw [get_absS, hnone]; rfl
    · rfl
  | some e =>
    obtain ⟨s', c, hR, _, hc, hrun⟩ := subStmt_all (keyBound s.entries + 1) s p e hP.linv hne hk
      fun k hk' => Nat.lt_of_lt_of_le (Nat.lt_succ_of_le (le_keyBound ((alLookup_isSome_iff _ _).1 hk')))
        (Nat.le_add_left _ _)
    rw [show 4 * (s.entries.length + 2) = (4 * (s.entries.length + 2) - c - 1 + 1) + c by omega, hrun, loop_nil]
    refine sim_ok ⟨hR.cwd, fun k => ?_⟩
    rw [get_filter_absS, hR.get]

theorem removeAll_refines (env : Env) (s : State) (p : Str) (hI : Inv s) (_hW : KeysWf s)
    (hc : classOf s env (.removeAll p) = "-") : Refines env s (.removeAll p) := by
  rw [refines_iff]
  intro y hy
  simp only [specStep, Option.some.injEq] at hy
  subst hy
  show Sim (mapVal (fun _ => Val.unit) (removeAllM env p) s) _
  rw [removeAllM_eq]
  apply sim_withPath
  intro a ha
  apply removeAllK_sim (inv_props hI)
  intro h0
  simp only [classOf, entryAt_ok ha, h0] at hc
  exact absurd hc (by decide)

end Rivia.Lemmas.RefineB
