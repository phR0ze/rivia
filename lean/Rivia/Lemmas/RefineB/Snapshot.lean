/-
  Rivia.Lemmas.RefineB.Snapshot — `_clone_entries` (`cloneLoop`/`cloneEntries`/`entriesOf`): under the
  invariant the snapshot succeeds within its fuel, only holds live entries, and holds the whole
  subtree below the requested root.
-/
import Rivia.Lemmas.RefineB.RemoveAll
namespace Rivia.Lemmas.RefineB
open Rivia Rivia.Memfs Rivia.Spec Rivia.Spec.TreeFs M

/-! ### counting -/

theorem countP_add_one_le {α} {P Q : α → Bool} {K : List α} {w : α} (hPQ : ∀ k ∈ K, P k = true → Q k = true)
    (hw : w ∈ K) (hQ : Q w = true) (hP : P w = false) : K.countP P + 1 ≤ K.countP Q := by
  induction K with
  | nil => cases hw
  | cons k K' ih =>
    have hmono := List.countP_mono_left (l := K') (p := P) (q := Q) fun x hx => hPQ x (List.mem_cons_of_mem _ hx)
    rw [List.countP_cons, List.countP_cons]
    rcases List.mem_cons.1 hw with h | h
    · subst h
      rw [hP, hQ, if_neg Bool.false_ne_true, if_pos rfl]
      omega
    · have := ih (fun x hx => hPQ x (List.mem_cons_of_mem _ hx)) h
      by_cases hp : P k = true
      · rw [if_pos hp, if_pos (hPQ k List.mem_cons_self hp)]; omega
      · rw [if_neg hp]; omega

theorem countP_disjoint_add_le {α} {P Q R : α → Bool} {K : List α}
    (hd : ∀ k ∈ K, ¬ (P k = true ∧ Q k = true)) (hP : ∀ k ∈ K, P k = true → R k = true)
    (hQ : ∀ k ∈ K, Q k = true → R k = true) : K.countP P + K.countP Q ≤ K.countP R := by
  induction K with
  | nil => exact Nat.le_refl 0
  | cons k K' ih =>
    have := ih (fun x hx => hd x (List.mem_cons_of_mem _ hx)) (fun x hx => hP x (List.mem_cons_of_mem _ hx))
      (fun x hx => hQ x (List.mem_cons_of_mem _ hx))
    rw [List.countP_cons, List.countP_cons, List.countP_cons]
    by_cases hp : P k = true
    · rw [if_pos hp, if_neg fun hq => hd k List.mem_cons_self ⟨hp, hq⟩, if_pos (hP k List.mem_cons_self hp)]
      omega
    · rw [if_neg hp]
      by_cases hq : Q k = true
      · rw [if_pos hq, if_pos (hQ k List.mem_cons_self hq)]; omega
      · rw [if_neg hq]; omega

def keysOf (s : State) : List FsPath := s.entries.map (·.1)

/-- number of keys at or below `w` -/
def sizeAt (s : State) (w : FsPath) : Nat := (keysOf s).countP (fun k => isPrefixOrEq w k)

theorem countP_keysOf_le (s : State) (P : FsPath → Bool) : (keysOf s).countP P ≤ s.entries.length := by
  have := List.countP_le_length (p := P) (l := keysOf s)
  rwa [keysOf, List.length_map] at this

theorem sizeAt_le (s : State) (w : FsPath) : sizeAt s w ≤ s.entries.length := countP_keysOf_le s _

theorem sizeAt_pos {s : State} {w : FsPath} (h : (alLookup w s.entries).isSome) : 1 ≤ sizeAt s w :=
  List.countP_pos_iff.2 ⟨w, (alLookup_isSome_iff _ _).1 h, (isPrefixOrEq_iff w w).2 (List.prefix_refl _)⟩

/-- the subtrees of distinct children are disjoint parts of the parent's subtree -/
theorem kids_size_le (s : State) (w : FsPath) (hw : w ∈ keysOf s) :
    ∀ fs : List Str, fs.Nodup → (fs.map (fun n => sizeAt s (w ++ [n]))).sum + 1 ≤ sizeAt s w := by
  have key : ∀ fs : List Str, fs.Nodup → (fs.map (fun n => sizeAt s (w ++ [n]))).sum ≤
      (keysOf s).countP (fun k => fs.any (fun n => isPrefixOrEq (w ++ [n]) k)) := by
    intro fs
    induction fs with
    | nil => exact fun _ => Nat.zero_le _
    | cons a fs ih =>
      intro hnd
      have hnd' := List.nodup_cons.1 hnd
      rw [List.map_cons, List.sum_cons]
      refine Nat.le_trans (Nat.add_le_add_left (ih hnd'.2) _) (countP_disjoint_add_le ?_ ?_ ?_)
      · intro k _ ⟨h1, h2⟩
        obtain ⟨b, hb, h2⟩ := List.any_eq_true.1 h2
        exact hnd'.1 (snoc_prefix_inj ((isPrefixOrEq_iff _ _).1 h1) ((isPrefixOrEq_iff _ _).1 h2) ▸ hb)
      · intro k _ h; rw [List.any_cons, h]; rfl
      · intro k _ h; rw [List.any_cons, h]; exact Bool.or_true _
  intro fs hnd
  refine Nat.le_trans (Nat.add_le_add_right (key fs hnd) 1) (countP_add_one_le (w := w) ?_ hw ?_ ?_)
  · intro k _ h
    obtain ⟨b, _, h2⟩ := List.any_eq_true.1 h
    exact (isPrefixOrEq_iff _ _).2 ((List.prefix_append w [b]).trans ((isPrefixOrEq_iff _ _).1 h2))
  · exact (isPrefixOrEq_iff _ _).2 (List.prefix_refl _)
  · refine Bool.eq_false_iff.2 fun h => ?_
    obtain ⟨b, _, h2⟩ := List.any_eq_true.1 h
    exact prefix_snoc_not_self w b ((isPrefixOrEq_iff _ _).1 h2)

/-! ### the snapshot worklist -/

/-- keys not yet in the snapshot -/
def unv (s : State) (acc : Snap) : Nat := (keysOf s).countP (fun k => (alLookup k acc).isNone)

theorem isNone_insert {acc : Snap} {p k : FsPath} {e : Entry} (h : (alLookup k (alInsert p e acc)).isNone = true) :
    (alLookup k acc).isNone = true := by
  rw [alLookup_alInsert] at h
  split at h
  · cases h
  · exact h

theorem unv_insert_le (s : State) (acc : Snap) (p : FsPath) (e : Entry) : unv s (alInsert p e acc) ≤ unv s acc :=
  List.countP_mono_left fun _ _ => isNone_insert

theorem unv_insert_lt {s : State} {acc : Snap} {p : FsPath} (e : Entry) (hp : p ∈ keysOf s)
    (hn : alLookup p acc = none) : unv s (alInsert p e acc) + 1 ≤ unv s acc :=
  countP_add_one_le (w := p) (fun _ _ => isNone_insert) hp (by rw [hn]; rfl) (by rw [alLookup_alInsert_self]; rfl)

def cloneKids (p : FsPath) (e : Entry) : List FsPath :=
  match e.files with | some fs => fs.map (fun n => p ++ [n]) | none => []

/-- Each iteration pays one unit: taking `p` off the worklist frees the size of its subtree for its
    children; and when a link target is pushed on top, `p` was not in the snapshot before, which frees
    more than any subtree size. -/
def clonePot (s : State) (work : List FsPath) (acc : Snap) : Nat :=
  (work.map (sizeAt s)).sum + (s.entries.length + 1) * unv s acc

structure CloneInv (s : State) (work : List FsPath) (acc : Snap) : Prop where
  workEx : ∀ w ∈ work, (alLookup w s.entries).isSome
  accOk : ∀ k e, alLookup k acc = some e → alLookup k s.entries = some e
  links : ∀ k e a, alLookup k acc = some e → e.link = true → e.alt = some a →
    (alLookup a s.entries).isSome → (alLookup a acc).isSome ∨ work.head? = some a

/-- the target of the link entry `e` goes on top of the worklist unless the snapshot has it -/
def pushLink (ents : List (FsPath × Entry)) (e : Entry) (acc : Snap) (work : List FsPath) : List FsPath :=
  match e.alt with
  | some a => if e.link ∧ (alLookup a ents).isSome ∧ (alLookup a acc).isNone then a :: work else work
  | none => work

theorem cloneLoop_step (ents : List (FsPath × Entry)) (f : Nat) (p : FsPath) (work : List FsPath) (acc : Snap)
    (e : Entry) (h : alLookup p ents = some e) :
    cloneLoop ents (f + 1) (p :: work) acc =
      cloneLoop ents f (pushLink ents e (alInsert e.path e acc) ((cloneKids e.path e).reverse ++ work))
        (alInsert e.path e acc) := by
  have : cloneLoop ents (f + 1) (p :: work) acc =
      match alLookup p ents with
      | none => .err .doesNotExist
      | some e => cloneLoop ents f (pushLink ents e (alInsert e.path e acc) ((cloneKids e.path e).reverse ++ work))
          (alInsert e.path e acc) := rfl
  rw [this, h]

theorem pushLink_cases (ents : List (FsPath × Entry)) (e : Entry) (acc : Snap) (work : List FsPath) :
    (pushLink ents e acc work = work ∧
      ∀ a, e.link = true → e.alt = some a → (alLookup a ents).isSome → (alLookup a acc).isSome) ∨
    ∃ a, pushLink ents e acc work = a :: work ∧ e.link = true ∧ e.alt = some a ∧ (alLookup a ents).isSome ∧
      alLookup a acc = none := by
  unfold pushLink
  cases ha : e.alt with
  | none => exact Or.inl ⟨rfl, fun a _ h => (nomatch h)⟩
  | some a =>
    by_cases hc : e.link = true ∧ (alLookup a ents).isSome = true ∧ (alLookup a acc).isNone = true
    · exact Or.inr ⟨a, if_pos hc, hc.1, rfl, hc.2.1, Option.isNone_iff_eq_none.1 hc.2.2⟩
    · refine Or.inl ⟨if_neg hc, fun a' hl ha' hex => ?_⟩
      cases ha'
      cases h : alLookup a acc with
      | some _ => rfl
      | none => exact absurd ⟨hl, hex, by rw [h]; rfl⟩ hc

theorem kids_sum_le {s : State} (hP : InvP s) {p : FsPath} {e : Entry} (hp : alLookup p s.entries = some e) :
    ((cloneKids p e).map (sizeAt s)).sum + 1 ≤ sizeAt s p := by
  unfold cloneKids
  cases hf : e.files with
  | none => exact sizeAt_pos (by rw [hp]; rfl)
  | some fs =>
    have := kids_size_le s p ((alLookup_isSome_iff _ _).1 (by rw [hp]; rfl)) fs (hP.childNodup p e fs hp hf)
    rw [List.map_map]; exact this

theorem mem_cloneKids {p : FsPath} {e : Entry} {w : FsPath} (h : w ∈ cloneKids p e) :
    ∃ fs n, e.files = some fs ∧ n ∈ fs ∧ w = p ++ [n] := by
  unfold cloneKids at h
  cases hf : e.files with
  | none => rw [hf] at h; cases h
  | some fs =>
    rw [hf] at h
    obtain ⟨n, hn, rfl⟩ := List.mem_map.1 h
    exact ⟨fs, n, rfl, hn, rfl⟩

/-- one iteration on `p :: work` keeps the invariant, leaves the children of `p` and `work` on the
    worklist, and pays one unit of `clonePot` -/
theorem clone_step {s : State} (hP : InvP s) {p : FsPath} {work : List FsPath} {acc : Snap} {e : Entry}
    (hC : CloneInv s (p :: work) acc) (hpe : alLookup p s.entries = some e) :
    ∃ work', pushLink s.entries e (alInsert p e acc) ((cloneKids p e).reverse ++ work) = work' ∧
      CloneInv s work' (alInsert p e acc) ∧ (∀ w ∈ cloneKids p e ++ work, w ∈ work') ∧
      clonePot s work' (alInsert p e acc) + 1 ≤ clonePot s (p :: work) acc := by
  have hkw : ∀ w ∈ (cloneKids p e).reverse ++ work, (alLookup w s.entries).isSome := by
    intro w hw
    rcases List.mem_append.1 hw with hw | hw
    · obtain ⟨fs, n, hf, hn, rfl⟩ := mem_cloneKids (List.mem_reverse.1 hw)
      exact hP.listed p e fs n hpe hf hn
    · exact hC.workEx w (List.mem_cons_of_mem _ hw)
  have hsub : ∀ w ∈ cloneKids p e ++ work, w ∈ (cloneKids p e).reverse ++ work := fun w hw =>
    (List.mem_append.1 hw).elim (fun h => List.mem_append_left _ (List.mem_reverse.2 h)) (List.mem_append_right _)
  have hsize : (((cloneKids p e).reverse ++ work).map (sizeAt s)).sum + 1 ≤ ((p :: work).map (sizeAt s)).sum := by
    have := kids_sum_le hP hpe
    rw [List.map_append, List.sum_append_nat, List.map_reverse, List.sum_reverse_nat, List.map_cons, List.sum_cons]
    omega
  have hacc : ∀ k e', alLookup k (alInsert p e acc) = some e' → alLookup k s.entries = some e' := by
    intro k e' h
    rw [alLookup_alInsert] at h
    split at h
    · next hk => cases h; exact hk ▸ hpe
    · exact hC.accOk k e' h
  have hmono : ∀ k, (alLookup k acc).isSome → (alLookup k (alInsert p e acc)).isSome := by
    intro k h
    rw [alLookup_alInsert]
    split
    · rfl
    · exact h
  have hlinks : ∀ {work' : List FsPath}, (∀ a, e.link = true → e.alt = some a → (alLookup a s.entries).isSome →
        (alLookup a (alInsert p e acc)).isSome ∨ work'.head? = some a) →
      ∀ k e' a, alLookup k (alInsert p e acc) = some e' → e'.link = true → e'.alt = some a →
        (alLookup a s.entries).isSome → (alLookup a (alInsert p e acc)).isSome ∨ work'.head? = some a := by
    intro work' hp' k e' a h hl ha hae
    rw [alLookup_alInsert] at h
    split at h
    · cases h; exact hp' a hl ha hae
    · rcases hC.links k e' a h hl ha hae with h' | h'
      · exact Or.inl (hmono a h')
      · cases h'; exact Or.inl (by rw [alLookup_alInsert_self]; rfl)
  have hmul := Nat.mul_le_mul_left (s.entries.length + 1) (unv_insert_le s acc p e)
  rcases pushLink_cases s.entries e (alInsert p e acc) ((cloneKids p e).reverse ++ work) with
    ⟨h1, h2⟩ | ⟨a, h1, hl, ha, hae, han⟩
  · refine ⟨_, h1, ⟨hkw, hacc, hlinks fun a hl ha hae => Or.inl (h2 a hl ha hae)⟩, hsub, ?_⟩
    unfold clonePot
    omega
  · refine ⟨_, h1, ⟨?_, hacc, hlinks fun a' _ ha' _ => Or.inr ?_⟩,
      fun w hw => List.mem_cons_of_mem _ (hsub w hw), ?_⟩
    · intro w hw
      rcases List.mem_cons.1 hw with hw | hw
      · exact hw ▸ hae
      · exact hkw w hw
    · rw [ha] at ha'; cases ha'; rfl
    · -- `p` was not in the snapshot: otherwise its target would be, or `p` would be its own target
      have hpn : alLookup p acc = none := by
        refine Option.not_isSome_iff_eq_none.1 fun h => ?_
        obtain ⟨e0, he0⟩ := Option.isSome_iff_exists.1 h
        have := hC.accOk p e0 he0
        rw [hpe] at this; cases this
        have : (alLookup a (alInsert p e acc)).isSome := by
          rcases hC.links p e a he0 hl ha hae with h' | h'
          · exact hmono a h'
          · cases h'; rw [alLookup_alInsert_self]; rfl
        rw [han] at this; cases this
      have h3 := Nat.mul_le_mul_left (s.entries.length + 1)
        (unv_insert_lt e ((alLookup_isSome_iff _ _).1 (by rw [hpe]; rfl)) hpn)
      have h4 := sizeAt_le s a
      unfold clonePot
      rw [List.map_cons, List.sum_cons]
      rw [Nat.mul_add] at h3
      omega

theorem cloneLoop_ok {s : State} (hP : InvP s) : ∀ (f : Nat) (work : List FsPath) (acc : Snap),
    CloneInv s work acc → clonePot s work acc ≤ f →
    ∃ snap, cloneLoop s.entries f work acc = .ok snap ∧
      (∀ k e, alLookup k snap = some e → alLookup k s.entries = some e) ∧
      (∀ k e, alLookup k acc = some e → alLookup k snap = some e) ∧
      (∀ w ∈ work, ∀ k, w <+: k → (alLookup k s.entries).isSome → alLookup k snap = alLookup k s.entries) := by
  intro f
  induction f with
  | zero =>
    intro work acc hC hpot
    cases work with
    | nil => exact ⟨acc, rfl, hC.accOk, fun _ _ h => h, fun w hw => nomatch hw⟩
    | cons p work =>
      have := sizeAt_pos (hC.workEx p List.mem_cons_self)
      unfold clonePot at hpot
      rw [List.map_cons, List.sum_cons] at hpot
      omega
  | succ f ih =>
    intro work acc hC hpot
    cases work with
    | nil => exact ⟨acc, rfl, hC.accOk, fun _ _ h => h, fun w hw => nomatch hw⟩
    | cons p work =>
      obtain ⟨e, hpe⟩ := Option.isSome_iff_exists.1 (hC.workEx p List.mem_cons_self)
      obtain ⟨work', hw', hC', hsub, hpot'⟩ := clone_step hP hC hpe
      rw [cloneLoop_step s.entries f p work acc e hpe, hP.pathField p e hpe, hw']
      obtain ⟨snap, h1, h2, h3, h4⟩ := ih work' _ hC' (by omega)
      have hpsnap : alLookup p snap = some e := h3 p e (alLookup_alInsert_self _ _ _)
      refine ⟨snap, h1, h2, fun k e' h => ?_, fun w hw k hwk hk => ?_⟩
      · by_cases hk : p = k
        · subst hk; rw [hC.accOk _ _ h] at hpe; cases hpe; exact hpsnap
        · exact h3 k e' (by rw [alLookup_alInsert_ne hk]; exact h)
      · rcases List.mem_cons.1 hw with hw | hw
        · subst hw
          obtain ⟨t, rfl⟩ := hwk
          cases t with
          | nil => rw [List.append_nil, hpsnap, hpe]
          | cons x r =>
            -- `k` lies below the child `w ++ [x]`, which is on the worklist
            obtain ⟨pe, fs, g1, _, _, g4, g5⟩ := anc hP r.length r w x rfl hk
            rw [hpe] at g1; cases g1
            have hmem : w ++ [x] ∈ cloneKids w e := by
              unfold cloneKids; rw [g4]; exact List.mem_map.2 ⟨x, g5, rfl⟩
            exact h4 (w ++ [x]) (hsub _ (List.mem_append_left _ hmem)) _ ⟨r, by rw [List.append_assoc]; rfl⟩ hk
        · exact h4 w (hsub w (List.mem_append_right _ hw)) k hwk hk

/-- what the traversals need from a snapshot rooted at `p` -/
structure SnapOk (s : State) (p : FsPath) (snap : Snap) : Prop where
  sound : ∀ k e, alLookup k snap = some e → alLookup k s.entries = some e
  complete : ∀ k, p <+: k → (alLookup k s.entries).isSome → alLookup k snap = alLookup k s.entries

theorem entriesOf_none {s : State} {p : FsPath} (h : alLookup p s.entries = none) :
    entriesOf s p = .err .doesNotExist := by
  unfold entriesOf; rw [h]

theorem entriesOf_ok {s : State} (hP : InvP s) {p : FsPath} {e : Entry} (h : alLookup p s.entries = some e) :
    ∃ snap, entriesOf s p = .ok (e, snap) ∧ SnapOk s p snap := by
  have hC : CloneInv s [p] [] :=
    ⟨fun w hw => by rw [List.mem_singleton.1 hw, h]; rfl, fun _ _ h => (nomatch h), fun _ _ _ h => (nomatch h)⟩
  have hpot : clonePot s [p] [] ≤ 4 * (s.entries.length + 1) * (s.entries.length + 1) := by
    have h1 : clonePot s [p] [] ≤ s.entries.length + (s.entries.length + 1) * s.entries.length := by
      unfold clonePot unv
      rw [List.map_cons, List.map_nil, List.sum_cons, List.sum_nil, Nat.add_zero]
      exact Nat.add_le_add (sizeAt_le s p) (Nat.mul_le_mul_left _ (countP_keysOf_le s _))
    refine Nat.le_trans h1 (Nat.le_trans ?_ (Nat.mul_le_mul_right _ (Nat.le_mul_of_pos_left _ (by decide))))
    rw [Nat.mul_succ, Nat.add_comm]
    exact Nat.add_le_add_left (Nat.le_succ _) _
  obtain ⟨snap, h1, h2, _, h4⟩ := cloneLoop_ok hP _ [p] [] hC hpot
  refine ⟨snap, ?_, ⟨h2, fun k hk hk' => h4 p List.mem_cons_self k hk hk'⟩⟩
  unfold entriesOf cloneEntries
  rw [h, h1]

end Rivia.Lemmas.RefineB
