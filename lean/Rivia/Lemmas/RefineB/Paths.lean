/-
  Rivia.Lemmas.RefineB.Paths — the string pipeline of `move_p` on keys with proper names, read off
  the C03 development (`Lemmas/InvBAbs`): `dstOf`, `dst_root.mash(src.base())`, and the keys `_abs`
  returns.
-/
import Rivia.Lemmas.RefineB.Base
import Rivia.Lemmas.InvBAbs
namespace Rivia.Lemmas.RefineB
open Rivia Rivia.Str Rivia.Memfs Rivia.Spec Rivia.Spec.TreeFs

theorem wf_body {p : FsPath} (h : ∀ n ∈ p, Wf n) : ∀ n ∈ p, BodyPiece n := fun n hn => (h n hn).bodyPiece

/-- `a` is the string form of a key whose names are body pieces -/
def AbsKey (a : Str) : Prop := ∃ ps : List Str, (∀ p ∈ ps, BodyPiece p) ∧ a = bufOf true ps

theorem AbsKey.rooted {a : Str} (h : AbsKey a) : isRooted a = true := InvB.AbsKey.rooted h

/-- `_abs` relative to a cwd of proper names only returns keys of body pieces -/
theorem absWith_bp {env : Env} {cwd : FsPath} {raw a : Str} (hc : ∀ n ∈ cwd, BodyPiece n)
    (h : absWith env (renderP cwd) raw = .ok a) : ∀ n ∈ toPath a, BodyPiece n :=
  InvB.absWith_wf hc h

/-- nothing is asked of `pre`: it only occurs as a string prefix that `trim_prefix` cuts off again -/
theorem dstOf_append {d pre q : FsPath} (hd : ∀ n ∈ d, BodyPiece n) (hq : ∀ n ∈ q, BodyPiece n) :
    dstOf d (pre ++ q) pre = d ++ q :=
  InvB.dstOf_append_eq hd hq

theorem dstOf_sub {d pre q : FsPath} (hd : ∀ n ∈ d, BodyPiece n) (hq : ∀ n ∈ q, BodyPiece n) (_hne : q ≠ []) :
    dstOf d (pre ++ q) pre = d ++ q := dstOf_append hd hq

theorem dstOf_self {d s : FsPath} (hd : ∀ n ∈ d, BodyPiece n) (_hne : d ≠ []) : dstOf d s s = d := by
  have := dstOf_append (pre := s) (q := []) hd (fun _ h => nomatch h)
  rwa [List.append_nil, List.append_nil] at this

/-- `dst_root.mash(src.base())` -/
theorem toPath_mash_base {d : FsPath} {b : Str} (hd : ∀ n ∈ d, BodyPiece n) (hb : BodyPiece b) :
    toPath (mash (renderP d) b) = d ++ [b] := by
  apply InvB.toPath_mash_key hd (r := [b]) (fun n hn => by rw [List.mem_singleton.1 hn]; exact hb)
  rw [stripSlashes_of_not_mem hb.2.2]; rfl

end Rivia.Lemmas.RefineB
