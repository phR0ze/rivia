/-
  Rivia.Lemmas.RefineB.Chmod — refinement of the octal `chmod` / `chmod_b` without follow (C01, group B):
  the `pre_op` closure and the consumer both write the same mode, so only which keys are visited matters.
-/
import Rivia.Lemmas.RefineB.Chown
import Rivia.Lemmas.RefineB.Move
namespace Rivia.Lemmas.RefineB
open Rivia Rivia.Memfs Rivia.Spec Rivia.Spec.TreeFs M

/-- depth 0 in the contents-first configuration -/
structure FlatCf (o : Opts) : Prop where
  follow : o.follow = false
  minDepth : o.minDepth = 0
  maxDepth : o.maxDepth = 0
  cf : o.contentsFirst = true
  files : o.files = false
  dirs : o.dirs = false

theorem FlatCf.plain {o : Opts} (h : FlatCf o) : Plain o := ⟨h.follow, h.minDepth, h.files, h.dirs⟩

/-! ### the body of `chmod`: `pre_op` and consumer, for whatever mode `sys::mode` computes -/

def chmodPre (c : ChmodOpts) : Entry → State → Outcome Unit × State := fun x st =>
  match Chmod.mode (ekind x) x.mode c.dirs c.sym with
  | .ok m1 =>
    if (!x.link ∨ c.follow) ∧ x.dir ∧ m1 ≠ 0 ∧ !Chmod.revokingMode x.mode m1 ∧ x.mode ≠ m1 then
      match alLookup x.path st.entries with
      | some e => (.ok (), { st with entries := alInsert x.path (e.setMode m1) st.entries })
      | none => (.ok (), st)
    else (.ok (), st)
  | .err k => (.err k, st)
  | .panic => (.panic, st)
  | .hang => (.hang, st)

def chmodStepF (c : ChmodOpts) : Entry → State → Outcome Unit × State := fun src st =>
  let m2o : Outcome Nat :=
    if src.dir then Chmod.mode (ekind src) src.mode c.dirs c.sym
    else if src.file then Chmod.mode (ekind src) src.mode c.files c.sym
    else .ok 0
  match m2o with
  | .ok m2 =>
    if (!src.link ∨ c.follow) ∧ m2 ≠ src.mode ∧ m2 ≠ 0 then
      match alLookup src.path st.entries with
      | some e => (.ok (), { st with entries := alInsert src.path (e.setMode m2) st.entries })
      | none => (.ok (), st)
    else (.ok (), st)
  | .err k => (.err k, st)
  | .panic => (.panic, st)
  | .hang => (.hang, st)

def chmodOpts (c : ChmodOpts) : Opts :=
  ({ contentsFirst := true, follow := c.follow, dirsFirst := true, sorted := true } : Opts).setMax
    (if c.recursive then 2 ^ 64 - 1 else 0)

def chmodK (c : ChmodOpts) (p : FsPath) : M Unit := travK (chmodOpts c) (chmodPre c) (chmodStepF c) p

theorem chmodM_eq (env : Env) (path : Str) (c : ChmodOpts) : chmodM env path c = (absM env path >>= chmodK c) := rfl

/-- the `pre_op` writes the mode `m` computed for the entry -/
def preW (m : Nat) (x : Entry) : Bool :=
  decide ((!x.link) ∧ x.dir ∧ m ≠ 0 ∧ !Chmod.revokingMode x.mode m ∧ x.mode ≠ m)

/-- the consumer writes the mode `m` computed for the entry -/
def stepW (m : Nat) (x : Entry) : Bool := decide ((!x.link) ∧ m ≠ x.mode ∧ m ≠ 0)

def stepMode (c : ChmodOpts) (x : Entry) : Nat := if x.dir then c.dirs else if x.file then c.files else 0

theorem chmodPre_of {c : ChmodOpts} (hf : c.follow = false) {x : Entry} {m : Nat}
    (hm : Chmod.mode (ekind x) x.mode c.dirs c.sym = .ok m) (w : State) :
    chmodPre c x w = (.ok (), if preW m x then updAt (fun e => e.setMode m) x.path w else w) := by
  unfold chmodPre preW updAt
  rw [hm]
  simp only [hf, Bool.false_eq_true, or_false, decide_eq_true_eq]
  cases alLookup x.path w.entries <;> split <;> rfl

theorem chmodStepF_of {c : ChmodOpts} (hf : c.follow = false) {x : Entry} {m : Nat}
    (hm : (if x.dir then Chmod.mode (ekind x) x.mode c.dirs c.sym
      else if x.file then Chmod.mode (ekind x) x.mode c.files c.sym else Outcome.ok 0) = .ok m) (w : State) :
    chmodStepF c x w = (.ok (), if stepW m x then updAt (fun e => e.setMode m) x.path w else w) := by
  unfold chmodStepF stepW updAt
  simp only [hm, hf, Bool.false_eq_true, or_false, decide_eq_true_eq]
  cases alLookup x.path w.entries <;> split <;> rfl

theorem preW_true {m : Nat} {x : Entry} (h : preW m x = true) : x.link = false ∧ x.dir = true ∧ m ≠ 0 := by
  have := of_decide_eq_true h
  exact ⟨by simpa using this.1, this.2.1, this.2.2.1⟩

theorem stepW_true {m : Nat} {x : Entry} (h : stepW m x = true) : x.link = false ∧ m ≠ 0 := by
  have := of_decide_eq_true h
  exact ⟨by simpa using this.1, this.2.2⟩

theorem stepW_false {m : Nat} {x : Entry} (h : stepW m x = false) : x.link = true ∨ m = x.mode ∨ m = 0 := by
  have := of_decide_eq_false h
  cases hl : x.link with
  | true => exact Or.inl rfl
  | false =>
    right
    cases Nat.decEq m x.mode with
    | isTrue h1 => exact Or.inl h1
    | isFalse h1 =>
      cases Nat.decEq m 0 with
      | isTrue h2 => exact Or.inr h2
      | isFalse h2 => exact absurd ⟨by simp [hl], h1, h2⟩ this

theorem setMode_idem (e : Entry) (m : Nat) : (e.setMode m).setMode m = e.setMode m := rfl

/-! ### octal modes -/

/-- every entry's mode carries type bits (so it differs from any permission value) -/
def ModeOk (s : State) : Prop := ∀ kv ∈ s.entries, 0o10000 ≤ kv.2.mode

instance (s : State) : Decidable (ModeOk s) := by unfold ModeOk; infer_instance

theorem or_sub_pow (m i : Nat) (h : m < 2 ^ i) : (m ||| 2 ^ i) - 2 ^ i = m := by
  have := Nat.two_pow_add_eq_or_of_lt h 1
  rw [Nat.mul_one] at this
  rw [Nat.or_comm, ← this]; omega

theorem or_sub_dir (m : Nat) (h : m < 4096) : (m ||| 16384) - 16384 = m := by
  have := or_sub_pow m 14 (by omega)
  simpa using this

theorem or_sub_file (m : Nat) (h : m < 4096) : (m ||| 32768) - 32768 = m := by
  have := or_sub_pow m 15 (by omega)
  simpa using this

theorem node_perm_congr (n : Node) (a b : Nat) (h : a = b) : { n with perm := a } = { n with perm := b } := by rw [h]

theorem setMode_perm (e : Entry) (m : Nat) (hl : e.link = false) (hfl : e.file = !e.dir) (hm : m < 4096) :
    (e.setMode m).mode - typeBits (kindOf e) = m := by
  unfold Entry.setMode kindOf
  simp only [ModeBits.optsMode_some]
  cases hd : e.dir with
  | true =>
    rw [hd] at hfl
    simp only [hl, hfl, Bool.false_eq_true, if_false, Bool.not_true, if_true, typeBits,
      ModeBits.and_perm_of_lt m hm]
    exact or_sub_dir m hm
  | false =>
    rw [hd] at hfl
    simp only [hl, hfl, Bool.false_eq_true, if_false, Bool.not_false, if_true, typeBits,
      ModeBits.and_perm_of_lt m hm]
    exact or_sub_file m hm

theorem absNode_setMode (s : State) (k : FsPath) (e : Entry) (m : Nat) (hl : e.link = false)
    (hfl : e.file = !e.dir) (hm : m < 4096) :
    absNode s k (e.setMode m) = { absNode s k e with perm := m } := by
  have h1 : absNode s k (e.setMode m) =
      { absNode s k e with perm := (e.setMode m).mode - typeBits (kindOf e) } := rfl
  rw [h1]
  exact node_perm_congr _ _ _ (setMode_perm e m hl hfl hm)

theorem chmodOpts_cf {s : State} {p : FsPath} {snap : Snap} {c : ChmodOpts} (hP : InvP s) (hS : SnapOk s p snap)
    (hf : c.follow = false) (hr : c.recursive = true) (hD : DepthOk s) : CfCtx s p snap (chmodOpts c) := by
  refine ⟨hP, hS, ?_, ?_, ?_, ?_, ?_, ?_, ?_, ?_⟩ <;> simp only [chmodOpts, Opts.setMax, hf, hr, if_true]
  intro k hk
  simp only [Nat.not_lt_zero, if_false]
  exact hD.deep hk

theorem chmodOpts_flat {c : ChmodOpts} (hf : c.follow = false) (hr : c.recursive = false) : FlatCf (chmodOpts c) := by
  refine ⟨?_, ?_, ?_, ?_, ?_, ?_⟩ <;> simp [chmodOpts, Opts.setMax, hf, hr]

theorem kind_link_of (s : State) (k : FsPath) (e : Entry) (h : e.link = true) : (absNode s k e).kind = Kind.link e.dir := by
  unfold absNode kindOf; simp [h]

section node
variable (s : State) (k : FsPath) (x : Entry) (c : ChmodOpts) (hfl : x.link = false → x.file = !x.dir)
include hfl

theorem absNode_setMode_step (hl : x.link = false) (hpd : c.dirs < 4096) (hpf : c.files < 4096)
    (hne : stepMode c x ≠ 0) :
    absNode s k (x.setMode (stepMode c x)) =
      permFn (if c.dirs = 0 then none else some c.dirs) (if c.files = 0 then none else some c.files)
        (absNode s k x) := by
  have hsm : stepMode c x < 4096 := by
    unfold stepMode; split
    · exact hpd
    · split
      · exact hpf
      · omega
  rw [absNode_setMode s k x _ hl (hfl hl) hsm]
  cases hxd : x.dir with
  | true =>
    have hkd : (absNode s k x).kind = Kind.dir := (kind_dir_iff s k x).2 ⟨hxd, hl⟩
    have hne' : c.dirs ≠ 0 := by simpa [stepMode, hxd] using hne
    simp only [stepMode, hxd, if_true, hne', if_false]
    rw [permFn_dir hkd]
  | false =>
    have hxf : x.file = true := by rw [hfl hl, hxd]; rfl
    have hkd : (absNode s k x).kind = Kind.file := (kind_file_iff s k x).2 ⟨hxd, hl⟩
    have hne' : c.files ≠ 0 := by simpa [stepMode, hxd, hxf] using hne
    simp only [stepMode, hxd, hxf, Bool.false_eq_true, if_false, if_true, hne']
    rw [permFn_file hkd]

theorem permFn_skip (h : x.link = true ∨ stepMode c x = 0) :
    permFn (if c.dirs = 0 then none else some c.dirs) (if c.files = 0 then none else some c.files)
      (absNode s k x) = absNode s k x := by
  cases hxl : x.link with
  | true => exact permFn_link (kind_link_of s k x hxl) _ _
  | false =>
    have hz : stepMode c x = 0 := h.resolve_left (by rw [hxl]; exact Bool.false_ne_true)
    cases hxd : x.dir with
    | true =>
      have : c.dirs = 0 := by simpa [stepMode, hxd] using hz
      simp only [this, if_true]
      exact permFn_dir_none ((kind_dir_iff s k x).2 ⟨hxd, hxl⟩) _
    | false =>
      have hxf : x.file = true := by rw [hfl hxl, hxd]; rfl
      have : c.files = 0 := by simpa [stepMode, hxd, hxf] using hz
      simp only [this, if_true]
      exact permFn_file_none ((kind_file_iff s k x).2 ⟨hxd, hxl⟩) _

end node

theorem chmodK_sim {s : State} {p : FsPath} {c : ChmodOpts} (hP : InvP s) (hFl : FlagsOk s) (hMo : ModeOk s)
    (hs : c.sym = []) (hf : c.follow = false) (hpd : c.dirs < 4096) (hpf : c.files < 4096)
    (hD : c.recursive = true → DepthOk s) :
    Sim (mapVal (fun _ => Val.unit) (chmodK c p) s)
      (liftR (fun _ => Val.unit) (chmodOctal (absS s) p (if c.dirs = 0 then none else some c.dirs)
        (if c.files = 0 then none else some c.files) c.recursive)) := by
  rw [chmodOctal_eq]
  -- the `pre_op` writes on directories only, so its mode is the consumer's
  have hsm : ∀ x, preW c.dirs x = true → stepMode c x = c.dirs := fun x h => by
    simp only [stepMode, (preW_true h).2.1, if_true]
  refine trav_upd_sim hP c.recursive (fun snap hS hr => (chmodOpts_cf hP hS hf hr (hD hr)).walk)
    (fun hr => ⟨(chmodOpts_flat hf hr).plain, (chmodOpts_flat hf hr).maxDepth⟩)
    (fun x => preW c.dirs x) (fun x => stepW (stepMode c x) x) (fun x e => e.setMode (stepMode c x))
    (fun _ _ => rfl)
    (fun x w => by
      rw [chmodPre_of hf (hs ▸ mode_octal _ _ _)]
      cases h : preW c.dirs x with
      | false => rfl
      | true => rw [hsm x h])
    (fun x w => chmodStepF_of hf (by
      unfold stepMode
      rw [hs, mode_octal, mode_octal]
      split
      · rfl
      · split <;> rfl) w)
    (fun k x hk hw => ?_) (fun k x hk hw => ?_)
  · have hw' : x.link = false ∧ stepMode c x ≠ 0 := by
      rcases Bool.or_eq_true_iff.1 hw with h | h
      · exact ⟨(preW_true h).1, hsm x h ▸ (preW_true h).2.2⟩
      · exact stepW_true h
    exact absNode_setMode_step s k x c (hFl (k, x) (alLookup_mem hk)) hw'.1 hpd hpf hw'.2
  · have hxmo : 4096 ≤ x.mode := hMo (k, x) (alLookup_mem hk)
    have hsm : stepMode c x < 4096 := by
      unfold stepMode; split
      · exact hpd
      · split
        · exact hpf
        · omega
    refine permFn_skip s k x c (hFl (k, x) (alLookup_mem hk)) ?_
    rcases stepW_false hw with h | h | h
    · exact Or.inl h
    · omega
    · exact Or.inr h

theorem chmodB_refines (env : Env) (s : State) (p : Str) (c : ChmodOpts) (hI : Inv s) (_hW : KeysWf s)
    (_hc : classOf s env (.chmodB p c) = "-") (hsym : c.sym = []) (hFl : FlagsOk s) (hMo : ModeOk s)
    (hD : c.recursive = true → DepthOk s) : Refines env s (.chmodB p c) := by
  rw [refines_iff]
  intro y hy
  simp only [specStep] at hy
  cases hf : c.follow with
  | true => rw [hf, if_pos rfl] at hy; cases hy
  | false =>
    rw [hf, if_neg (by simp), if_pos hsym] at hy
    by_cases hperm : permOk c.dirs = true ∧ permOk c.files = true
    · rw [if_pos hperm] at hy
      cases hy
      show Sim (mapVal (fun _ => Val.unit) (chmodM env p c) s) _
      rw [chmodM_eq]
      apply sim_withPath
      intro a _
      exact chmodK_sim (inv_props hI) hFl hMo hsym hf (of_decide_eq_true hperm.1) (of_decide_eq_true hperm.2) hD
    · rw [if_neg hperm] at hy; cases hy

/-- `chmod(p, m)` is `chmod_b` with `m` for directories and files; mode 0 (no change) is outside the domain -/
theorem chmod_refines (env : Env) (s : State) (p : Str) (m : Nat) (hI : Inv s) (hW : KeysWf s)
    (hc : classOf s env (.chmod p m) = "-") (hFl : FlagsOk s) (hMo : ModeOk s) (hD : DepthOk s) :
    Refines env s (.chmod p m) := by
  have hm0 : m ≠ 0 := by
    intro h0
    simp only [classOf, h0, if_true] at hc
    exact absurd hc (by decide)
  have hB := chmodB_refines env s p { dirs := m, files := m } hI hW rfl rfl hFl hMo (fun _ => hD)
  have hspec : specStep env (absS s) (.chmod p m) = specStep env (absS s) (.chmodB p { dirs := m, files := m }) := by
    simp only [specStep, hm0, if_false, Bool.false_eq_true, and_self, if_true]
  intro r t' h
  rw [hspec] at h
  exact hB r t' h

end Rivia.Lemmas.RefineB
