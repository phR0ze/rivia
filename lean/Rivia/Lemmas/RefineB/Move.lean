/-
  Rivia.Lemmas.RefineB.Move — refinement of `move_p` (C01, group B): validation in `moveM` against the
  conditions of the reference, then the re-keying of the subtree (the worklist itself is analysed in
  `Rivia.Lemmas.MoveP`).
-/
import Rivia.Lemmas.RefineB.Chown
import Rivia.Lemmas.RefineB.Paths
import Rivia.Lemmas.MoveP
namespace Rivia.Lemmas.RefineB
open Rivia Rivia.Memfs Rivia.Spec Rivia.Spec.TreeFs M

/-! ### the reference `move_p`, pointwise -/

def okDstOf (t : T) (sn : Node) (dst : FsPath) : Bool :=
  match get t dst with
  | none => true
  | some dn => (sn.kind = Kind.file && dn.kind = Kind.file)

def emptyOntoOf (t : T) (sn : Node) (dst : FsPath) : Bool :=
  match get t dst with
  | some dn => sn.kind = Kind.dir && dn.kind = Kind.dir && (below t dst).isEmpty
  | none => false

def movedNodes (t : T) (s dst : FsPath) : T :=
  { t with nodes :=
      t.nodes.filter (fun kv => !(isPrefixOrEq s kv.1) && kv.1 ≠ dst) ++
      t.nodes.filterMap (fun kv => if isPrefixOrEq s kv.1 then some (dst ++ kv.1.drop s.length, kv.2) else none) }

theorem moveP_eq (t : T) (s d : FsPath) :
    moveP t s d = match get t s with
      | none => (.err (some .doesNotExist), t)
      | some sn =>
        if s = [] then (.unspecified, t)
        else if s = (if isDir t d then d ++ [baseName s] else d) then (.ok (), t)
        else if isPrefixOrEq s (if isDir t d then d ++ [baseName s] else d) then (.err none, t)
        else if (if isDir t d then d ++ [baseName s] else d) = [] then (.err none, t)
        else if !isDir t (if isDir t d then d ++ [baseName s] else d).dropLast then (.err none, t)
        else if emptyOntoOf t sn (if isDir t d then d ++ [baseName s] else d) then (.unspecified, t)
        else if !okDstOf t sn (if isDir t d then d ++ [baseName s] else d) then (.err none, t)
        else (.ok (), movedNodes t s (if isDir t d then d ++ [baseName s] else d)) := by
  unfold moveP okDstOf emptyOntoOf movedNodes
  cases get t s <;> rfl

theorem get_movedNodes (t : T) (s dst k : FsPath) :
    get (movedNodes t s dst) k =
      if ¬ s <+: k ∧ k ≠ dst ∧ (get t k).isSome then get t k
      else if dst <+: k then get t (s ++ k.drop dst.length) else none := by
  unfold movedNodes TreeFs.get
  simp only
  have hmoved : alLookup k (reKey s dst id t.nodes) =
      if dst <+: k then alLookup (s ++ k.drop dst.length) t.nodes else none := by
    by_cases h2 : dst <+: k
    · obtain ⟨r, rfl⟩ := h2
      rw [if_pos (List.prefix_append _ _), List.drop_left, alLookup_reKey, Option.map_id, id]
    · rw [if_neg h2]
      exact alLookup_reKey_other _ _ _ _ _ (fun r h => h2 (h ▸ List.prefix_append _ _))
  rw [Lemmas.alLookup_append, moved_eq_reKey, hmoved,
    alLookup_filter_key (fun q => !(isPrefixOrEq s q) && decide (q ≠ dst)) k]
  generalize (if dst <+: k then alLookup (s ++ k.drop dst.length) t.nodes else none) = m
  by_cases hc : ¬ s <+: k ∧ k ≠ dst
  · have hb : (!(isPrefixOrEq s k) && decide (k ≠ dst)) = true := by
      rw [Bool.and_eq_true, Bool.not_eq_true', ← Bool.not_eq_true, isPrefixOrEq_iff]
      exact ⟨hc.1, decide_eq_true hc.2⟩
    rw [if_pos hb]
    cases alLookup k t.nodes with
    | some v => exact (if_pos ⟨hc.1, hc.2, rfl⟩).symm
    | none => exact (if_neg (fun h => nomatch h.2.2)).symm
  · have hb : (!(isPrefixOrEq s k) && decide (k ≠ dst)) = false := by
      rw [Bool.and_eq_false_iff, Bool.not_eq_false', isPrefixOrEq_iff, decide_eq_false_iff_not]
      exact (Classical.not_and_iff_not_or_not.1 hc).imp Classical.not_not.1 id
    rw [hb, if_neg Bool.false_ne_true]
    exact (if_neg (fun h => hc ⟨h.1, h.2.1⟩)).symm

theorem not_prefix_longer {a b : FsPath} (h : b.length < a.length) : ¬ a <+: b := by
  intro hp; have := hp.length_le; omega

theorem snoc_lt_prefix_absurd {a : FsPath} {y : Str} {b : FsPath} (h : (a ++ [y]) <+: b) (hb : b = a) : False := by
  subst hb; exact prefix_snoc_not_self _ _ h

/-! ### `move_p` -/

/-- non-link entries are a file or a directory, not both -/
def FlagsOk (s : State) : Prop := ∀ kv ∈ s.entries, kv.2.link = false → kv.2.file = !kv.2.dir

instance (s : State) : Decidable (FlagsOk s) := by unfold FlagsOk; infer_instance

theorem isDirP_eq (s : State) (p : FsPath) : isDirP s p = isDir (absS s) p := by
  rw [isDir_absS]; rfl

theorem keys_bp {s : State} (hW : KeysWf s) {k : FsPath} (hk : (alLookup k s.entries).isSome) :
    ∀ n ∈ k, BodyPiece n := by
  obtain ⟨kv, hkv, rfl⟩ := List.mem_map.1 ((alLookup_isSome_iff _ _).1 hk)
  exact fun n hn => (hW.1 kv hkv n hn).bodyPiece

theorem kind_file_iff (s : State) (k : FsPath) (e : Entry) :
    (absNode s k e).kind = Kind.file ↔ (e.dir = false ∧ e.link = false) := by
  unfold absNode kindOf
  cases e.link <;> cases e.dir <;> simp

theorem moveLoop_sim {s : State} {sk d dst : FsPath} {e x : Entry} (hP : InvP s) (hF : InvF s) (hW : KeysWf s)
    (hd : ∀ n ∈ d, BodyPiece n) (hs : alLookup sk s.entries = some e) (h0 : sk ≠ [])
    (hdstS : (if isDir (absS s) d then d ++ [baseName sk] else d) = dst) (h1 : dst ≠ sk) (h2 : ¬ sk <+: dst)
    (h3 : dst ≠ []) (h4 : alLookup dst.dropLast s.entries = some x) (hxd : x.dir = true) (hxl : x.link = false)
    (hfree : alLookup dst s.entries = none ∨ ∃ y, alLookup dst s.entries = some y ∧ y.dir = false ∧
      y.file = true ∧ y.link = false ∧ e.file = true ∧ e.link = false) :
    ∃ σf, moveLoop sk d (isDirP s d) (8 * (s.entries.length + 2)) [sk] s = (.ok (), σf) ∧
      TEquiv (absS σf) (movedNodes (absS s) sk dst) := by
  have hskbp := keys_bp hW (k := sk) (by rw [hs]; rfl)
  have hbn : BodyPiece (baseName sk) := hskbp _ (by
    have : baseName sk ∈ sk.dropLast ++ [baseName sk] := List.mem_append_right _ (List.mem_singleton_self _)
    rwa [dropLast_append_baseName h0] at this)
  have hnotdir : ∀ y, alLookup dst s.entries = some y → ¬ (y.dir = true ∧ y.link = false) := by
    intro y hy ⟨g1, _⟩
    rcases hfree with h | ⟨y', hy', g2, _⟩
    · rw [h] at hy; cases hy
    · rw [hy'] at hy; cases hy; rw [g1] at g2; cases g2
  -- nothing lives below the destination, so source and destination subtrees are disjoint
  have hfresh : ∀ r, r ≠ [] → alLookup (dst ++ r) s.entries = none := by
    intro r hr
    cases r with
    | nil => exact absurd rfl hr
    | cons z t =>
      cases hh : alLookup (dst ++ z :: t) s.entries with
      | none => rfl
      | some e' =>
        obtain ⟨pe, fs, g1, g2, g3, _, _⟩ := anc hP t.length t dst z rfl (by rw [hh]; rfl)
        exact absurd ⟨g2, g3⟩ (hnotdir pe g1)
  have hinc : ∀ r r', sk ++ r ≠ dst ++ r' := by
    intro r r' heq
    rcases List.prefix_or_prefix_of_prefix (List.prefix_append dst r') (heq ▸ List.prefix_append sk r) with h | h
    · obtain ⟨t, ht⟩ := h
      cases t with
      | nil => exact h1 (by simpa using ht)
      | cons z t =>
        have := hfresh (z :: t) (List.cons_ne_nil _ _)
        rw [ht, hs] at this; cases this
    · exact h2 h
  have hsetup : MoveSetup s sk d dst (if isDirP s d = true then sk.dropLast else sk) e := by
    refine ⟨h0, h3, hs, preOf_spec fun _ => h0, hinc, fun r hr => ?_, by rw [isDirP_eq]; exact hdstS.symm,
      ⟨x, h4, hxd, hxl⟩, hfree⟩
    · have hrbp := wf_body hr
      rw [isDirP_eq]
      cases hci : isDir (absS s) d with
      | true =>
        rw [hci] at hdstS
        simp only [if_true] at hdstS ⊢
        have : sk ++ r = sk.dropLast ++ (baseName sk :: r) := by
          rw [← List.singleton_append, ← List.append_assoc, dropLast_append_baseName h0]
        rw [this, dstOf_sub hd (q := baseName sk :: r)
          (by intro n hn; rcases List.mem_cons.1 hn with h | h; exact h ▸ hbn; exact hrbp n h) (by simp), ← hdstS]
        simp
      | false =>
        rw [hci] at hdstS
        simp only [Bool.false_eq_true, if_false] at hdstS ⊢
        subst hdstS
        by_cases hr0 : r = []
        · subst hr0; simp only [List.append_nil]; exact dstOf_self hd h3
        · exact dstOf_sub hd hrbp hr0
  obtain ⟨σf, hrun, hcwd, hnone, hdst, hother⟩ := moveLoop_spec hF ⟨hW.1, hW.2.2⟩ hsetup
  refine ⟨σf, hrun, hcwd, fun k => ?_⟩
  unfold movedNodes
  rw [moved_eq_reKey]
  exact (get_absS_nodeAt σf k).trans (nodeAt_moved hinc hfresh hnone hdst hother k)

theorem moveK_sim {s : State} {sk d : FsPath} (hP : InvP s) (hF : InvF s) (hW : KeysWf s) (hFl : FlagsOk s)
    (hd : ∀ n ∈ d, BodyPiece n) :
    Sim (mapVal (fun _ => Val.unit) (moveK sk d) s) (liftR (fun _ => Val.unit) (moveP (absS s) sk d)) := by
  rw [moveP_eq, get_absS]
  unfold mapVal
  cases hs : alLookup sk s.entries with
  | none =>
    rw [moveK_nosrc hs]
    exact sim_err_some (TEquiv.refl _)
  | some e =>
    simp only [Option.map_some]
    by_cases h0 : sk = []
    · rw [if_pos h0]; exact sim_unspec _ _
    rw [if_neg h0]
    have hbn : BodyPiece (baseName sk) := keys_bp hW (k := sk) (by rw [hs]; rfl) _ (by
      have : baseName sk ∈ sk.dropLast ++ [baseName sk] := List.mem_append_right _ (List.mem_singleton_self _)
      rwa [dropLast_append_baseName h0] at this)
    -- the destination key, identically on both sides
    obtain ⟨dst, hdstS⟩ : ∃ dst, (if isDir (absS s) d then d ++ [baseName sk] else d) = dst := ⟨_, rfl⟩
    have hdst : (if isDirP s d then toPath (mash (renderP d) (baseName sk)) else d) = dst := by
      rw [isDirP_eq, ← hdstS]
      cases isDir (absS s) d with
      | true => simp only [if_true]; exact toPath_mash_base hd hbn
      | false => rfl
    rw [hdstS, moveK_apply hs hdst]
    by_cases h1 : sk = dst
    · rw [if_pos h1, if_pos h1.symm]
      exact sim_ok (TEquiv.refl _)
    have h1' : dst ≠ sk := fun h => h1 h.symm
    rw [if_neg h1, if_neg h1']
    by_cases h2 : isPrefixOrEq sk dst = true
    · rw [if_pos h2, if_pos (List.isPrefixOf_iff_prefix.2 ((isPrefixOrEq_iff _ _).1 h2))]
      exact sim_err_none (TEquiv.refl _)
    have h2p : ¬ sk <+: dst := fun h => h2 ((isPrefixOrEq_iff _ _).2 h)
    rw [if_neg h2, if_neg (fun h => h2p (List.isPrefixOf_iff_prefix.1 h))]
    by_cases h3 : dst = []
    · rw [if_pos h3, if_pos h3]
      exact sim_err_none (TEquiv.refl _)
    rw [if_neg h3, if_neg h3, isDir_absS]
    cases h4 : alLookup dst.dropLast s.entries with
    | none =>
      simp only [Bool.not_false, if_true]
      exact sim_err_none (TEquiv.refl _)
    | some x =>
      simp only
      by_cases h5 : (x.dir && !x.link) = true
      case neg =>
        rw [if_neg h5]
        simp only [h5, Bool.not_false, if_true]
        exact sim_err_none (TEquiv.refl _)
      case pos =>
        rw [if_pos h5]
        simp only [h5, Bool.not_true, Bool.false_eq_true, if_false]
        have hx : x.dir = true ∧ x.link = false := by simpa using h5
        have hflagE : e.link = false → e.file = !e.dir := hFl (sk, e) (alLookup_mem hs)
        -- the move goes ahead: the reference accepts it too
        have hgo : (alLookup dst s.entries = none ∨ ∃ y, alLookup dst s.entries = some y ∧ y.dir = false ∧
            y.file = true ∧ y.link = false ∧ e.file = true ∧ e.link = false) →
            Sim (mapVal (fun _ => Val.unit) (moveLoop sk d (isDirP s d) (8 * (s.entries.length + 2)) [sk]) s)
            (liftR (fun _ => Val.unit) (if emptyOntoOf (absS s) (absNode s sk e) dst = true then (.unspecified, absS s)
              else if (!okDstOf (absS s) (absNode s sk e) dst) = true then (.err none, absS s)
              else (.ok (), movedNodes (absS s) sk dst))) := by
          intro hfree
          obtain ⟨σf, hrun, hteq⟩ := moveLoop_sim hP hF hW hd hs h0 hdstS h1' h2p h3 h4 hx.1 hx.2 hfree
          have hspec1 : emptyOntoOf (absS s) (absNode s sk e) dst = false := by
            unfold emptyOntoOf
            rw [get_absS]
            rcases hfree with h6 | ⟨y, h6, _, _, _, g3, g4⟩
            · rw [h6]; rfl
            · have hk : (absNode s sk e).kind ≠ Kind.dir := by
                rw [Ne, kind_dir_iff]
                intro ⟨g1, _⟩
                have hf := hflagE g4
                rw [g1, g3] at hf; cases hf
              rw [h6]
              simp [hk]
          have hspec2 : okDstOf (absS s) (absNode s sk e) dst = true := by
            unfold okDstOf
            rw [get_absS]
            rcases hfree with h6 | ⟨y, h6, g1, _, g2, g3, g4⟩
            · rw [h6]; rfl
            · have k1 : (absNode s sk e).kind = Kind.file := by
                rw [kind_file_iff]
                have hf := hflagE g4
                rw [g3] at hf
                exact ⟨(by cases hh : e.dir with | false => rfl | true => rw [hh] at hf; cases hf), g4⟩
              have k2 : (absNode s dst y).kind = Kind.file := (kind_file_iff s dst y).2 ⟨g1, g2⟩
              rw [h6]
              simp [k1, k2]
          unfold mapVal
          rw [hrun, hspec1, if_neg (by simp), hspec2, if_neg (by simp)]
          exact sim_ok hteq
        cases h6 : alLookup dst s.entries with
        | none => simp only; exact hgo (Or.inl h6)
        | some y =>
          simp only
          have hflagY : y.link = false → y.file = !y.dir := hFl (dst, y) (alLookup_mem h6)
          by_cases h7 : (y.file && !y.link && e.file && !e.link) = true
          · rw [if_pos h7]
            simp only [Bool.and_eq_true, Bool.not_eq_eq_eq_not, Bool.not_true] at h7
            obtain ⟨⟨⟨g1, g2⟩, g3⟩, g4⟩ := h7
            have hyd : y.dir = false := by
              have := hflagY g2
              rw [g1] at this
              cases hh : y.dir with
              | false => rfl
              | true => rw [hh] at this; cases this
            exact hgo (Or.inr ⟨y, h6, hyd, g1, g2, g3, g4⟩)
          · -- the model refuses: the destination exists and it is not file over file
            rw [if_neg h7]
            by_cases hem : emptyOntoOf (absS s) (absNode s sk e) dst = true
            · rw [if_pos hem]; exact sim_unspec _ _
            rw [if_neg hem]
            have hok : okDstOf (absS s) (absNode s sk e) dst = false := by
              unfold okDstOf
              rw [get_absS, h6]
              simp only [Option.map_some]
              cases hk : (decide ((absNode s sk e).kind = Kind.file) && decide ((absNode s dst y).kind = Kind.file)) with
              | false => rfl
              | true =>
                exfalso
                simp only [Bool.and_eq_true, decide_eq_true_eq] at hk
                obtain ⟨k1, k2⟩ := hk
                rw [kind_file_iff] at k1 k2
                have f1 := hflagE k1.2
                have f2 := hflagY k2.2
                rw [k1.1] at f1; rw [k2.1] at f2
                simp [f1, f2, k1.2, k2.2] at h7
            simp only [hok, Bool.not_false, if_true, liftR]
            exact sim_err_none (TEquiv.refl _)

theorem moveP_refines (env : Env) (s : State) (a b : Str) (hI : Inv s) (hW : KeysWf s)
    (_hc : classOf s env (.moveP a b) = "-") (hFl : FlagsOk s) : Refines env s (.moveP a b) := by
  rw [refines_iff]
  intro y hy
  simp only [specStep, Option.some.injEq] at hy
  subst hy
  show Sim (mapVal (fun _ => Val.unit) (moveM env a b) s) _
  rw [moveM_eq]
  apply sim_withPath env s a (fun sk => absM env b >>= fun d => moveK sk d)
  intro a1 _
  apply sim_withPath env s b (moveK (toPath a1))
  intro a2 ha2
  exact moveK_sim (inv_props hI) (invF_of_inv hI) hW hFl (absWith_bp (fun n hn => (hW.2.2 n hn).bodyPiece) ha2)

end Rivia.Lemmas.RefineB
