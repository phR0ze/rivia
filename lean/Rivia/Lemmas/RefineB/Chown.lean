/-
  Rivia.Lemmas.RefineB.Chown — a traversal that updates entries in place against the reference's map over
  the selected nodes (`trav_upd_sim`), and its first instance:
  refinement of `chown` / `chown_b` without follow (C01, group B).
-/
import Rivia.Lemmas.RefineB.Traverse
namespace Rivia.Lemmas.RefineB
open Rivia Rivia.Memfs Rivia.Spec Rivia.Spec.TreeFs M

/-! ### the body of `chown` and `chmod` -/

def travK (o : Opts) (pre step : Entry → State → Outcome Unit × State) (p : FsPath) : M Unit := do
  let s ← get
  let (rootE, snap) ← liftO (entriesOf s p)
  fun st => runIter snap o pre rootE step (travFuel snap) {} st

section
variable {o : Opts} {pre step : Entry → State → Outcome Unit × State} {p : FsPath} {s : State}

theorem travK_err {k : ErrKind} (h : entriesOf s p = .err k) : travK o pre step p s = (.err k, s) := by
  unfold travK
  rw [get_bind, h]; rfl

theorem travK_ok {e : Entry} {snap : Snap} (h : entriesOf s p = .ok (e, snap)) :
    travK o pre step p s = runIter snap o pre e step (travFuel snap) {} s := by
  unfold travK
  rw [get_bind, h]; rfl

theorem travK_sim (hP : InvP s) {t' : T}
    (h : ∀ e snap, alLookup p s.entries = some e → SnapOk s p snap →
      ∃ w', runIter snap o pre e step (travFuel snap) {} s = (.ok (), w') ∧ TEquiv (absS w') t') :
    Sim (mapVal (fun _ => Val.unit) (travK o pre step p) s)
      (liftR (fun _ => Val.unit) (match get (absS s) p with
        | none => (.err (some .doesNotExist), absS s)
        | some _ => (.ok (), t'))) := by
  rw [get_absS]
  unfold mapVal
  cases hp : alLookup p s.entries with
  | none =>
    rw [travK_err (entriesOf_none hp)]
    exact sim_err_some (TEquiv.refl _)
  | some e =>
    obtain ⟨snap, hE, hS⟩ := entriesOf_ok hP hp
    obtain ⟨w', h1, h2⟩ := h e snap hp hS
    rw [travK_ok hE, h1]
    exact sim_ok h2

end

/-! ### which keys the traversal visits -/

theorem isDir_absS (s : State) (p : FsPath) :
    isDir (absS s) p = match alLookup p s.entries with | some e => e.dir && !e.link | none => false := by
  unfold isDir
  rw [get_absS]
  cases alLookup p s.entries with
  | none => rfl
  | some e =>
    simp only [Option.map_some]
    have := kind_dir_iff s p e
    cases hd : e.dir <;> cases hl : e.link <;> simp_all

theorem selB_true_iff {s : State} (hP : InvP s) {p : FsPath} {k : FsPath} (hk : (alLookup k s.entries).isSome) :
    selB (absS s) p true k = true ↔ p <+: k := by
  unfold selB
  simp only [Bool.true_and, Bool.or_eq_true, decide_eq_true_eq, Bool.and_eq_true]
  constructor
  · intro h
    rcases h with h | h
    · rw [h]; exact List.prefix_refl _
    · exact ((isProperPrefix_iff _ _).1 h.1).1
  · intro hpk
    by_cases hkp : k = p
    · exact Or.inl hkp
    · right
      obtain ⟨t, ht⟩ := hpk
      cases t with
      | nil => simp at ht; exact absurd ht.symm hkp
      | cons n r =>
        obtain ⟨pe, fs, g1, g2, g3, _, _⟩ := anc hP r.length r p n rfl (by rw [ht]; exact hk)
        refine ⟨(isProperPrefix_iff _ _).2 ⟨⟨n :: r, ht⟩, by rw [← ht]; simp⟩, ?_⟩
        rw [isDir_absS, g1]; simp [g2, g3]

/-- `usize::MAX` components: the traversal's depth limit is never reached -/
def DepthOk (s : State) : Prop := ∀ kv ∈ s.entries, kv.1.length < 2 ^ 64 - 1

instance (s : State) : Decidable (DepthOk s) := by unfold DepthOk; infer_instance

theorem DepthOk.deep {s : State} (h : DepthOk s) {k : FsPath} (hk : (alLookup k s.entries).isSome) :
    k.length < 2 ^ 64 - 1 := by
  obtain ⟨kv, hkv, rfl⟩ := List.mem_map.1 ((alLookup_isSome_iff _ _).1 hk)
  exact h kv hkv

/-- the `pre_op`s and consumer steps of the traversal `chown` / `chmod` run: unbounded, or of depth 0;
    the consumer sees exactly the live keys the reference selects -/
theorem trav_acts {s : State} {p : FsPath} {e : Entry} {snap : Snap} {o : Opts} (hP : InvP s)
    (hp : alLookup p s.entries = some e) (hS : SnapOk s p snap) (rec : Bool)
    (hrec : rec = true → WalkCtx s p snap o) (hflat : rec = false → Plain o ∧ o.maxDepth = 0)
    (pre : Entry → State → Outcome Unit × State) (gPre : Entry → State → State)
    (hpre : ∀ x w, pre x w = (.ok (), gPre x w)) (gStep : Entry → State → State)
    (stepF : Entry → State → Outcome Unit × State) (hstep : ∀ x w, stepF x w = (.ok (), gStep x w)) :
    ∃ acts : List (Bool × Entry),
      runIter snap o pre e stepF (travFuel snap) {} s = (.ok (), acts.foldl (cfAct gPre gStep) s) ∧
      (∀ a ∈ acts, alLookup a.2.path s.entries = some a.2 ∧ selB (absS s) p rec a.2.path = true) ∧
      ∀ k, (alLookup k s.entries).isSome →
        (selB (absS s) p rec k = true ↔ ∃ a ∈ acts, a.1 = true ∧ a.2.path = k) := by
  have hpath : e.path = p := hP.pathField p e hp
  cases rec with
  | true =>
    obtain ⟨acts, h1, h2, h3⟩ := runIter_walk pre gPre hpre gStep stepF hstep (hrec rfl) hp (travFuel snap)
      (travFuel_ge3 hP hS) s
    refine ⟨acts, h1, fun a ha => ?_, fun k hk => ?_⟩
    · have := h2 a ha
      exact ⟨this.1, (selB_true_iff hP (by rw [this.1]; rfl)).2 this.2⟩
    · rw [selB_true_iff hP hk, ← h3 k]
      exact ⟨fun h => ⟨h, hk⟩, fun h => h.1⟩
  | false =>
    refine ⟨[(true, e)], ?_, ?_, ?_⟩
    · rw [runIter_flat pre gStep stepF hstep (hflat rfl).1 (hflat rfl).2 e (travFuel snap)
        (Nat.le_trans (Nat.le_add_left 3 _) (travFuel_ge3 hP hS)) s]
      rfl
    · intro a ha
      rw [List.mem_singleton.1 ha]
      simp only [hpath, hp, selB, decide_true, Bool.true_or, and_self]
    · intro k _
      simp only [selB, Bool.false_and, Bool.or_false, decide_eq_true_eq, List.mem_singleton, exists_eq_left, true_and,
        hpath]
      exact eq_comm

/-! ### updating entries in place -/

/-- apply `f` to the live entry at `k` (if there is one) -/
def updAt (f : Entry → Entry) (k : FsPath) (w : State) : State :=
  match alLookup k w.entries with
  | some e => { w with entries := alInsert k (f e) w.entries }
  | none => w

theorem lookup_updAt (f : Entry → Entry) (a : FsPath) (w : State) (k : FsPath) :
    alLookup k (updAt f a w).entries = if k = a then (alLookup k w.entries).map f else alLookup k w.entries := by
  unfold updAt
  cases ha : alLookup a w.entries with
  | none =>
    simp only
    split
    · next h => subst h; rw [ha]; rfl
    · rfl
  | some e =>
    simp only [alLookup_alInsert]
    by_cases h : k = a
    · subst h; simp [ha]
    · have : ¬ a = k := fun e => h e.symm
      simp [h, this]

theorem updAt_files (f : Entry → Entry) (a : FsPath) (w : State) :
    (updAt f a w).files = w.files ∧ (updAt f a w).cwd = w.cwd := by
  unfold updAt; split <;> exact ⟨rfl, rfl⟩

/-- applying `T k` twice is applying it once, so only whether a key is written matters -/
theorem upd_fold {α : Type} (key : α → FsPath) (wr : α → Bool) (T : FsPath → Entry → Entry)
    (hT : ∀ k e, T k (T k e) = T k e) (step : State → α → State) : ∀ (acts : List α) (w : State),
    (∀ a ∈ acts, ∀ w, step w a = if wr a then updAt (T (key a)) (key a) w else w) →
    (acts.foldl step w).files = w.files ∧ (acts.foldl step w).cwd = w.cwd ∧
    ∀ k, alLookup k (acts.foldl step w).entries =
      if acts.any (fun a => wr a && decide (key a = k)) then (alLookup k w.entries).map (T k)
      else alLookup k w.entries := by
  intro acts
  induction acts with
  | nil => intro w _; simp
  | cons a acts ih =>
    intro w hs
    obtain ⟨i1, i2, i3⟩ := ih (step w a) (fun b hb => hs b (List.mem_cons_of_mem _ hb))
    have ha := hs a List.mem_cons_self w
    simp only [List.foldl_cons, List.any_cons]
    rcases Bool.eq_false_or_eq_true (wr a) with hw | hw
    · rw [hw, if_pos rfl] at ha
      rw [ha] at i1 i2 i3 ⊢
      obtain ⟨f1, f2⟩ := updAt_files (T (key a)) (key a) w
      refine ⟨i1.trans f1, i2.trans f2, fun k => ?_⟩
      rw [i3 k, lookup_updAt]
      by_cases hk : k = key a
      · subst hk
        simp only [hw, decide_true, Bool.and_self, Bool.true_or, if_true]
        split
        · cases alLookup (key a) w.entries with
          | none => rfl
          | some e => simp only [Option.map_some, hT]
        · rfl
      · have : ¬ key a = k := fun e => hk e.symm
        simp only [this, decide_false, Bool.and_false, Bool.false_or, hk, if_false]
    · rw [hw, if_neg (by simp)] at ha
      rw [ha] at i1 i2 i3 ⊢
      exact ⟨i1, i2, fun k => by rw [i3 k]; simp only [hw, Bool.false_and, Bool.false_or]⟩

theorem absNode_files_congr {s s' : State} (h : s'.files = s.files) (k : FsPath) (e : Entry) :
    absNode s' k e = absNode s k e := by
  unfold absNode; rw [h]

theorem upd_tequiv {s w' : State} {sel touched : FsPath → Bool} {nf : Node → Node} {T : FsPath → Entry → Entry}
    (hf : w'.files = s.files) (hc : w'.cwd = s.cwd)
    (hl : ∀ k, alLookup k w'.entries =
      if touched k then (alLookup k s.entries).map (T k) else alLookup k s.entries)
    (hn : ∀ k x, alLookup k s.entries = some x →
      absNode s k (if touched k then T k x else x) = if sel k then nf (absNode s k x) else absNode s k x) :
    TEquiv (absS w')
      { absS s with nodes := (absS s).nodes.map (fun kv => if sel kv.1 then (kv.1, nf kv.2) else kv) } := by
  refine ⟨hc, fun k => ?_⟩
  rw [get_map_if, get_absS, get_absS, hl k]
  cases hk : alLookup k s.entries with
  | none => cases touched k <;> rfl
  | some x =>
    have := hn k x hk
    cases ht : touched k <;> rw [ht] at this
    · simp only [Bool.false_eq_true, if_false, Option.map_some, absNode_files_congr hf] at this ⊢
      exact congrArg some this
    · simp only [if_true, Option.map_some, absNode_files_congr hf] at this ⊢
      exact congrArg some this

/-- the update a traversal applies at `k`: what its actions prescribe for the live entry there -/
def updOf (s : State) (F : Entry → Entry → Entry) (k : FsPath) : Entry → Entry :=
  match alLookup k s.entries with | some x => F x | none => id

theorem updOf_live {s : State} {F : Entry → Entry → Entry} {k : FsPath} {x : Entry}
    (h : alLookup k s.entries = some x) : updOf s F k = F x := by
  unfold updOf; rw [h]

/-- A traversal whose `pre_op` (when `wp`) and consumer (when `ws`) apply `F x` at the key of the entry `x`
    they are handed refines the reference's map of `nf` over the selected nodes, provided a write is `nf` on
    the node and `nf` does nothing to a node the consumer leaves alone. -/
theorem trav_upd_sim {s : State} {p : FsPath} {o : Opts} (hP : InvP s) (rec : Bool)
    (hrec : ∀ snap, SnapOk s p snap → rec = true → WalkCtx s p snap o)
    (hflat : rec = false → Plain o ∧ o.maxDepth = 0)
    {pre step : Entry → State → Outcome Unit × State} (wp ws : Entry → Bool) (F : Entry → Entry → Entry)
    (hF : ∀ x e, F x (F x e) = F x e)
    (hpre : ∀ x w, pre x w = (.ok (), if wp x then updAt (F x) x.path w else w))
    (hstep : ∀ x w, step x w = (.ok (), if ws x then updAt (F x) x.path w else w))
    {nf : Node → Node}
    (hwr : ∀ k x, alLookup k s.entries = some x → (wp x || ws x) = true →
      absNode s k (F x x) = nf (absNode s k x))
    (hskip : ∀ k x, alLookup k s.entries = some x → ws x = false → nf (absNode s k x) = absNode s k x) :
    Sim (mapVal (fun _ => Val.unit) (travK o pre step p) s)
      (liftR (fun _ => Val.unit) (match get (absS s) p with
        | none => (.err (some .doesNotExist), absS s)
        | some _ => (.ok (), { absS s with nodes := (absS s).nodes.map (fun kv =>
            if selB (absS s) p rec kv.1 then (kv.1, nf kv.2) else kv) }))) := by
  refine travK_sim hP (fun e snap hp hS => ?_)
  obtain ⟨acts, h1, h2, h3⟩ := trav_acts hP hp hS rec (hrec snap hS) hflat pre _ hpre _ step hstep
  obtain ⟨f1, f2, f3⟩ := upd_fold (fun a : Bool × Entry => a.2.path) (fun a => if a.1 then ws a.2 else wp a.2)
    (updOf s F) (fun k e => by
      cases h : alLookup k s.entries with
      | none => unfold updOf; rw [h]; rfl
      | some x => rw [updOf_live h]; exact hF x e)
    (cfAct (fun x w => if wp x then updAt (F x) x.path w else w)
      (fun x w => if ws x then updAt (F x) x.path w else w)) acts s
    (fun a ha w => by rw [updOf_live (h2 a ha).1]; unfold cfAct; cases a.1 <;> rfl)
  refine ⟨_, h1, upd_tequiv f1 f2 f3 (fun k x hk => ?_)⟩
  have hact : ∀ a ∈ acts, a.2.path = k → a.2 = x := by
    intro a ha hak
    have := (h2 a ha).1
    rw [hak, hk] at this
    exact (Option.some.inj this).symm
  rw [updOf_live hk]
  cases htouch : acts.any (fun a => (if a.1 then ws a.2 else wp a.2) && decide (a.2.path = k)) with
  | true =>
    obtain ⟨a, ha, hav⟩ := List.any_eq_true.1 htouch
    simp only [Bool.and_eq_true, decide_eq_true_eq] at hav
    have hsel : selB (absS s) p rec k = true := hav.2 ▸ (h2 a ha).2
    rw [if_pos rfl, hsel, if_pos rfl]
    refine hwr k x hk ?_
    rw [← hact a ha hav.2]
    cases ha1 : a.1 <;> simp [ha1] at hav <;> simp [hav.1]
  | false =>
    rw [if_neg (by simp)]
    cases hsel : selB (absS s) p rec k with
    | false => rfl
    | true =>
      -- selected, so the consumer saw it, and did not write
      rw [if_pos rfl]
      obtain ⟨a, ha, ha1, hak⟩ := (h3 k (by rw [hk]; rfl)).1 hsel
      have := List.any_eq_false.1 htouch a ha
      rw [ha1, if_pos rfl, hak, decide_eq_true rfl, Bool.and_true, hact a ha hak] at this
      exact (hskip k x hk (Bool.eq_false_iff.2 this)).symm

/-! ### `chown` -/

def chownStep (c : ChownOpts) : Entry → State → Outcome Unit × State := fun src st =>
  match alLookup src.path st.entries with
  | some e => (.ok (), { st with entries := alInsert src.path (e.setOwner c.uid c.gid) st.entries })
  | none => (.ok (), st)

def chownOpts (c : ChownOpts) : Opts :=
  ({ follow := c.follow } : Opts).setMax (if c.recursive then 2 ^ 64 - 1 else 0)

theorem chownM_eq (env : Env) (path : Str) (c : ChownOpts) :
    chownM env path c = (absM env path >>= travK (chownOpts c) noPre (chownStep c)) := rfl

theorem chownStep_eq (c : ChownOpts) (e : Entry) (w : State) :
    chownStep c e w = (.ok (), updAt (fun x => x.setOwner c.uid c.gid) e.path w) := by
  unfold chownStep updAt
  cases alLookup e.path w.entries <;> rfl

theorem setOwner_idem (e : Entry) (u g : Option Nat) : (e.setOwner u g).setOwner u g = e.setOwner u g := by
  unfold Entry.setOwner
  cases u <;> cases g <;> rfl

theorem chownOpts_trav {s : State} {p : FsPath} {snap : Snap} {c : ChownOpts} (hP : InvP s) (hS : SnapOk s p snap)
    (hf : c.follow = false) (hr : c.recursive = true) (hD : DepthOk s) : TravCtx s p snap (chownOpts c) := by
  refine ⟨hP, hS, ?_, ?_, ?_, ?_, ?_, ?_, ?_⟩ <;> simp only [chownOpts, Opts.setMax, hf, hr, if_true]
  intro k hk
  simp only [Nat.not_lt_zero, if_false]
  exact hD.deep hk

theorem chownOpts_flat {c : ChownOpts} (hf : c.follow = false) (hr : c.recursive = false) : FlatOpts (chownOpts c) := by
  refine ⟨?_, ?_, ?_, ?_, ?_, ?_⟩ <;> simp [chownOpts, Opts.setMax, hf, hr]

theorem absNode_setOwner (s : State) (k : FsPath) (e : Entry) (u g : Option Nat) :
    absNode s k (e.setOwner u g) = { absNode s k e with uid := u.getD (absNode s k e).uid, gid := g.getD (absNode s k e).gid } := rfl

theorem chownK_sim {s : State} {p : FsPath} {c : ChownOpts} (hP : InvP s) (hf : c.follow = false)
    (hD : c.recursive = true → DepthOk s) :
    Sim (mapVal (fun _ => Val.unit) (travK (chownOpts c) noPre (chownStep c) p) s)
      (liftR (fun _ => Val.unit) (chown (absS s) p c.uid c.gid c.recursive)) := by
  rw [chown_eq]
  exact trav_upd_sim hP c.recursive (fun snap hS hr => (chownOpts_trav hP hS hf hr (hD hr)).walk)
    (fun hr => ⟨(chownOpts_flat hf hr).plain, (chownOpts_flat hf hr).maxDepth⟩)
    (fun _ => false) (fun _ => true) (fun _ x => x.setOwner c.uid c.gid) (fun _ x => setOwner_idem x _ _)
    (fun _ _ => rfl) (chownStep_eq c) (fun _ _ _ _ => rfl) (fun _ _ _ h => absurd h (by simp))

theorem chownB_refines (env : Env) (s : State) (p : Str) (c : ChownOpts) (hI : Inv s) (_hW : KeysWf s)
    (_hc : classOf s env (.chownB p c) = "-") (hD : c.follow = false → c.recursive = true → DepthOk s) :
    Refines env s (.chownB p c) := by
  rw [refines_iff]
  intro y hy
  simp only [specStep] at hy
  cases hf : c.follow with
  | true => rw [hf, if_pos rfl] at hy; cases hy
  | false =>
    rw [hf, if_neg (by simp)] at hy
    cases hy
    show Sim (mapVal (fun _ => Val.unit) (chownM env p c) s) _
    rw [chownM_eq]
    apply sim_withPath
    intro a _
    exact chownK_sim (inv_props hI) hf (hD hf)

/-- C01 for `chown`: `chown(p, u, g)` is the recursive `chown_b` that sets both ids -/
theorem chown_refines (env : Env) (s : State) (p : Str) (u g : Nat) (hI : Inv s) (hW : KeysWf s)
    (_hc : classOf s env (.chown p u g) = "-") (hD : DepthOk s) :
    Refines env s (.chown p u g) :=
  chownB_refines env s p { uid := some u, gid := some g } hI hW rfl (fun _ _ => hD)

end Rivia.Lemmas.RefineB
