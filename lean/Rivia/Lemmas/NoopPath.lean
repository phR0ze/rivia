/-
  Rivia.Lemmas.NoopPath — C01 (second sentence) for `move_p`: the states on which it holds (regular
  key names, exclusive `dir`/`file` flags; `Props/C01noop.lean` derives it there from
  `Lemmas.moveM_total`), the reading-back of a rendered key, and the failure of a relocation step on a
  missing path.
-/
import Rivia.Lemmas.Noop
import Rivia.Lemmas.MovedEntry

namespace Rivia.Lemmas.Noop
open Rivia Rivia.Str Rivia.Memfs Rivia.Spec Rivia.Memfs.M

/-- every name of every key and of the working directory is non-empty, slash-free and neither
    `.` nor `..` -/
def KeysWf (s : State) : Prop := (∀ kv ∈ s.entries, ∀ n ∈ kv.1, Wf n) ∧ ∀ n ∈ s.cwd, Wf n

instance (s : State) : Decidable (KeysWf s) := by unfold KeysWf; infer_instance

/-- no entry is flagged both as a directory and as a file -/
def FlagsWf (s : State) : Prop := ∀ kv ∈ s.entries, ¬ (kv.2.dir = true ∧ kv.2.file = true)

instance (s : State) : Decidable (FlagsWf s) := by unfold FlagsWf; infer_instance

theorem toPath_bufOf {ps : List Str} (h : ∀ p ∈ ps, BodyPiece p) : toPath (bufOf true ps) = ps :=
  Rivia.Lemmas.toPath_bufOf h

theorem moveLoop_missing {S dR : FsPath} {ci : Bool} (hS : S ≠ []) {p : FsPath} {W : List FsPath} {σ : State}
    (f : Nat) (he : alLookup p σ.entries = none) :
    ∃ σ', moveLoop S dR ci (f + 1) (p :: W) σ = (.err .doesNotExist, σ') := by
  refine ⟨{ σ with entries := alErase p σ.entries }, ?_⟩
  rw [moveLoop_succ_cons]
  cases ci
  · simp only [Bool.false_eq_true, if_false, mpure_bind_apply, removeEntry_bind_apply, he, fail_apply]
  · simp only [if_true, dirOf, hS, if_false, mpure_bind_apply, removeEntry_bind_apply, he, fail_apply]

end Rivia.Lemmas.Noop
