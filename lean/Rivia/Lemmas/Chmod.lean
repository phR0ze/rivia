/-
  Rivia.Lemmas.Chmod — the symbolic-mode machine `Chmod.symLoop` against the grammar of
  `Spec.ChmodGrammar` (C11).  Each inner loop reads the longest run of its own letters and then
  decides on the next character; `targetLoop_cases`, `groupLoop_cases`, `permsLoop_cases` say what
  it does on arbitrary text, `symLoop_iter_cases` puts them together for one clause.
-/
import Rivia.Model.Chmod
import Rivia.Spec.ChmodGrammar
namespace Rivia.Lemmas
open Rivia Rivia.Chmod Rivia.Spec

/-! ### character classes -/

theorem isTargetCh_iff (c : Char) : isTargetCh c = true ↔ c = 'd' ∨ c = 'f' ∨ c = 'a' := by
  simp [isTargetCh, or_assoc]
theorem isWhoCh_iff (c : Char) : isWhoCh c = true ↔ c = 'u' ∨ c = 'g' ∨ c = 'o' ∨ c = 'a' := by
  simp [isWhoCh, or_assoc]
theorem isOpCh_iff (c : Char) : isOpCh c = true ↔ c = '-' ∨ c = '+' ∨ c = '=' := by
  simp [isOpCh, or_assoc]
theorem isPermCh_iff (c : Char) : isPermCh c = true ↔ c = 'r' ∨ c = 'w' ∨ c = 'x' := by
  simp [isPermCh, or_assoc]

/-- a target letter admits the entry kind -/
def letterOk (k : EKind) (t : Char) : Bool := t = 'a' || (t = 'd' && k.dir) || (t = 'f' && k.file)

theorem appliesTo_eq (c : Clause) (k : EKind) :
    c.appliesTo k = (!k.link && c.targets.all (letterOk k)) := rfl

/-- the accumulator steps of `whoBits` / `permBits` -/
def whoStep (acc : Nat) (c : Char) : Nat :=
  acc ||| (if c = 'u' then 0o700 else if c = 'g' then 0o070 else if c = 'o' then 0o007 else 0o777)
def permStep (acc : Nat) (c : Char) : Nat :=
  acc ||| (if c = 'r' then 0o444 else if c = 'w' then 0o222 else 0o111)

theorem whoBits_eq (w : List Char) : whoBits w = w.foldl whoStep 0 := rfl

theorem exists_span {α} (p : α → Bool) (l : List α) :
    ∃ t rest, l = t ++ rest ∧ (∀ y ∈ t, p y = true) ∧ ∀ c r, rest = c :: r → p c = false := by
  refine ⟨l.takeWhile p, l.dropWhile p, List.takeWhile_append_dropWhile.symm,
    List.all_eq_true.1 List.all_takeWhile, fun c r h => ?_⟩
  have := List.head?_dropWhile_not p l
  rw [h] at this
  exact this

/-! ### the Target loop -/

theorem targetLoop_good (k : EKind) (mode : Nat) (c : Char) (cs : List Char) (hl : k.link = false)
    (hc : isTargetCh c = true ∧ letterOk k c = true) :
    targetLoop k mode (c :: cs) = targetLoop k mode cs := by
  rcases (isTargetCh_iff c).1 hc.1 with rfl | rfl | rfl
  · have : k.dir = true := by simpa [letterOk] using hc.2
    simp [targetLoop, hl, this]
  · have : k.file = true := by simpa [letterOk] using hc.2
    simp [targetLoop, hl, this]
  · simp [targetLoop, hl]

theorem targetLoop_bad (k : EKind) (mode : Nat) (x : Char) (r : List Char) (hl : k.link = false)
    (hx : x = 'd' ∨ x = 'f') (hbad : letterOk k x = false) :
    targetLoop k mode (x :: r) = .skip (skipClause r) := by
  rcases hx with rfl | rfl
  · have : k.dir = false := by simpa [letterOk] using hbad
    simp [targetLoop, hl, this]
  · have : k.file = false := by simpa [letterOk] using hbad
    simp [targetLoop, hl, this]

theorem targetLoop_colon (k : EKind) (mode : Nat) (r : List Char) (hl : k.link = false) :
    targetLoop k mode (':' :: r) = .toGroup r := by
  simp [targetLoop, hl]

theorem targetLoop_other (k : EKind) (mode : Nat) (c : Char) (r : List Char)
    (hc : c ≠ 'd' ∧ c ≠ 'f' ∧ c ≠ 'a' ∧ c ≠ ':') :
    targetLoop k mode (c :: r) = .ret (.err .invalidChmodTarget) := by
  simp only [targetLoop, if_pos hc]

theorem targetLoop_link (k : EKind) (mode : Nat) (c : Char) (r : List Char) (hl : k.link = true)
    (hc : ¬ (c ≠ 'd' ∧ c ≠ 'f' ∧ c ≠ 'a' ∧ c ≠ ':')) :
    targetLoop k mode (c :: r) = .ret (.ok mode) := by
  simp only [targetLoop, if_neg hc, hl, if_true]

theorem targetLoop_append (k : EKind) (mode : Nat) (t rest : List Char) (hl : k.link = false)
    (ht : ∀ y ∈ t, isTargetCh y = true ∧ letterOk k y = true) :
    targetLoop k mode (t ++ rest) = targetLoop k mode rest := by
  induction t with
  | nil => rfl
  | cons y t ih =>
    rw [List.cons_append, targetLoop_good k mode y _ hl (ht y List.mem_cons_self),
      ih fun z hz => ht z (List.mem_cons_of_mem _ hz)]

theorem not_good_cases (k : EKind) (c : Char) (h : (isTargetCh c && letterOk k c) = false) :
    c = ':' ∨ ((c = 'd' ∨ c = 'f') ∧ letterOk k c = false) ∨
      (c ≠ 'd' ∧ c ≠ 'f' ∧ c ≠ 'a' ∧ c ≠ ':') := by
  by_cases hd : c = 'd'
  · subst hd; exact .inr (.inl ⟨.inl rfl, by simpa [isTargetCh] using h⟩)
  by_cases hf : c = 'f'
  · subst hf; exact .inr (.inl ⟨.inr rfl, by simpa [isTargetCh] using h⟩)
  by_cases ha : c = 'a'
  · subst ha; simp [isTargetCh, letterOk] at h
  by_cases hc : c = ':'
  · exact .inl hc
  · exact .inr (.inr ⟨hd, hf, ha, hc⟩)

theorem targetLoop_cases (k : EKind) (mode : Nat) (cs : List Char) :
    (∃ e, targetLoop k mode cs = .ret (.err e)) ∨ targetLoop k mode cs = .ret (.ok mode) ∨
    (k.link = false ∧ ∃ t, (∀ y ∈ t, isTargetCh y = true ∧ letterOk k y = true) ∧
      ((∃ r, cs = t ++ ':' :: r ∧ targetLoop k mode cs = .toGroup r) ∨
       (∃ x r, cs = t ++ x :: r ∧ (x = 'd' ∨ x = 'f') ∧ letterOk k x = false ∧
          targetLoop k mode cs = .skip (skipClause r)))) := by
  cases hl : k.link with
  | true =>
    cases cs with
    | nil => exact .inl ⟨_, rfl⟩
    | cons c r =>
      by_cases hc : c ≠ 'd' ∧ c ≠ 'f' ∧ c ≠ 'a' ∧ c ≠ ':'
      · exact .inl ⟨_, targetLoop_other k mode c r hc⟩
      · exact .inr (.inl (targetLoop_link k mode c r hl hc))
  | false =>
    obtain ⟨t, rest, rfl, ht, hrest⟩ := exists_span (fun y => isTargetCh y && letterOk k y) cs
    have ht' : ∀ y ∈ t, isTargetCh y = true ∧ letterOk k y = true :=
      fun y hy => Bool.and_eq_true _ _ ▸ ht y hy
    rw [targetLoop_append k mode t rest hl ht']
    cases rest with
    | nil => exact .inl ⟨_, rfl⟩
    | cons c r =>
      rcases not_good_cases k c (hrest c r rfl) with rfl | ⟨hx, hbad⟩ | hc
      · exact .inr (.inr ⟨rfl, t, ht', .inl ⟨r, rfl, targetLoop_colon k mode r hl⟩⟩)
      · exact .inr (.inr ⟨rfl, t, ht', .inr ⟨c, r, rfl, hx, hbad, targetLoop_bad k mode c r hl hx hbad⟩⟩)
      · exact .inl ⟨_, targetLoop_other k mode c r hc⟩

/-! ### skipping a clause -/

theorem skipClause_append (a r : List Char) (h : ',' ∉ a) : skipClause (a ++ r) = skipClause r := by
  induction a with
  | nil => rfl
  | cons c a ih =>
    simp only [List.mem_cons, not_or] at h
    have hc : ¬ c = ',' := fun hc => h.1 hc.symm
    simp only [List.cons_append, skipClause, if_neg hc, ih h.2]

theorem skipClause_length_le (r : List Char) : (skipClause r).length ≤ r.length := by
  induction r with
  | nil => exact Nat.le_refl _
  | cons c r ih =>
    simp only [skipClause]
    split
    · simp
    · simp only [List.length_cons]; omega

/-! ### the Group loop -/

theorem groupLoop_who (c : Char) (cs : List Char) (g : Nat) (hc : isWhoCh c = true) :
    groupLoop (c :: cs) g = groupLoop cs (whoStep g c) := by
  rcases (isWhoCh_iff c).1 hc with rfl | rfl | rfl | rfl <;> simp [groupLoop, whoStep]

theorem groupLoop_other (c : Char) (cs : List Char) (g : Nat) (hc : isWhoCh c = false) :
    groupLoop (c :: cs) g =
      if isOpCh c = true then .toPerms c g cs else .ret (.err .invalidChmodGroup) := by
  simp only [isWhoCh, Bool.or_eq_false_iff, decide_eq_false_iff_not] at hc
  simp only [groupLoop, if_neg hc.1.1.1, if_neg hc.1.1.2, if_neg hc.1.2, if_neg hc.2, isOpCh_iff]

theorem groupLoop_append (w rest : List Char) (g : Nat) (hw : ∀ x ∈ w, isWhoCh x = true) :
    groupLoop (w ++ rest) g = groupLoop rest (w.foldl whoStep g) := by
  induction w generalizing g with
  | nil => rfl
  | cons x w ih =>
    rw [List.cons_append, groupLoop_who x _ g (hw x List.mem_cons_self), List.foldl_cons,
      ih _ fun y hy => hw y (List.mem_cons_of_mem _ hy)]

theorem groupLoop_cases (cs : List Char) (g : Nat) :
    (∃ e, groupLoop cs g = .ret (.err e)) ∨
    ∃ w op r, cs = w ++ op :: r ∧ (∀ x ∈ w, isWhoCh x = true) ∧ isOpCh op = true ∧
      groupLoop cs g = .toPerms op (w.foldl whoStep g) r := by
  obtain ⟨w, rest, rfl, hw, hrest⟩ := exists_span isWhoCh cs
  rw [groupLoop_append w rest g hw]
  cases rest with
  | nil => exact .inl ⟨_, rfl⟩
  | cons c r =>
    rw [groupLoop_other c r _ (hrest c r rfl)]
    by_cases ho : isOpCh c = true
    · exact .inr ⟨w, c, r, rfl, hw, ho, if_pos ho⟩
    · exact .inl ⟨_, if_neg ho⟩

/-! ### the Perms loop -/

theorem permsLoop_perm (c : Char) (cs : List Char) (p : Nat) (hc : isPermCh c = true) :
    permsLoop (c :: cs) p = permsLoop cs (permStep p c) := by
  rcases (isPermCh_iff c).1 hc with rfl | rfl | rfl <;> simp [permsLoop, permStep]

theorem permsLoop_other (c : Char) (cs : List Char) (p : Nat) (hc : isPermCh c = false) :
    permsLoop (c :: cs) p =
      if c = ',' then .done p cs else .ret (.err .invalidChmodPermissions) := by
  simp only [isPermCh, Bool.or_eq_false_iff, decide_eq_false_iff_not] at hc
  simp only [permsLoop, if_neg hc.1.1, if_neg hc.1.2, if_neg hc.2]

theorem permsLoop_append (ps rest : List Char) (p : Nat) (hp : ∀ x ∈ ps, isPermCh x = true) :
    permsLoop (ps ++ rest) p = permsLoop rest (ps.foldl permStep p) := by
  induction ps generalizing p with
  | nil => rfl
  | cons x ps ih =>
    rw [List.cons_append, permsLoop_perm x _ p (hp x List.mem_cons_self), List.foldl_cons,
      ih _ fun y hy => hp y (List.mem_cons_of_mem _ hy)]

theorem permsLoop_cases (cs : List Char) (p : Nat) :
    (∃ e, permsLoop cs p = .ret (.err e)) ∨
    ∃ ps rest, (∀ x ∈ ps, isPermCh x = true) ∧ ((cs = ps ∧ rest = []) ∨ cs = ps ++ ',' :: rest) ∧
      permsLoop cs p = .done (ps.foldl permStep p) rest := by
  obtain ⟨ps, rest, rfl, hp, hrest⟩ := exists_span isPermCh cs
  rw [permsLoop_append ps rest p hp]
  cases rest with
  | nil => exact .inr ⟨ps, [], hp, .inl ⟨List.append_nil _, rfl⟩, rfl⟩
  | cons c r =>
    rw [permsLoop_other c r _ (hrest c r rfl)]
    by_cases hc : c = ','
    · subst hc; exact .inr ⟨ps, r, hp, .inr rfl, if_pos rfl⟩
    · exact .inl ⟨_, if_neg hc⟩

/-- after a clause the text ends or goes on behind a comma -/
def ClauseEnd (tail : List Char) : Prop := tail = [] ∨ ∃ s', tail = ',' :: s'

theorem skipClause_clauseEnd (a tail : List Char) (h : ',' ∉ a) (ht : ClauseEnd tail) :
    skipClause (a ++ tail) = tail.tail := by
  rw [skipClause_append a tail h]
  rcases ht with rfl | ⟨s', rfl⟩
  · rfl
  · simp [skipClause]

theorem permsLoop_clauseEnd (ps tail : List Char) (p : Nat) (hp : ∀ x ∈ ps, isPermCh x = true)
    (ht : ClauseEnd tail) : permsLoop (ps ++ tail) p = .done (ps.foldl permStep p) tail.tail := by
  rw [permsLoop_append ps tail p hp]
  rcases ht with rfl | ⟨s', rfl⟩
  · rfl
  · simp [permsLoop]

/-! ### the accumulated bits -/

theorem foldl_or_ne_zero (f : Char → Nat) (hf : ∀ c, f c ≠ 0) (l : List Char) (g : Nat)
    (h : g ≠ 0 ∨ l ≠ []) : l.foldl (fun acc c => acc ||| f c) g ≠ 0 := by
  induction l generalizing g with
  | nil => exact h.elim id (absurd rfl)
  | cons x l ih =>
    refine ih _ (.inl ?_)
    rw [ne_eq, Nat.or_eq_zero_iff]
    exact fun h' => hf x h'.2

theorem whoBits_ne_zero (w : List Char) (hw : w ≠ []) : whoBits w ≠ 0 :=
  foldl_or_ne_zero _ (fun c => by (repeat' split) <;> decide) w 0 (.inr hw)

theorem permBits_ne_zero (p : List Char) (hp : p ≠ []) : permBits p ≠ 0 :=
  foldl_or_ne_zero _ (fun c => by (repeat' split) <;> decide) p 0 (.inr hp)

/-! ### the grammar: shape of a parsed clause, of a parsed expression -/

theorem parseClause_some {s : List Char} {c : Clause} (h : parseClause s = some c) :
    s = c.targets ++ ':' :: (c.who ++ c.op :: c.perms) ∧
    c.targets ≠ [] ∧ (∀ x ∈ c.targets, isTargetCh x = true) ∧
    c.who ≠ [] ∧ (∀ x ∈ c.who, isWhoCh x = true) ∧ isOpCh c.op = true ∧
    c.perms ≠ [] ∧ (∀ x ∈ c.perms, isPermCh x = true) := by
  unfold parseClause at h
  split at h
  · rename_i r1 h1
    split at h
    · rename_i o r2 h2
      dsimp only at h
      split at h
      · rename_i hc
        obtain ⟨ht, hw, ho, hr, hall⟩ := hc
        cases h
        refine ⟨?_, ht, ?_, hw, ?_, ho, hr, ?_⟩
        · show s = s.takeWhile isTargetCh ++ ':' :: (r1.takeWhile isWhoCh ++ o :: r2)
          rw [← h2, List.takeWhile_append_dropWhile, ← h1, List.takeWhile_append_dropWhile]
        · exact List.all_eq_true.1 List.all_takeWhile
        · exact List.all_eq_true.1 List.all_takeWhile
        · exact List.all_eq_true.1 hall
      · cases h
    · cases h
  · cases h

theorem parseClause_build (t w p : List Char) (op : Char)
    (ht : t ≠ []) (htc : ∀ x ∈ t, isTargetCh x = true)
    (hw : w ≠ []) (hwc : ∀ x ∈ w, isWhoCh x = true) (ho : isOpCh op = true)
    (hp : p ≠ []) (hpc : ∀ x ∈ p, isPermCh x = true) :
    parseClause (t ++ ':' :: (w ++ op :: p)) = some ⟨t, w, op, p⟩ := by
  have h1 : (t ++ ':' :: (w ++ op :: p)).takeWhile isTargetCh = t := by
    rw [List.takeWhile_append_of_pos htc, List.takeWhile_cons_of_neg (by decide), List.append_nil]
  have h2 : (t ++ ':' :: (w ++ op :: p)).dropWhile isTargetCh = ':' :: (w ++ op :: p) := by
    rw [List.dropWhile_append_of_pos htc, List.dropWhile_cons_of_neg (by decide)]
  have hop : ¬ isWhoCh op = true := by
    rcases (isOpCh_iff op).1 ho with rfl | rfl | rfl <;> decide
  have h3 : (w ++ op :: p).takeWhile isWhoCh = w := by
    rw [List.takeWhile_append_of_pos hwc, List.takeWhile_cons_of_neg hop, List.append_nil]
  have h4 : (w ++ op :: p).dropWhile isWhoCh = op :: p := by
    rw [List.dropWhile_append_of_pos hwc, List.dropWhile_cons_of_neg hop]
  unfold parseClause
  simp only [h1, h2, h3, h4]
  rw [if_pos ⟨ht, hw, ho, hp, List.all_eq_true.2 hpc⟩]

theorem comma_not_mem_clause (t w ps : List Char) (op : Char)
    (htc : ∀ x ∈ t, isTargetCh x = true) (hwc : ∀ x ∈ w, isWhoCh x = true)
    (ho : isOpCh op = true) (hpc : ∀ x ∈ ps, isPermCh x = true) :
    ',' ∉ t ++ ':' :: (w ++ op :: ps) := by
  simp only [List.mem_append, List.mem_cons, not_or]
  refine ⟨fun h => ?_, by decide, fun h => ?_, fun h => ?_, fun h => ?_⟩
  · exact absurd (htc _ h) (by decide)
  · exact absurd (hwc _ h) (by decide)
  · subst h; exact absurd ho (by decide)
  · exact absurd (hpc _ h) (by decide)

theorem splitComma_no_comma (seg : List Char) (h : ',' ∉ seg) : splitComma seg = [seg] := by
  induction seg with
  | nil => rfl
  | cons c seg ih =>
    simp only [List.mem_cons, not_or] at h
    have hc : ¬ c = ',' := fun hc => h.1 hc.symm
    simp only [splitComma, if_neg hc, ih h.2]

theorem splitComma_append_comma (seg r : List Char) (h : ',' ∉ seg) :
    splitComma (seg ++ ',' :: r) = seg :: splitComma r := by
  induction seg with
  | nil => simp [splitComma]
  | cons c seg ih =>
    simp only [List.mem_cons, not_or] at h
    have hc : ¬ c = ',' := fun hc => h.1 hc.symm
    simp only [List.cons_append, splitComma, if_neg hc, ih h.2]

theorem parseExpr_shape {s : List Char} {cs : List Clause} (h : parseExpr s = some cs) :
    ∃ c cs' seg tail, cs = c :: cs' ∧ parseClause seg = some c ∧ s = seg ++ tail ∧
      ((cs' = [] ∧ tail = []) ∨ ∃ s', tail = ',' :: s' ∧ parseExpr s' = some cs') := by
  obtain ⟨seg, tail, rfl, hseg, htail⟩ := exists_span (fun c => !decide (c = ',')) s
  have hcomma : ',' ∉ seg := fun hm => by simpa using hseg _ hm
  unfold parseExpr at h
  cases tail with
  | nil =>
    rw [List.append_nil, splitComma_no_comma seg hcomma, List.mapM_cons, List.mapM_nil] at h
    cases hc : parseClause seg with
    | none => simp [hc] at h
    | some c =>
      simp only [hc, Option.pure_def, Option.bind_eq_bind, Option.bind_some, Option.some.injEq] at h
      exact ⟨c, [], seg, [], h.symm, hc, rfl, .inl ⟨rfl, rfl⟩⟩
  | cons x s' =>
    obtain rfl : x = ',' := by simpa using htail x s' rfl
    rw [splitComma_append_comma seg s' hcomma, List.mapM_cons] at h
    cases hc : parseClause seg with
    | none => simp [hc] at h
    | some c =>
      cases hcs : (splitComma s').mapM parseClause with
      | none => simp [hc, hcs] at h
      | some cs' =>
        simp only [hc, hcs, Option.pure_def, Option.bind_eq_bind, Option.bind_some, Option.some.injEq] at h
        exact ⟨c, cs', seg, _, h.symm, hc, rfl, .inr ⟨s', rfl, hcs⟩⟩

/-! ### one iteration of the outer loop -/

theorem symLoop_nil (k : EKind) (f mode : Nat) : symLoop k f mode [] = .ok mode := by
  cases f <;> rfl

theorem symLoop_ret (k : EKind) (f mode : Nat) (cs : List Char) (o : Outcome Nat)
    (hcs : cs ≠ []) (hT : targetLoop k mode cs = .ret o) : symLoop k (f + 1) mode cs = o := by
  cases cs with
  | nil => exact absurd rfl hcs
  | cons c cs => simp only [symLoop, hT]

theorem symLoop_skip (k : EKind) (f mode : Nat) (cs R : List Char)
    (hcs : cs ≠ []) (hT : targetLoop k mode cs = .skip R) :
    symLoop k (f + 1) mode cs = symLoop k f mode R := by
  cases cs with
  | nil => exact absurd rfl hcs
  | cons c cs => simp only [symLoop, hT]

theorem symLoop_step (k : EKind) (f mode : Nat) (cs R R' rest' : List Char) (op : Char) (g p : Nat)
    (hcs : cs ≠ []) (hT : targetLoop k mode cs = .toGroup R) (hR : R ≠ [])
    (hG : groupLoop R 0 = .toPerms op g R') (hg : g ≠ 0) (hR' : R' ≠ [])
    (hP : permsLoop R' 0 = .done p rest') (hp : p ≠ 0) :
    symLoop k (f + 1) mode cs = symLoop k f (applyOp op g p mode) rest' := by
  cases cs with
  | nil => exact absurd rfl hcs
  | cons c cs =>
    cases R with
    | nil => exact absurd rfl hR
    | cons x R =>
      cases R' with
      | nil => exact absurd rfl hR'
      | cons y R' => simp only [symLoop, hT, hG, hP, if_neg hg, if_neg hp]

/-! ### well-formed expressions -/

theorem applyExpr_cons (k : EKind) (c : Clause) (l : List Clause) (m : Nat) :
    applyExpr k (c :: l) m = applyExpr k l (if c.appliesTo k then c.apply m else m) := by
  simp only [applyExpr, List.foldl_cons]

theorem applyExpr_link (k : EKind) (cs : List Clause) (m : Nat) (hl : k.link = true) :
    applyExpr k cs m = m := by
  induction cs with
  | nil => rfl
  | cons c cs ih =>
    have : c.appliesTo k = false := by simp [Clause.appliesTo, hl]
    rw [applyExpr_cons, this]; exact ih

/-- one iteration on a text that begins with a well-formed clause: a link returns at once; else the
    clause is applied or, when a target letter is for another kind, skipped, and the loop goes on
    behind the comma -/
theorem symLoop_clause (k : EKind) (f mode : Nat) (seg tail : List Char) (c : Clause)
    (hc : parseClause seg = some c) (hend : ClauseEnd tail) :
    symLoop k (f + 1) mode (seg ++ tail) =
      if k.link = true then .ok mode
      else symLoop k f (if c.appliesTo k = true then c.apply mode else mode) tail.tail := by
  obtain ⟨rfl, ht, htc, hw, hwc, ho, hpn, hpc⟩ := parseClause_some hc
  obtain ⟨x, t, hx⟩ : ∃ x t, c.targets = x :: t := by
    cases hc' : c.targets with
    | nil => exact absurd hc' ht
    | cons x t => exact ⟨x, t, rfl⟩
  have hsne : c.targets ++ ':' :: (c.who ++ c.op :: (c.perms ++ tail)) ≠ [] := by simp [hx]
  rw [List.append_assoc, List.cons_append, List.append_assoc, List.cons_append]
  by_cases hl : k.link = true
  · rw [if_pos hl]
    refine symLoop_ret k f mode _ _ hsne ?_
    rw [hx]
    exact targetLoop_link k mode x _ hl (by
      rcases (isTargetCh_iff x).1 (htc x (by simp [hx])) with rfl | rfl | rfl <;> decide)
  rw [if_neg hl]
  have hl : k.link = false := by simpa using hl
  obtain ⟨t1, t2, ht12, hok, hbad⟩ := exists_span (letterOk k) c.targets
  have ht1 : ∀ y ∈ t1, isTargetCh y = true ∧ letterOk k y = true :=
    fun y hy => ⟨htc y (by simp [ht12, hy]), hok y hy⟩
  cases t2 with
  | nil =>
    -- every target letter admits the entry: the clause is executed
    rw [List.append_nil] at ht12
    subst ht12
    have happ : c.appliesTo k = true := by
      rw [appliesTo_eq, hl]; exact List.all_eq_true.2 hok
    rw [happ, if_pos rfl]
    refine symLoop_step k f mode _ (c.who ++ c.op :: (c.perms ++ tail)) (c.perms ++ tail) tail.tail
      c.op (whoBits c.who) (permBits c.perms) hsne ?_ (by simp) ?_ (whoBits_ne_zero _ hw) (by simp [hpn]) (permsLoop_clauseEnd _ _ _ hpc hend)
      (permBits_ne_zero _ hpn)
    · rw [targetLoop_append k mode _ _ hl ht1, targetLoop_colon k mode _ hl]
    · have hop : isWhoCh c.op = false := by
        rcases (isOpCh_iff c.op).1 ho with h | h | h <;> rw [h] <;> decide
      rw [groupLoop_append _ _ _ hwc, groupLoop_other _ _ _ hop, if_pos ho]
      rfl
  | cons y t2 =>
    -- a target letter for another kind: the rest of the clause is skipped unread
    have hy := hbad y t2 rfl
    have happ : c.appliesTo k = false := by
      rw [appliesTo_eq, hl, ht12]; simp [hy]
    have hyt : y = 'd' ∨ y = 'f' := by
      rcases (isTargetCh_iff y).1 (htc y (by simp [ht12])) with h | h | h
      · exact .inl h
      · exact .inr h
      · rw [h] at hy; simp [letterOk] at hy
    have hcomma : ',' ∉ t2 ++ ':' :: (c.who ++ c.op :: c.perms) :=
      comma_not_mem_clause t2 c.who c.perms c.op
        (fun z hz => htc z (by simp [ht12, hz])) hwc ho hpc
    rw [happ, if_neg (by simp)]
    refine symLoop_skip k f mode _ _ hsne ?_
    rw [ht12, List.append_assoc, targetLoop_append k mode _ _ hl ht1, List.cons_append,
      targetLoop_bad k mode y _ hl hyt hy, ← skipClause_clauseEnd _ tail hcomma hend]
    simp only [List.append_assoc, List.cons_append]

/-- the code's meaning of a well-formed expression is the grammar's: every clause that applies to
    the entry is applied, in order; the others are skipped -/
theorem symLoop_parsed (k : EKind) (cs : List Clause) :
    ∀ (sym : List Char) (fuel mode : Nat), parseExpr sym = some cs → sym.length < fuel →
      symLoop k fuel mode sym = .ok (applyExpr k cs mode) := by
  induction cs with
  | nil =>
    intro sym fuel mode hp _
    obtain ⟨c, cs', seg, tail, h, _⟩ := parseExpr_shape hp
    cases h
  | cons c0 cs0 ih =>
    intro sym fuel mode hp hf
    obtain ⟨c, cs', seg, tail, h, hc, rfl, htail⟩ := parseExpr_shape hp
    cases h
    obtain ⟨f, rfl⟩ : ∃ f, fuel = f + 1 := ⟨fuel - 1, by omega⟩
    rw [symLoop_clause k f mode seg tail c0 hc (htail.imp (·.2) fun ⟨s', h, _⟩ => ⟨s', h⟩)]
    split
    · rename_i hl; rw [applyExpr_link k _ mode hl]
    · rw [applyExpr_cons]
      rcases htail with ⟨rfl, rfl⟩ | ⟨s', rfl, hs'⟩
      · exact symLoop_nil k f _
      · refine ih s' f _ hs' ?_
        simp only [List.length_append, List.length_cons] at hf
        omega

theorem parseExpr_ne_nil {s : List Char} {cs : List Clause} (h : parseExpr s = some cs) : s ≠ [] := by
  intro hs; subst hs
  have : parseExpr [] = none := by decide
  rw [this] at h; cases h

theorem mode_parsed (k : EKind) (cur : Nat) (sym : List Char) (cs : List Clause)
    (hp : parseExpr sym = some cs) :
    Chmod.mode k cur 0 sym = .ok (applyExpr k cs cur) := by
  have hne : sym ≠ [] := by
    rintro rfl
    rw [show parseExpr [] = none by decide] at hp
    cases hp
  unfold Chmod.mode
  rw [if_neg (by simp), if_neg hne]
  exact symLoop_parsed k cs sym _ cur hp (Nat.lt_succ_self _)

/-! ### bit facts: permission masks only touch the low 9 bits -/

theorem shift9_small (x : Nat) (h : x ≤ 511) : x >>> 9 = 0 := by
  rw [Nat.shiftRight_eq_div_pow]; omega

theorem not32_shift9 (x : Nat) (h : x ≤ 511) : not32 x >>> 9 = 2 ^ 23 - 1 := by
  unfold not32
  rw [Nat.shiftRight_xor_distrib, shift9_small x h, Nat.xor_zero]
  decide

theorem not32_lt (x : Nat) (h : x ≤ 511) : not32 x < 2 ^ 32 := by
  unfold not32
  exact Nat.xor_lt_two_pow (by decide) (by omega)

theorem and_mask23 (a : Nat) (h : a < 2 ^ 32) : a >>> 9 &&& (2 ^ 23 - 1) = a >>> 9 := by
  rw [Nat.and_two_pow_sub_one_eq_mod, Nat.shiftRight_eq_div_pow]
  apply Nat.mod_eq_of_lt
  omega

theorem div512 (a : Nat) : a / 512 = a >>> 9 := by
  rw [Nat.shiftRight_eq_div_pow]

theorem applyOp_keeps (op : Char) (g p mode : Nat) (hg : g ≤ 511)
    (hm : mode < 2 ^ 32) :
    applyOp op g p mode / 512 = mode / 512 ∧ applyOp op g p mode < 2 ^ 32 := by
  have hx : g &&& p ≤ 511 := Nat.le_trans Nat.and_le_left hg
  have hx32 : g &&& p < 2 ^ 32 := by omega
  unfold applyOp
  split
  · constructor
    · rw [div512, div512, Nat.shiftRight_and_distrib, not32_shift9 _ hx, and_mask23 _ hm]
    · exact Nat.lt_of_le_of_lt Nat.and_le_left hm
  · split
    · constructor
      · rw [div512, div512, Nat.shiftRight_or_distrib, shift9_small _ hx, Nat.or_zero]
      · exact Nat.or_lt_two_pow hm hx32
    · constructor
      · rw [div512, div512, Nat.shiftRight_or_distrib, shift9_small _ hx, Nat.or_zero,
          Nat.shiftRight_and_distrib, not32_shift9 _ hg, Nat.and_comm, and_mask23 _ hm]
      · exact Nat.or_lt_two_pow (Nat.lt_of_le_of_lt Nat.and_le_right hm) hx32

theorem foldl_whoStep_le (w : List Char) (g : Nat) (hg : g ≤ 511) : w.foldl whoStep g ≤ 511 := by
  induction w generalizing g with
  | nil => exact hg
  | cons x w ih =>
    apply ih
    have : whoStep g x < 2 ^ 9 := by
      unfold whoStep
      exact Nat.or_lt_two_pow (by omega) (by (repeat' split) <;> decide)
    omega

/-! ### arbitrary text -/

/-- One iteration of the outer loop on ARBITRARY non-empty input (the same for every amount of
    fuel): it reports an error, or returns the mode unchanged, or has read a complete well-formed
    clause (with a possibly empty target list), applied it, and continues after the comma (or stops
    at the end of the text), or has met a target letter for another kind of entry and continues
    after the next comma without looking at what it skips. -/
theorem symLoop_iter_cases (k : EKind) (mode : Nat) (cs : List Char) (hcs : cs ≠ []) :
    (∃ e, ∀ f, symLoop k (f + 1) mode cs = .err e) ∨ (∀ f, symLoop k (f + 1) mode cs = .ok mode) ∨
    (∃ t w op ps rest', (∀ x ∈ t, isTargetCh x = true) ∧ w ≠ [] ∧ (∀ x ∈ w, isWhoCh x = true) ∧
      isOpCh op = true ∧ ps ≠ [] ∧ (∀ x ∈ ps, isPermCh x = true) ∧
      ((cs = t ++ ':' :: (w ++ op :: ps) ∧ rest' = []) ∨
        cs = t ++ ':' :: (w ++ op :: (ps ++ ',' :: rest'))) ∧
      ∀ f, symLoop k (f + 1) mode cs =
        symLoop k f (applyOp op (whoBits w) (permBits ps) mode) rest') ∨
    (k.link = false ∧ ∃ t x r, cs = t ++ x :: r ∧
      (∀ y ∈ t, isTargetCh y = true ∧ letterOk k y = true) ∧
      (x = 'd' ∨ x = 'f') ∧ letterOk k x = false ∧
      ∀ f, symLoop k (f + 1) mode cs = symLoop k f mode (skipClause r)) := by
  obtain ⟨c, cs1, rfl⟩ : ∃ c cs1, cs = c :: cs1 := by
    cases cs with
    | nil => exact absurd rfl hcs
    | cons c cs1 => exact ⟨c, cs1, rfl⟩
  rcases targetLoop_cases k mode (c :: cs1) with ⟨e, hT⟩ | hT |
    ⟨hl, t, ht, ⟨R, hcs', hT⟩ | ⟨x, r, hcs', hx, hbad, hT⟩⟩
  · exact .inl ⟨e, fun f => symLoop_ret k f mode _ _ hcs hT⟩
  · exact .inr (.inl fun f => symLoop_ret k f mode _ _ hcs hT)
  · cases R with
    | nil => exact .inr (.inl fun f => by simp only [symLoop, hT])
    | cons y R =>
      rcases groupLoop_cases (y :: R) 0 with ⟨e, hG⟩ | ⟨w, op, R', hR, hwc, ho, hG⟩
      · exact .inl ⟨e, fun f => by simp only [symLoop, hT, hG]⟩
      by_cases hg0 : w.foldl whoStep 0 = 0
      · exact .inl ⟨.invalidChmodGroup, fun f => by simp only [symLoop, hT, hG, if_pos hg0]⟩
      cases R' with
      | nil => exact .inr (.inl fun f => by simp only [symLoop, hT, hG, if_neg hg0])
      | cons z R' =>
        rcases permsLoop_cases (z :: R') 0 with ⟨e, hP⟩ | ⟨ps, rest', hpc, hshape, hP⟩
        · exact .inl ⟨e, fun f => by simp only [symLoop, hT, hG, hP, if_neg hg0]⟩
        by_cases hp0 : ps.foldl permStep 0 = 0
        · exact .inl ⟨.invalidChmodPermissions,
            fun f => by simp only [symLoop, hT, hG, hP, if_neg hg0, if_pos hp0]⟩
        refine .inr (.inr (.inl ⟨t, w, op, ps, rest', fun x hx => (ht x hx).1, ?_, hwc, ho, ?_, hpc,
          ?_, fun f => symLoop_step k f mode _ _ _ rest' op _ _ hcs hT (by simp) hG hg0 (by simp)
            hP hp0⟩))
        · rintro rfl; exact hg0 rfl
        · rintro rfl; exact hp0 rfl
        · rcases hshape with ⟨h1, h2⟩ | h1
          · exact .inl ⟨by rw [hcs', hR, h1], h2⟩
          · exact .inr (by rw [hcs', hR, h1])
  · exact .inr (.inr (.inr ⟨hl, t, x, r, hcs', ht, hx, hbad,
      fun f => symLoop_skip k f mode _ _ hcs hT⟩))

theorem symLoop_succ_cases (k : EKind) (f mode : Nat) (cs : List Char) (hcs : cs ≠ []) :
    (∃ e, symLoop k (f + 1) mode cs = .err e) ∨ symLoop k (f + 1) mode cs = .ok mode ∨
    (∃ t w op ps rest', (∀ x ∈ t, isTargetCh x = true) ∧ w ≠ [] ∧ (∀ x ∈ w, isWhoCh x = true) ∧
      isOpCh op = true ∧ ps ≠ [] ∧ (∀ x ∈ ps, isPermCh x = true) ∧
      ((cs = t ++ ':' :: (w ++ op :: ps) ∧ rest' = []) ∨
        cs = t ++ ':' :: (w ++ op :: (ps ++ ',' :: rest'))) ∧
      symLoop k (f + 1) mode cs =
        symLoop k f (applyOp op (whoBits w) (permBits ps) mode) rest') ∨
    (∃ R, symLoop k (f + 1) mode cs = symLoop k f mode R) := by
  rcases symLoop_iter_cases k mode cs hcs with ⟨e, he⟩ | he |
    ⟨t, w, op, ps, rest', h1, h2, h3, h4, h5, h6, h7, he⟩ | ⟨_, _, _, r, _, _, _, _, he⟩
  · exact .inl ⟨e, he f⟩
  · exact .inr (.inl (he f))
  · exact .inr (.inr (.inl ⟨t, w, op, ps, rest', h1, h2, h3, h4, h5, h6, h7, he f⟩))
  · exact .inr (.inr (.inr ⟨_, he f⟩))

theorem symLoop_keeps (k : EKind) (cur : Nat) :
    ∀ (f mode : Nat) (cs : List Char) (m : Nat), mode / 512 = cur / 512 → mode < 2 ^ 32 →
      symLoop k f mode cs = .ok m → m / 512 = cur / 512 ∧ m < 2 ^ 32 := by
  intro f
  induction f with
  | zero =>
    intro mode cs m h1 h2 h
    simp only [symLoop] at h; cases h; exact ⟨h1, h2⟩
  | succ f ih =>
    intro mode cs m h1 h2 h
    by_cases hcs : cs = []
    · subst hcs; rw [symLoop_nil] at h; cases h; exact ⟨h1, h2⟩
    · rcases symLoop_succ_cases k f mode cs hcs with ⟨e, he⟩ | he |
        ⟨t, w, op, ps, rest', _, _, hwc, _, _, _, _, he⟩ | ⟨R, he⟩
      · rw [he] at h; cases h
      · rw [he] at h; cases h; exact ⟨h1, h2⟩
      · rw [he] at h
        have hk := applyOp_keeps op (whoBits w) (permBits ps) mode
          (by rw [whoBits_eq]; exact foldl_whoStep_le w 0 (by omega)) h2
        exact ih _ rest' m (by rw [hk.1, h1]) hk.2 h
      · rw [he] at h
        exact ih _ R m h1 h2 h

theorem mode_keeps (k : EKind) (cur : Nat) (sym : List Char) (m : Nat)
    (hcur : cur < 2 ^ 32) (h : Chmod.mode k cur 0 sym = .ok m) (hne : sym ≠ []) :
    m / 512 = cur / 512 ∧ m < 2 ^ 32 := by
  unfold Chmod.mode at h
  rw [if_neg (by simp), if_neg hne] at h
  exact symLoop_keeps k cur _ cur sym m rfl hcur h

/-! ### the fuel is irrelevant once it exceeds the length of the text -/

theorem symLoop_fuel (k : EKind) :
    ∀ (f f' mode : Nat) (cs : List Char), cs.length < f → cs.length < f' →
      symLoop k f mode cs = symLoop k f' mode cs := by
  intro f
  induction f with
  | zero => intro f' mode cs h; omega
  | succ f ih =>
    intro f' mode cs h h'
    obtain ⟨g, rfl⟩ : ∃ g, f' = g + 1 := ⟨f' - 1, by omega⟩
    by_cases hcs : cs = []
    · subst hcs; rw [symLoop_nil, symLoop_nil]
    · rcases symLoop_iter_cases k mode cs hcs with ⟨e, he⟩ | he |
        ⟨t, w, op, ps, rest', _, _, _, _, _, _, hshape, he⟩ | ⟨_, t, x, r, hshape, _, _, _, he⟩
      · rw [he f, he g]
      · rw [he f, he g]
      · rw [he f, he g]
        have hlen : rest'.length < cs.length := by
          rcases hshape with ⟨h1, h2⟩ | h1
          · subst h2; cases cs with
            | nil => exact absurd rfl hcs
            | cons _ _ => simp
          · rw [h1]; simp only [List.length_append, List.length_cons]; omega
        exact ih g _ rest' (Nat.lt_of_lt_of_le hlen (Nat.le_of_lt_succ h))
          (Nat.lt_of_lt_of_le hlen (Nat.le_of_lt_succ h'))
      · rw [he f, he g]
        have hlen : (skipClause r).length < cs.length := by
          have := skipClause_length_le r
          rw [hshape]; simp only [List.length_append, List.length_cons]; omega
        exact ih g _ _ (Nat.lt_of_lt_of_le hlen (Nat.le_of_lt_succ h))
          (Nat.lt_of_lt_of_le hlen (Nat.le_of_lt_succ h'))

theorem mode_eq_symLoop (k : EKind) (cur : Nat) (sym : List Char) (hne : sym ≠ []) (f : Nat)
    (hf : sym.length < f) : Chmod.mode k cur 0 sym = symLoop k f cur sym := by
  unfold Chmod.mode
  rw [if_neg (by simp), if_neg hne]
  exact symLoop_fuel k _ _ cur sym (Nat.lt_succ_self _) hf

/-! ### a first clause for another kind is skipped unread -/

/-- Exact behaviour on a skipped first clause, for ARBITRARY text after the offending target
    letter: the call means what the text after the next comma means (nothing when there is no
    comma, or nothing after it). -/
theorem mode_skip_first (k : EKind) (cur : Nat) (t : List Char) (x : Char) (r : List Char)
    (hl : k.link = false) (ht : ∀ y ∈ t, isTargetCh y = true ∧ letterOk k y = true)
    (hx : x = 'd' ∨ x = 'f') (hbad : letterOk k x = false) :
    Chmod.mode k cur 0 (t ++ x :: r) =
      if skipClause r = [] then .ok cur else Chmod.mode k cur 0 (skipClause r) := by
  have hne : t ++ x :: r ≠ [] := by simp
  have hlen := skipClause_length_le r
  rw [mode_eq_symLoop k cur _ hne ((t ++ x :: r).length + 1) (Nat.lt_succ_self _),
    symLoop_skip k _ cur _ _ hne
      ((targetLoop_append k cur t _ hl ht).trans (targetLoop_bad k cur x r hl hx hbad))]
  split
  · rename_i h; rw [h, symLoop_nil]
  · rename_i h
    rw [mode_eq_symLoop k cur _ h (t ++ x :: r).length]
    simp only [List.length_append, List.length_cons]; omega

/-! ### malformed first clause -/

/-- a malformed first clause is reported, or nothing is changed, or the text starts with `:`
    (empty target list, which the code accepts as "all"), or the clause is skipped unread at a
    target letter for another kind and the call means what the text after the next comma means -/
theorem mode_malformed_any (k : EKind) (cur : Nat) (sym : List Char) (hne : sym ≠ [])
    (hmal : parseClause ((splitComma sym).headD []) = none) :
    (∃ e, Chmod.mode k cur 0 sym = .err e) ∨ Chmod.mode k cur 0 sym = .ok cur ∨
      (∃ rest, sym = ':' :: rest) ∨
      (k.link = false ∧ ∃ t x r, sym = t ++ x :: r ∧
        (∀ y ∈ t, isTargetCh y = true ∧ letterOk k y = true) ∧ (x = 'd' ∨ x = 'f') ∧
        letterOk k x = false ∧ skipClause r ≠ [] ∧
        Chmod.mode k cur 0 sym = Chmod.mode k cur 0 (skipClause r)) := by
  have hmode := mode_eq_symLoop k cur sym hne _ (Nat.lt_succ_self _)
  rcases symLoop_iter_cases k cur sym hne with ⟨e, he⟩ | he |
    ⟨t, w, op, ps, rest', htc, hw, hwc, ho, hps, hpc, hshape, _⟩ | ⟨hl, t, x, r, h1, h2, h3, h4, _⟩
  · exact .inl ⟨e, hmode.trans (he _)⟩
  · exact .inr (.inl (hmode.trans (he _)))
  · by_cases ht : t = []
    · subst ht
      right; right; left
      rcases hshape with ⟨h1, _⟩ | h1 <;> exact ⟨_, by rw [h1]; rfl⟩
    · exfalso
      have hcomma := comma_not_mem_clause t w ps op htc hwc ho hpc
      have hhead : (splitComma sym).headD [] = t ++ ':' :: (w ++ op :: ps) := by
        rcases hshape with ⟨h1, _⟩ | h1
        · rw [h1, splitComma_no_comma _ hcomma]; rfl
        · have : sym = (t ++ ':' :: (w ++ op :: ps)) ++ ',' :: rest' := by
            rw [h1]; simp
          rw [this, splitComma_append_comma _ _ hcomma]; rfl
      rw [hhead, parseClause_build t w ps op ht htc hw hwc ho hps hpc] at hmal
      cases hmal
  · have hm := mode_skip_first k cur t x r hl h2 h3 h4
    rw [← h1] at hm
    by_cases hs : skipClause r = []
    · right; left; rw [hm, if_pos hs]
    · right; right; right
      exact ⟨hl, t, x, r, h1, h2, h3, h4, hs, by rw [hm, if_neg hs]⟩

end Rivia.Lemmas
