/-
  Rivia.Lemmas.Clean — the model of `sys::clean` equals Go's `path.Clean` (spec `goClean`),
  plus the normal-form and rootedness corollaries.
-/
import Rivia.Model.Path
import Rivia.Model.Memfs
import Rivia.Spec.GoClean
import Rivia.Lemmas.Components

namespace Rivia.Lemmas
open Rivia Rivia.Str Rivia.Spec

/-! ### rendered buffers -/

/-- The string whose `/`-pieces (after the root marker, if any) are `ps`. -/
def bufOf (rooted : Bool) (ps : List Str) : Str :=
  (if rooted then ['/'] else []) ++ joinWith '/' ps

theorem bufOf_nil (rooted : Bool) : bufOf rooted [] = if rooted then ['/'] else [] :=
  List.append_nil _

theorem bufOf_snoc_ne_nil {rooted : Bool} {mid : List Str} {t : Str} (ht : t ≠ []) :
    bufOf rooted (mid ++ [t]) ≠ [] := by
  obtain ⟨X, hX⟩ := joinWith_snoc_eq_append '/' mid t
  simp [bufOf, hX, ht]

theorem endsWithSlash_bufOf_snoc {rooted : Bool} {mid : List Str} {t : Str} (ht : BodyPiece t) :
    endsWithSlash (bufOf rooted (mid ++ [t])) = false := by
  obtain ⟨X, hX⟩ := joinWith_snoc_eq_append '/' mid t
  unfold bufOf
  rw [hX, ← List.append_assoc, endsWithSlash_append _ ht.1]
  exact endsWithSlash_of_not_mem ht.2.2

theorem isRooted_bufOf {rooted : Bool} {ps : List Str} (h : ∀ p ∈ ps, BodyPiece p) :
    isRooted (bufOf rooted ps) = rooted := by
  cases rooted with
  | true => rfl
  | false =>
    cases ps with
    | nil => rfl
    | cons x r =>
      obtain ⟨X, hX⟩ := joinWith_cons_eq_append '/' x r
      have hx := h x List.mem_cons_self
      rw [bufOf, if_neg Bool.false_ne_true, List.nil_append, hX, isRooted_append hx.1]
      exact isRooted_of_not_mem hx.2.2

theorem splitSlash_bufOf {rooted : Bool} {ps : List Str} (hne : ps ≠ [])
    (h : ∀ p ∈ ps, BodyPiece p) :
    splitSlash (bufOf rooted ps) = (if rooted then [[]] else []) ++ ps := by
  have hs : splitOn '/' (joinWith '/' ps) = ps := splitOn_joinWith hne (fun p hp => (h p hp).2.2)
  cases rooted with
  | true => exact (splitOn_cons_sep '/' _).trans (congrArg _ hs)
  | false => exact hs

theorem toPath_bufOf {ps : List Str} (h : ∀ p ∈ ps, BodyPiece p) :
    Memfs.toPath (bufOf true ps) = ps := by
  cases ps with
  | nil => decide
  | cons a as =>
    unfold Memfs.toPath
    rw [splitSlash_bufOf (List.cons_ne_nil _ _) h, if_pos rfl, List.singleton_append,
      List.filter_cons_of_neg (by simp)]
    exact List.filter_eq_self.2 fun p hp => by simpa using (h p hp).1

theorem push_bufOf {rooted : Bool} {ps : List Str} {p : Str} (hp : BodyPiece p)
    (h : ∀ q ∈ ps, BodyPiece q) : push (bufOf rooted ps) p = bufOf rooted (ps ++ [p]) := by
  have hr := isRooted_of_not_mem hp.2.2
  rcases eq_nil_or_snoc ps with rfl | ⟨mid, t, rfl⟩
  · cases rooted with
    | true => exact push_root hr
    | false => exact push_nil_left p
  · have ht : BodyPiece t := h t List.mem_concat_self
    rw [push_of_not_endsWithSlash hr (bufOf_snoc_ne_nil ht.1) (endsWithSlash_bufOf_snoc ht)]
    unfold bufOf
    rw [joinWith_append_singleton '/' (List.concat_ne_nil _ _) p, List.append_assoc]

theorem foldl_push_bufOf (r : Bool) (cs : List Comp) :
    ∀ ps : List Str, (∀ q ∈ ps, BodyPiece q) → (∀ c ∈ cs, BodyPiece c.str) →
      cs.foldl (fun b c => push b c.str) (bufOf r ps) = bufOf r (ps ++ cs.map Comp.str) := by
  induction cs with
  | nil => intro ps _ _; simp
  | cons c cs ih =>
    intro ps hps hcs
    have hc := hcs c List.mem_cons_self
    rw [List.foldl_cons, push_bufOf hc hps, ih (ps ++ [c.str])]
    · simp
    · intro q hq
      rcases List.mem_append.1 hq with hq | hq
      · exact hps q hq
      · rw [List.mem_singleton.1 hq]; exact hc
    · exact fun c' hc' => hcs c' (List.mem_cons_of_mem _ hc')

theorem render_body {body : List Comp} (h : ∀ c ∈ body, BodyC c) :
    render body = bufOf false (body.map Comp.str) :=
  foldl_push_bufOf false body [] (fun _ h => nomatch h) (fun c hc => (h c hc).bodyPiece)

theorem render_root_body {body : List Comp} (h : ∀ c ∈ body, BodyC c) :
    render (.root :: body) = bufOf true (body.map Comp.str) :=
  foldl_push_bufOf true body [] (fun _ h => nomatch h) (fun c hc => (h c hc).bodyPiece)

theorem components_bufOf {r : Bool} {ps : List Str} (h : ∀ p ∈ ps, BodyPiece p) :
    components (bufOf r ps) = (if r then [.root] else []) ++ ps.filterMap bodyComp := by
  cases ps with
  | nil => cases r <;> decide
  | cons a as =>
    have hsl : ∀ p ∈ a :: as, '/' ∉ p := fun p hp => (h p hp).2.2
    have ha := h a List.mem_cons_self
    cases r with
    | true =>
      show components (joinWith '/' ([] :: a :: as)) = _
      rw [components_joinWith (List.cons_ne_nil _ _)]
      · simp [compsP, bodyComp_nil]
      · intro p hp
        rcases List.mem_cons.1 hp with rfl | hp
        · simp
        · exact hsl p hp
    | false =>
      show components (joinWith '/' (a :: as)) = _
      rw [components_joinWith (List.cons_ne_nil _ _) hsl]
      simp [compsP, ha.1, ha.2.1]

theorem pop_bufOf {rooted : Bool} {ps : List Str} {top : Str}
    (h : ∀ q ∈ ps ++ [top], BodyPiece q) : pop (bufOf rooted (ps ++ [top])) = bufOf rooted ps := by
  have hbody : ∀ q ∈ ps ++ [top], isBody q = true :=
    fun q hq => isBody_eq_true (h q hq).1 (h q hq).2.1
  have hmid : ∀ q ∈ ps, isBody q = true := fun q hq => hbody q (List.mem_append_left _ hq)
  have hsplit := splitSlash_bufOf (rooted := rooted) (ps := ps ++ [top]) (List.concat_ne_nil _ _) h
  have hroot := isRooted_bufOf (rooted := rooted) h
  unfold pop
  cases rooted with
  | true =>
    rw [parentStr_of_split hsplit hmid (hbody top List.mem_concat_self), hroot]
    cases ps <;> rfl
  | false =>
    cases ps with
    | nil =>
      rw [parentStr_nobody hsplit rfl, hroot, if_neg Bool.false_ne_true,
        if_neg (h top List.mem_concat_self).1]
      rfl
    | cons p0 mid =>
      rw [parentStr_of_split hsplit (fun x hx => hmid x (List.mem_cons_of_mem _ hx))
        (hbody top List.mem_concat_self), hroot, if_neg (fun h => nomatch h.2)]
      rfl

/-! ### equations of `goStep` and `cleanStep` -/

theorem goRooted_eq (s : Str) : goRooted s = isRooted s := by
  cases s with
  | nil => rfl
  | cons c cs =>
    by_cases h : c = '/'
    · subst h; rfl
    · rw [isRooted_cons, decide_eq_false h]
      unfold goRooted
      split
      · next heq => exact absurd (List.cons.inj heq).1 h
      · rfl

theorem bodyPiece_dotdot : BodyPiece dotdot := by
  unfold BodyPiece dotdot; decide

theorem goStep_skip {p : Str} (h : p = [] ∨ p = ['.']) (r : Bool) (st : List Str) :
    goStep r st p = st := if_pos h

theorem goStep_dotdot_nil (r : Bool) : goStep r [] dotdot = if r then [] else [dotdot] := by
  cases r <;> rfl

theorem goStep_dotdot_cons (r : Bool) (top : Str) (below : List Str) :
    goStep r (top :: below) dotdot = if top = dotdot then dotdot :: top :: below else below := by
  unfold goStep
  rw [if_neg (by decide), if_pos rfl]

theorem goStep_push {r : Bool} {st : List Str} {p : Str} (h1 : p ≠ []) (h2 : p ≠ ['.'])
    (h3 : p = dotdot → r = false ∧ ∀ top ∈ st.head?, top = dotdot) : goStep r st p = p :: st := by
  by_cases hdd : p = dotdot
  · subst hdd
    obtain ⟨hr, ht⟩ := h3 rfl
    cases st with
    | nil => rw [goStep_dotdot_nil, hr]; rfl
    | cons top below => rw [goStep_dotdot_cons, if_pos (ht top rfl)]
  · unfold goStep
    rw [if_neg (not_or.2 ⟨h1, h2⟩), if_neg hdd]

theorem cleanStep_push {s : CleanSt} {c : Comp} (h1 : c ≠ .cur)
    (h2 : c = .parent → s.cnt = 0 ∨ s.prev = some .parent) :
    cleanStep s c = some { cnt := s.cnt + 1, prev := some c, buf := push s.buf c.str } := by
  unfold cleanStep
  rw [if_neg (fun h => h1 h.1), if_neg]
  rintro ⟨hc, hcnt, hprev⟩
  rcases h2 hc with h | h
  · exact absurd h (Nat.ne_of_gt hcnt)
  · exact hprev h

theorem cleanStep_pop {s : CleanSt} {x : Str} (hcnt : 0 < s.cnt) (hprev : s.prev = some (.normal x)) :
    cleanStep s .parent =
      some { cnt := s.cnt - 1, prev := (components (pop s.buf)).getLast?, buf := pop s.buf } := by
  unfold cleanStep
  rw [if_neg (by simp), if_pos ⟨rfl, hcnt, by simp [hprev]⟩, hprev]

/-! ### the simulation invariant -/

/-- `prev` of the model state for a (reversed) stack of pieces. -/
def topComp (rooted : Bool) : List Str → Option Comp
  | [] => if rooted then some .root else none
  | top :: _ => bodyComp top

/-- The model's loop state corresponding to Go's reversed stack `st`. -/
def mkSt (rooted : Bool) (st : List Str) : CleanSt :=
  { cnt := st.length + (if rooted then 1 else 0)
    prev := topComp rooted st
    buf := bufOf rooted st.reverse }

theorem getLast?_components_bufOf {rooted : Bool} {st : List Str} (h : ∀ q ∈ st, BodyPiece q) :
    (components (bufOf rooted st.reverse)).getLast? = topComp rooted st := by
  rw [components_bufOf (forall_mem_reverse h)]
  cases st with
  | nil => cases rooted <;> rfl
  | cons top below =>
    rw [List.reverse_cons, List.filterMap_append, ← List.append_assoc,
      List.filterMap_cons_some (bodyComp_of_bodyPiece (h top List.mem_cons_self))]
    exact List.getLast?_concat.trans (bodyComp_of_bodyPiece (h top List.mem_cons_self)).symm

theorem mkSt_push {rooted : Bool} {st : List Str} {p : Str} {c : Comp}
    (hst : ∀ q ∈ st, BodyPiece q) (hp : '/' ∉ p) (hc : bodyComp p = some c) :
    ({ cnt := (mkSt rooted st).cnt + 1
       prev := some c
       buf := push (mkSt rooted st).buf c.str } : CleanSt) = mkSt rooted (p :: st) := by
  have := push_bufOf (rooted := rooted) (bodyPiece_of_bodyComp hp hc) (forall_mem_reverse hst)
  simp only [mkSt, bodyComp_str hc, this, List.length_cons, List.reverse_cons, topComp, hc,
    Nat.add_right_comm _ 1]

theorem cleanStep_mkSt {rooted : Bool} {st : List Str} {p : Str} {c : Comp}
    (hst : ∀ q ∈ st, BodyPiece q) (hp : '/' ∉ p) (hc : bodyComp p = some c) :
    cleanStep (mkSt rooted st) c = some (mkSt rooted (goStep rooted st p)) := by
  have hcur := bodyComp_ne_cur hc
  have hbp := bodyPiece_of_bodyComp hp hc
  have hcp : c = .parent → p = dotdot := fun h => by rw [← bodyComp_str hc, h]; rfl
  by_cases hdd : p = dotdot
  · subst hdd
    cases st with
    | nil =>
      obtain rfl : Comp.parent = c := Option.some.inj hc
      cases rooted <;> decide
    | cons top below =>
      have htop := hst top List.mem_cons_self
      rw [goStep_dotdot_cons]
      by_cases ht : top = dotdot
      · -- on top of a `..`: push
        rw [if_pos ht, cleanStep_push hcur (fun _ => Or.inr (by rw [ht]; rfl)), mkSt_push hst hp hc]
      · -- a normal element is cancelled: pop
        obtain rfl : Comp.parent = c := Option.some.inj hc
        have hprev : (mkSt rooted (top :: below)).prev = some (.normal top) :=
          bodyComp_eq_some_iff.2 ⟨⟨htop.1, htop.2.1⟩, (if_neg ht).symm⟩
        have hall : ∀ q ∈ below.reverse ++ [top], BodyPiece q := by
          rw [← List.reverse_cons]; exact forall_mem_reverse hst
        have hbelow : ∀ q ∈ below, BodyPiece q := fun q hq => hst q (List.mem_cons_of_mem _ hq)
        rw [if_neg ht, cleanStep_pop (Nat.add_pos_left (Nat.succ_pos _) _) hprev]
        simp only [mkSt, List.reverse_cons, pop_bufOf hall, getLast?_components_bufOf hbelow,
          List.length_cons, Nat.add_right_comm _ 1, Nat.add_sub_cancel]
  · rw [goStep_push hbp.1 hbp.2.1 (fun h => absurd h hdd),
      cleanStep_push hcur (fun h => absurd (hcp h) hdd), mkSt_push hst hp hc]

theorem goStep_bodyPiece {rooted : Bool} {st : List Str} {p : Str}
    (hst : ∀ q ∈ st, BodyPiece q) (hp : '/' ∉ p) : ∀ q ∈ goStep rooted st p, BodyPiece q := by
  by_cases h : p = [] ∨ p = ['.']
  · rwa [goStep_skip h]
  · have hcons : ∀ q ∈ p :: st, BodyPiece q :=
      List.forall_mem_cons.2 ⟨⟨fun e => h (Or.inl e), fun e => h (Or.inr e), hp⟩, hst⟩
    by_cases hdd : p = dotdot
    · subst hdd
      cases st with
      | nil => rw [goStep_dotdot_nil]; cases rooted <;> simp [bodyPiece_dotdot]
      | cons top below =>
        rw [goStep_dotdot_cons]
        split
        · exact hcons
        · exact fun q hq => hst q (List.mem_cons_of_mem _ hq)
    · rwa [goStep_push (fun e => h (Or.inl e)) (fun e => h (Or.inr e)) (fun e => absurd e hdd)]

theorem cleanFold_mkSt (rooted : Bool) (pieces : List Str) :
    ∀ st : List Str, (∀ q ∈ st, BodyPiece q) → (∀ p ∈ pieces, '/' ∉ p) →
      cleanFold (mkSt rooted st) (pieces.filterMap bodyComp)
        = some (mkSt rooted (pieces.foldl (goStep rooted) st)) := by
  induction pieces with
  | nil => intro st _ _; rfl
  | cons p ps ih =>
    intro st hst hps
    have hp : '/' ∉ p := hps p List.mem_cons_self
    have hps' : ∀ q ∈ ps, '/' ∉ q := fun q hq => hps q (List.mem_cons_of_mem _ hq)
    cases hc : bodyComp p with
    | none =>
      rw [List.filterMap_cons_none hc, List.foldl_cons, goStep_skip (bodyComp_eq_none_iff.1 hc)]
      exact ih st hst hps'
    | some c =>
      rw [List.filterMap_cons_some hc, List.foldl_cons]
      simp only [cleanFold, cleanStep_mkSt hst hp hc]
      exact ih _ (goStep_bodyPiece hst hp) hps'

/-- The final stack of `goClean`. -/
def goStack (s : Str) : List Str := (splitOn '/' s).foldl (goStep (isRooted s)) []

theorem goStack_bodyPiece (s : Str) : ∀ q ∈ goStack s, BodyPiece q :=
  foldl_invariant (fun st => ∀ q ∈ st, BodyPiece q)
    (fun _ hst p hp => goStep_bodyPiece hst (not_mem_of_mem_splitOn '/' s p hp)) (fun _ h => nomatch h)

theorem goStack_rev_bodyPiece (s : Str) : ∀ q ∈ (goStack s).reverse, BodyPiece q :=
  fun q hq => goStack_bodyPiece s q (List.mem_reverse.1 hq)

theorem goClean_eq (s : Str) :
    goClean s =
      if bufOf (isRooted s) (goStack s).reverse = [] then ['.']
      else bufOf (isRooted s) (goStack s).reverse := by
  unfold goClean
  simp only [goRooted_eq, bufOf, goStack]
  by_cases h : isRooted s = true <;> simp [h]

theorem cleanFold_components (s : Str) :
    cleanFold ⟨0, none, []⟩ (components s) = some (mkSt (isRooted s) (goStack s)) := by
  have hmain : cleanFold (mkSt (isRooted s) []) ((splitSlash s).filterMap bodyComp)
      = some (mkSt (isRooted s) (goStack s)) :=
    cleanFold_mkSt (isRooted s) (splitOn '/' s) [] (fun _ h => nomatch h) (not_mem_of_mem_splitOn '/' s)
  unfold components
  cases hr : isRooted s with
  | true =>
    rw [hr] at hmain
    have h0 : cleanStep ⟨0, none, []⟩ .root = some (mkSt true []) := by decide
    simp only [if_true, cleanFold, h0]
    exact hmain
  | false =>
    rw [hr] at hmain
    have h0 : cleanStep ⟨0, none, []⟩ .cur = some (mkSt false []) := by decide
    simp only [Bool.false_eq_true, if_false]
    split
    · simp only [List.cons_append, List.nil_append, cleanFold, h0]
      exact hmain
    · exact hmain

/-- **Main theorem**: the model of `sys::clean` never panics and equals Go's `path.Clean`. -/
theorem cleanO_eq_goClean (s : Str) : cleanO s = some (goClean s) := by
  unfold cleanO
  rw [cleanFold_components, goClean_eq]
  exact (apply_ite some _ _ _).symm

theorem goClean_rooted (s : Str) : isRooted (goClean s) = isRooted s := by
  rw [goClean_eq]
  split
  · next h =>
    cases hr : isRooted s with
    | true => rw [hr] at h; cases h
    | false => rfl
  · exact isRooted_bufOf (goStack_rev_bodyPiece s)

/-! ### normal form -/

/-- The `/`-pieces of `t`, without the empty root-marker piece in front when `t` is rooted. -/
def bodyPieces (t : Str) : List Str :=
  if isRooted t then (splitOn '/' t).drop 1 else splitOn '/' t

/-- `t` is a fully cleaned path: it is `.` or `/`, or else its `/`-pieces (after the root marker)
    are all non-empty (no `//`, no trailing `/`, not the empty string), none is `.`, none is `..`
    when `t` is rooted, and every piece preceding a `..` piece is itself `..` (so `..` only occurs
    as a leading run: no inner `..`). -/
def NormalForm (t : Str) : Prop :=
  t = ['.'] ∨ t = ['/'] ∨
    ((∀ p ∈ bodyPieces t, p ≠ [] ∧ p ≠ ['.']) ∧
     (isRooted t = true → ∀ p ∈ bodyPieces t, p ≠ dotdot) ∧
     (bodyPieces t).Pairwise (fun a b => b = dotdot → a = dotdot))

instance (t : Str) : Decidable (NormalForm t) := by
  unfold NormalForm; infer_instance

example : NormalForm "/a/b".toList := by decide +kernel
example : NormalForm "../../a/b".toList := by decide +kernel
example : NormalForm "..".toList := by decide +kernel
example : NormalForm "/".toList := by decide +kernel
example : NormalForm ".".toList := by decide +kernel
example : ¬ NormalForm "".toList := by decide +kernel
example : ¬ NormalForm "a//b".toList := by decide +kernel
example : ¬ NormalForm "//".toList := by decide +kernel
example : ¬ NormalForm "//a".toList := by decide +kernel
example : ¬ NormalForm "a/".toList := by decide +kernel
example : ¬ NormalForm "/a/".toList := by decide +kernel
example : ¬ NormalForm "a/./b".toList := by decide +kernel
example : ¬ NormalForm "./a".toList := by decide +kernel
example : ¬ NormalForm "a/..".toList := by decide +kernel
example : ¬ NormalForm "../a/../b".toList := by decide +kernel
example : ¬ NormalForm "/..".toList := by decide +kernel
example : ¬ NormalForm "/../a".toList := by decide +kernel

/-- Invariant of Go's reversed stack: no `..` under a root, and below a `..` only `..`. -/
def StackOK (rooted : Bool) (st : List Str) : Prop :=
  (rooted = true → ∀ q ∈ st, q ≠ dotdot) ∧ st.Pairwise (fun a b => a = dotdot → b = dotdot)

theorem goStep_stackOK {rooted : Bool} {st : List Str} (p : Str) (h : StackOK rooted st) :
    StackOK rooted (goStep rooted st p) := by
  by_cases hs : p = [] ∨ p = ['.']
  · rwa [goStep_skip hs]
  by_cases hdd : p = dotdot
  · subst hdd
    cases st with
    | nil =>
      rw [goStep_dotdot_nil]
      cases rooted
      · exact ⟨fun hr => Bool.noConfusion hr, List.pairwise_singleton _ _⟩
      · exact h
    | cons top below =>
      rw [goStep_dotdot_cons]
      split
      · next ht =>
        refine ⟨fun hr => absurd ht (h.1 hr top List.mem_cons_self), List.pairwise_cons.2 ⟨?_, h.2⟩⟩
        intro b hb _
        rcases List.mem_cons.1 hb with rfl | hb
        · exact ht
        · exact (List.pairwise_cons.1 h.2).1 b hb ht
      · exact ⟨fun hr q hq => h.1 hr q (List.mem_cons_of_mem _ hq), (List.pairwise_cons.1 h.2).2⟩
  · rw [goStep_push (fun e => hs (Or.inl e)) (fun e => hs (Or.inr e)) (fun e => absurd e hdd)]
    exact ⟨fun hr => List.forall_mem_cons.2 ⟨hdd, h.1 hr⟩,
      List.pairwise_cons.2 ⟨fun _ _ e => absurd e hdd, h.2⟩⟩

theorem goStack_stackOK (s : Str) : StackOK (isRooted s) (goStack s) :=
  foldl_invariant (StackOK (isRooted s)) (fun _ hst p _ => goStep_stackOK p hst)
    ⟨by simp, List.Pairwise.nil⟩

theorem bodyPieces_bufOf {rooted : Bool} {ps : List Str} (hne : ps ≠ [])
    (h : ∀ p ∈ ps, BodyPiece p) : bodyPieces (bufOf rooted ps) = ps := by
  have h1 : splitOn '/' (bufOf rooted ps) = _ := splitSlash_bufOf (rooted := rooted) hne h
  unfold bodyPieces
  rw [h1, isRooted_bufOf h]
  cases rooted <;> rfl

theorem goClean_normalForm (s : Str) : NormalForm (goClean s) := by
  rw [goClean_eq]
  split
  · exact Or.inl rfl
  · next hne =>
    have hbp := goStack_rev_bodyPiece s
    have hok := goStack_stackOK s
    by_cases hst : (goStack s).reverse = []
    · rw [hst] at hne ⊢
      cases hr : isRooted s with
      | false => rw [hr] at hne; exact absurd rfl hne
      | true => exact Or.inr (Or.inl rfl)
    · refine Or.inr (Or.inr ?_)
      rw [bodyPieces_bufOf hst hbp, isRooted_bufOf hbp]
      exact ⟨fun p hp => ⟨(hbp p hp).1, (hbp p hp).2.1⟩,
        fun hr p hp => hok.1 hr p (List.mem_reverse.1 hp), List.pairwise_reverse.2 hok.2⟩

/-! ### `goClean` fixes normal forms -/

theorem foldl_goStep_normal (rooted : Bool) (ps : List Str) :
    ∀ st : List Str, (∀ p ∈ ps, p ≠ [] ∧ p ≠ ['.']) →
      (rooted = true → ∀ p ∈ ps, p ≠ dotdot) →
      ps.Pairwise (fun a b => b = dotdot → a = dotdot) →
      (dotdot ∈ ps → ∀ q ∈ st, q = dotdot) →
      ps.foldl (goStep rooted) st = ps.reverse ++ st := by
  induction ps with
  | nil => intro st _ _ _ _; rfl
  | cons p ps ih =>
    intro st h1 h2 h3 h4
    have hp := h1 p List.mem_cons_self
    have hstep : goStep rooted st p = p :: st := by
      refine goStep_push hp.1 hp.2 fun hdd => ⟨?_, fun top ht => ?_⟩
      · cases rooted with
        | false => rfl
        | true => exact absurd hdd (h2 rfl p List.mem_cons_self)
      · exact h4 (hdd ▸ List.mem_cons_self) top (List.mem_of_mem_head? ht)
    rw [List.foldl_cons, hstep,
      ih (p :: st) (fun q hq => h1 q (List.mem_cons_of_mem _ hq))
        (fun hr q hq => h2 hr q (List.mem_cons_of_mem _ hq)) (List.pairwise_cons.1 h3).2 ?_]
    · simp
    · intro hmem q hq
      rcases List.mem_cons.1 hq with rfl | hq
      · exact (List.pairwise_cons.1 h3).1 dotdot hmem rfl
      · exact h4 (List.mem_cons_of_mem _ hmem) q hq

theorem splitOn_eq_bodyPieces (t : Str) :
    splitOn '/' t = (if isRooted t then [[]] else []) ++ bodyPieces t := by
  unfold bodyPieces
  cases t with
  | nil => rfl
  | cons c cs =>
    by_cases h : c = '/'
    · subst h
      simp [isRooted_cons, splitOn_cons_sep]
    · simp [isRooted_cons, h]

theorem bufOf_bodyPieces (t : Str) : bufOf (isRooted t) (bodyPieces t) = t := by
  have h := joinWith_splitOn '/' t
  rw [splitOn_eq_bodyPieces] at h
  unfold bufOf
  cases hr : isRooted t with
  | false => rwa [hr] at h
  | true =>
    rw [hr] at h
    cases hb : bodyPieces t with
    | nil => rw [hb] at h; rw [← h] at hr; cases hr
    | cons x r => rwa [hb] at h

theorem goClean_of_normalForm {t : Str} (h : NormalForm t) : goClean t = t := by
  rcases h with rfl | rfl | ⟨h1, h2, h3⟩
  · decide
  · decide
  · have hstack : goStack t = (bodyPieces t).reverse := by
      unfold goStack
      rw [splitOn_eq_bodyPieces, List.foldl_append]
      have h0 : List.foldl (goStep (isRooted t)) [] (if isRooted t = true then [[]] else []) = [] := by
        cases isRooted t <;> rfl
      rw [h0, foldl_goStep_normal (isRooted t) (bodyPieces t) [] h1 h2 h3 (fun _ _ h => nomatch h)]
      exact List.append_nil _
    have hne : t ≠ [] := by
      rintro rfl
      exact (h1 [] (by decide)).1 rfl
    rw [goClean_eq, hstack, List.reverse_reverse, bufOf_bodyPieces, if_neg hne]

theorem goClean_eq_self_iff (t : Str) : goClean t = t ↔ NormalForm t :=
  ⟨fun h => h ▸ goClean_normalForm t, goClean_of_normalForm⟩

end Rivia.Lemmas
