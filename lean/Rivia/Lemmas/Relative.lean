/-
  Rivia.Lemmas.Relative — facts about `relLoop` / `relative` on clean absolute paths
  (`render (.root :: ns.map .normal)`), used by `Rivia.Props.C16`.
-/
import Rivia.Lemmas.PathBasics
import Rivia.Lemmas.Clean

namespace Rivia.Lemmas
open Rivia Rivia.Str Rivia.Spec

/-- a well-formed component name (same as `Props.WfName`) -/
def Wf (n : Str) : Prop := n ≠ [] ∧ '/' ∉ n ∧ n ≠ ['.'] ∧ n ≠ ['.', '.']

theorem Wf.bodyPiece {n : Str} (h : Wf n) : BodyPiece n := ⟨h.1, h.2.2.1, h.2.1⟩

theorem bodyComp_of_wf {n : Str} (h : Wf n) : bodyComp n = some (.normal n) := by
  rw [bodyComp_of_bodyPiece h.bodyPiece, if_neg h.2.2.2]

/-- length of the common prefix (same as `Props.commonLen`) -/
def cLen : List Str → List Str → Nat
  | a :: as, b :: bs => if a = b then cLen as bs + 1 else 0
  | _, _ => 0

theorem cLen_spec (ps bs : List Str) :
    cLen ps bs ≤ ps.length ∧ cLen ps bs ≤ bs.length ∧
      ps.take (cLen ps bs) = bs.take (cLen ps bs) := by
  induction ps generalizing bs with
  | nil => exact ⟨Nat.le_refl 0, Nat.zero_le _, rfl⟩
  | cons a as ih =>
    cases bs with
    | nil => exact ⟨Nat.zero_le _, Nat.le_refl 0, rfl⟩
    | cons b bs =>
      rw [cLen]
      split
      · next h =>
        obtain ⟨h1, h2, h3⟩ := ih bs
        exact ⟨Nat.succ_le_succ h1, Nat.succ_le_succ h2,
          by rw [h, List.take_succ_cons, List.take_succ_cons, h3]⟩
      · exact ⟨Nat.zero_le _, Nat.zero_le _, rfl⟩

theorem shape_ne_nil {ps bs : List Str} (hne : ps ≠ bs) :
    List.replicate (bs.length - cLen ps bs) dotdot ++ ps.drop (cLen ps bs) ≠ [] := by
  intro h
  obtain ⟨h1, h2, h3⟩ := cLen_spec ps bs
  obtain ⟨ha, hb⟩ := List.append_eq_nil_iff.1 h
  have ha : bs.length - cLen ps bs = 0 := by simpa using ha
  have hb : ps.length ≤ cLen ps bs := List.drop_eq_nil_iff.1 hb
  rw [List.take_of_length_le hb, List.take_of_length_le (by omega)] at h3
  exact hne h3

/-! ### rendering -/

theorem map_str_normal (ns : List Str) : (ns.map Comp.normal).map Comp.str = ns := by
  induction ns with
  | nil => rfl
  | cons a as ih => rw [List.map_cons, List.map_cons, ih]; rfl

theorem bodyC_shape (m : Nat) {qs : List Str} (h : ∀ n ∈ qs, Wf n) :
    ∀ c ∈ List.replicate m Comp.parent ++ qs.map Comp.normal, BodyC c := by
  intro c hc
  rcases List.mem_append.1 hc with hc | hc
  · rw [(List.mem_replicate.1 hc).2]; exact ⟨by decide, by decide⟩
  · obtain ⟨n, hn, rfl⟩ := List.mem_map.1 hc
    exact ⟨bodyComp_of_wf (h n hn), (h n hn).2.1⟩

/-- `absPath ns` is `/` followed by the names joined with `/`. -/
theorem render_root_normals {ns : List Str} (h : ∀ n ∈ ns, Wf n) :
    render (.root :: ns.map Comp.normal) = bufOf true ns := by
  rw [render_root_body (body := ns.map Comp.normal) (bodyC_shape 0 h), map_str_normal]

theorem render_shape (m : Nat) {qs : List Str} (h : ∀ n ∈ qs, Wf n) :
    render (List.replicate m Comp.parent ++ qs.map Comp.normal) =
      bufOf false (List.replicate m dotdot ++ qs) := by
  rw [render_body (bodyC_shape m h), List.map_append, map_str_normal, List.map_replicate]
  rfl

theorem bodyPiece_shape {m : Nat} {qs : List Str} (h : ∀ n ∈ qs, Wf n) :
    ∀ q ∈ List.replicate m dotdot ++ qs, BodyPiece q := by
  intro q hq
  rcases List.mem_append.1 hq with hq | hq
  · rw [(List.mem_replicate.1 hq).2]; exact bodyPiece_dotdot
  · exact (h q hq).bodyPiece

/-! ### absolute clean paths -/

theorem filterMap_bodyComp_wf {ns : List Str} (h : ∀ n ∈ ns, Wf n) :
    ns.filterMap bodyComp = ns.map Comp.normal := by
  induction ns with
  | nil => rfl
  | cons a as ih =>
    rw [List.filterMap_cons_some (bodyComp_of_wf (h a List.mem_cons_self)),
      ih (fun n hn => h n (List.mem_cons_of_mem _ hn))]
    rfl

theorem components_abs {ns : List Str} (h : ∀ n ∈ ns, Wf n) :
    components (bufOf true ns) = .root :: ns.map Comp.normal := by
  rw [components_bufOf (fun p hp => (h p hp).bodyPiece), filterMap_bodyComp_wf h]
  rfl

theorem normalForm_abs {ns : List Str} (h : ∀ n ∈ ns, Wf n) : NormalForm (bufOf true ns) := by
  cases ns with
  | nil => exact Or.inr (Or.inl (by decide))
  | cons a as =>
    have hb : ∀ p ∈ a :: as, BodyPiece p := fun p hp => (h p hp).bodyPiece
    refine Or.inr (Or.inr ?_)
    rw [bodyPieces_bufOf (List.cons_ne_nil _ _) hb]
    refine ⟨fun p hp => ⟨(h p hp).1, (h p hp).2.2.1⟩, fun _ p hp => (h p hp).2.2.2, ?_⟩
    exact List.pairwise_of_forall_mem_list (fun _ _ b hb' hd => absurd hd (h b hb').2.2.2)

theorem isRooted_abs (ns : List Str) : isRooted (bufOf true ns) = true := rfl

/-! ### relLoop -/

theorem relLoop_nil_left (ys acc : List Comp) :
    relLoop [] ys acc = acc ++ List.replicate ys.length Comp.parent := by
  induction ys generalizing acc with
  | nil => simp [relLoop]
  | cons y ys ih =>
    simp only [relLoop, ih, List.length_cons, List.replicate_succ, List.append_assoc,
      List.cons_append, List.nil_append]

theorem relLoop_cons_self (a : Comp) (xs ys : List Comp) :
    relLoop (a :: xs) (a :: ys) [] = relLoop xs ys [] := by
  rw [relLoop, if_pos ⟨rfl, rfl⟩]

theorem relLoop_cons_of_ne {a b : Comp} (h : a ≠ b) (xs ys : List Comp) :
    relLoop (a :: xs) (b :: ys) [] = List.replicate (ys.length + 1) Comp.parent ++ a :: xs := by
  rw [relLoop, if_neg (fun h' => h h'.2), List.nil_append, List.replicate_succ,
    ← List.map_const']

theorem relLoop_normals (ps bs : List Str) :
    relLoop (ps.map Comp.normal) (bs.map Comp.normal) [] =
      List.replicate (bs.length - cLen ps bs) Comp.parent ++
        (ps.drop (cLen ps bs)).map Comp.normal := by
  induction ps generalizing bs with
  | nil => rw [List.map_nil, relLoop_nil_left, List.length_map]; exact (List.append_nil _).symm
  | cons a as ih =>
    cases bs with
    | nil => rfl
    | cons b bs =>
      rw [List.map_cons, List.map_cons, cLen]
      by_cases hab : a = b
      · subst hab
        rw [relLoop_cons_self, ih bs, if_pos rfl, List.length_cons, Nat.add_sub_add_right,
          List.drop_succ_cons]
      · rw [relLoop_cons_of_ne (fun h => hab (Comp.normal.inj h)), if_neg hab, List.length_map]
        rfl

theorem relative_abs {ps bs : List Str} (hp : ∀ n ∈ ps, Wf n) (hb : ∀ n ∈ bs, Wf n)
    (hne : ps ≠ bs) :
    relative (bufOf true ps) (bufOf true bs) =
      bufOf false (List.replicate (bs.length - cLen ps bs) dotdot ++ ps.drop (cLen ps bs)) := by
  unfold relative
  rw [components_abs hp, components_abs hb, if_neg, relLoop_cons_self, relLoop_normals, render_shape]
  · exact fun n hn => hp n (List.mem_of_mem_drop hn)
  · intro h
    exact hne ((List.map_inj_right fun _ _ e => Comp.normal.inj e).1 (List.cons.inj h).2)

/-! ### joining and cleaning -/

theorem push_abs_rel {bs rs : List Str} (hb : ∀ q ∈ bs, BodyPiece q) (hr : ∀ q ∈ rs, BodyPiece q)
    (hne : rs ≠ []) : push (bufOf true bs) (bufOf false rs) = bufOf true (bs ++ rs) := by
  have hroot : isRooted (bufOf false rs) = false := isRooted_bufOf hr
  rcases eq_nil_or_snoc bs with rfl | ⟨mid, t, rfl⟩
  · exact push_root hroot
  · have ht : BodyPiece t := hb t List.mem_concat_self
    rw [push_of_not_endsWithSlash hroot (bufOf_snoc_ne_nil ht.1) (endsWithSlash_bufOf_snoc ht)]
    unfold bufOf
    rw [joinWith_append '/' (List.concat_ne_nil _ _) hne, List.append_assoc]
    rfl

theorem foldl_goStep_wf (r : Bool) {ps : List Str} (h : ∀ n ∈ ps, Wf n) (st : List Str) :
    ps.foldl (goStep r) st = ps.reverse ++ st := by
  induction ps generalizing st with
  | nil => rfl
  | cons p ps ih =>
    have hp := h p List.mem_cons_self
    rw [List.foldl_cons, goStep_push hp.1 hp.2.2.1 (fun e => absurd e hp.2.2.2),
      ih (fun n hn => h n (List.mem_cons_of_mem _ hn))]
    simp

theorem foldl_goStep_dotdots (m : Nat) (st : List Str) (h : ∀ q ∈ st, q ≠ dotdot) :
    (List.replicate m dotdot).foldl (goStep true) st = st.drop m := by
  induction m generalizing st with
  | zero => rfl
  | succ m ih =>
    rw [List.replicate_succ, List.foldl_cons]
    cases st with
    | nil => rw [goStep_dotdot_nil, if_pos rfl, ih [] h, List.drop_nil, List.drop_nil]
    | cons top below =>
      rw [goStep_dotdot_cons, if_neg (h top List.mem_cons_self),
        ih below (fun q hq => h q (List.mem_cons_of_mem _ hq))]
      rfl

theorem goClean_navigate {ps bs : List Str} (hp : ∀ n ∈ ps, Wf n) (hb : ∀ n ∈ bs, Wf n)
    (hne : ps ≠ bs) :
    goClean (bufOf true
      (bs ++ (List.replicate (bs.length - cLen ps bs) dotdot ++ ps.drop (cLen ps bs)))) =
      bufOf true ps := by
  obtain ⟨_, hk, htake⟩ := cLen_spec ps bs
  have hd : ∀ n ∈ ps.drop (cLen ps bs), Wf n := fun n hn => hp n (List.mem_of_mem_drop hn)
  have hall : ∀ q ∈ bs ++ (List.replicate (bs.length - cLen ps bs) dotdot ++ ps.drop (cLen ps bs)),
      BodyPiece q := by
    intro q hq
    rcases List.mem_append.1 hq with hq | hq
    · exact (hb q hq).bodyPiece
    · exact bodyPiece_shape hd q hq
  have hs : splitOn '/' (bufOf true
      (bs ++ (List.replicate (bs.length - cLen ps bs) dotdot ++ ps.drop (cLen ps bs)))) = _ :=
    splitSlash_bufOf (rooted := true)
      (fun h => shape_ne_nil hne (List.append_eq_nil_iff.1 h).2) hall
  have hstack : goStack (bufOf true
      (bs ++ (List.replicate (bs.length - cLen ps bs) dotdot ++ ps.drop (cLen ps bs)))) =
      ps.reverse := by
    unfold goStack
    rw [hs, isRooted_abs]
    simp only [if_true, List.cons_append, List.nil_append, List.foldl_cons, List.foldl_append]
    rw [goStep_skip (Or.inl rfl), foldl_goStep_wf true hb, List.append_nil, foldl_goStep_dotdots,
      foldl_goStep_wf true hd, List.drop_reverse, ← List.reverse_append,
      Nat.sub_sub_self hk, ← htake, List.take_append_drop]
    exact fun q hq => (hb q (List.mem_reverse.1 hq)).2.2.2
  rw [goClean_eq, hstack, isRooted_abs, List.reverse_reverse, if_neg]
  simp [bufOf]

end Rivia.Lemmas
