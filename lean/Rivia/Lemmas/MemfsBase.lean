/-
  Rivia.Lemmas.MemfsBase — what every lemma family about the Memfs model starts from: keys and their
  string form, association lists (`alLookup` / `alInsert` / `alErase`), child-name lists of entries.
-/
import Rivia.Spec.MemfsJudge
import Rivia.Lemmas.Relative

namespace Rivia.Lemmas
open Rivia Rivia.Str Rivia.Memfs Rivia.Spec

/-! ### keys and their string form -/

/-- every name of a key is a well-formed component name -/
def WfKey (p : FsPath) : Prop := ∀ n ∈ p, Wf n

instance (n : Str) : Decidable (Wf n) := by unfold Wf; infer_instance
instance (p : FsPath) : Decidable (WfKey p) := by unfold WfKey; infer_instance

theorem wfKey_nil : WfKey [] := fun _ h => nomatch h

theorem wfKey_singleton {n : Str} (h : Wf n) : WfKey [n] := by
  intro x hx
  rw [List.mem_singleton] at hx
  exact hx ▸ h

theorem WfKey.append {p q : FsPath} (hp : WfKey p) (hq : WfKey q) : WfKey (p ++ q) := by
  intro n hn
  rcases List.mem_append.1 hn with h | h
  · exact hp n h
  · exact hq n h

theorem WfKey.left {p q : FsPath} (h : WfKey (p ++ q)) : WfKey p :=
  fun n hn => h n (List.mem_append_left _ hn)

theorem WfKey.right {p q : FsPath} (h : WfKey (p ++ q)) : WfKey q :=
  fun n hn => h n (List.mem_append_right _ hn)

theorem WfKey.bodyPiece {p : FsPath} (h : WfKey p) : ∀ q ∈ p, BodyPiece q :=
  fun q hq => (h q hq).bodyPiece

theorem renderP_eq_bufOf (p : FsPath) : renderP p = bufOf true p := rfl

theorem renderP_ne_nil (p : FsPath) : renderP p ≠ [] := by simp [renderP]

theorem toPath_renderP {p : FsPath} (h : WfKey p) : toPath (renderP p) = p := by
  unfold toPath
  by_cases hp : p = []
  · subst hp; decide
  · rw [renderP_eq_bufOf, splitSlash_bufOf hp h.bodyPiece]
    simp only [if_true, List.singleton_append, List.filter_cons, ne_eq, not_true_eq_false,
      decide_false, Bool.false_eq_true, if_false]
    rw [List.filter_eq_self]
    intro a ha
    simpa using (h a ha).1

theorem baseName_snoc (p : FsPath) (n : Str) : baseName (p ++ [n]) = n := by simp [baseName]

theorem dropLast_append_baseName {p : FsPath} (h : p ≠ []) : p.dropLast ++ [baseName p] = p := by
  rcases eq_nil_or_snoc p with rfl | ⟨mid, t, rfl⟩
  · exact absurd rfl h
  · simp [baseName]

theorem baseName_mem {p : FsPath} (hp : p ≠ []) : baseName p ∈ p := by
  rcases eq_nil_or_snoc p with rfl | ⟨mid, t, rfl⟩
  · exact absurd rfl hp
  · simp [baseName]

theorem baseName_append {p r : FsPath} (hr : r ≠ []) : baseName (p ++ r) = baseName r := by
  rcases eq_nil_or_snoc r with rfl | ⟨mid, t, rfl⟩
  · exact absurd rfl hr
  · rw [← List.append_assoc, baseName_snoc, baseName_snoc]

theorem snoc_inj {k k' : FsPath} {n n' : Str} (h : k ++ [n] = k' ++ [n']) : k = k' ∧ n = n' := by
  have := List.append_inj' h rfl
  exact ⟨this.1, by simpa using this.2⟩

theorem snoc_eq_dropLast {k p : FsPath} {n : Str} (h : k ++ [n] = p) :
    k = p.dropLast ∧ n = baseName p := by
  subst h
  simp [baseName]

/-! ### association lists -/

section AL
universe u
variable {β : Type u}

theorem alLookup_mem {k : FsPath} {v : β} {l : List (FsPath × β)} (h : alLookup k l = some v) :
    (k, v) ∈ l := by
  induction l with
  | nil => simp [alLookup] at h
  | cons x r ih =>
    obtain ⟨k', v'⟩ := x
    unfold alLookup at h
    split at h
    · rename_i hk; subst hk; cases h; simp
    · exact List.mem_cons_of_mem _ (ih h)

theorem alLookup_of_mem {k : FsPath} {v : β} {l : List (FsPath × β)}
    (hn : (l.map (·.1)).Nodup) (h : (k, v) ∈ l) : alLookup k l = some v := by
  induction l with
  | nil => simp at h
  | cons x r ih =>
    obtain ⟨k', v'⟩ := x
    simp only [List.map_cons, List.nodup_cons] at hn
    unfold alLookup
    rcases List.mem_cons.1 h with h | h
    · cases h; simp
    · have : k' ≠ k := by
        intro e; subst e
        exact hn.1 (List.mem_map.2 ⟨(k', v), h, rfl⟩)
      rw [if_neg this]
      exact ih hn.2 h

theorem alLookup_isSome_iff_mem_keys {k : FsPath} {l : List (FsPath × β)} :
    (alLookup k l).isSome = true ↔ k ∈ l.map (·.1) := by
  induction l with
  | nil => simp [alLookup]
  | cons x r ih =>
    obtain ⟨k', v'⟩ := x
    unfold alLookup
    by_cases hk : k' = k
    · subst hk; simp
    · rw [if_neg hk, ih]
      simp [Ne.symm hk]

theorem alLookup_eq_none_iff {k : FsPath} {l : List (FsPath × β)} :
    alLookup k l = none ↔ k ∉ l.map (·.1) := by
  rw [← alLookup_isSome_iff_mem_keys]
  cases alLookup k l <;> simp

theorem alLookup_alInsert (k k' : FsPath) (v : β) (l : List (FsPath × β)) :
    alLookup k (alInsert k' v l) = if k' = k then some v else alLookup k l := by
  induction l with
  | nil => simp [alInsert, alLookup]
  | cons x r ih =>
    obtain ⟨k1, v1⟩ := x
    unfold alInsert
    by_cases h1 : k1 = k'
    · subst h1
      rw [if_pos rfl]
      by_cases h2 : k1 = k
      · simp [alLookup, h2]
      · simp [alLookup, h2]
    · rw [if_neg h1]
      by_cases h2 : k1 = k
      · subst h2
        have : ¬ k' = k1 := fun e => h1 e.symm
        simp [alLookup, this]
      · simp only [alLookup, h2, if_false]
        exact ih

theorem alLookup_alInsert_self (k : FsPath) (v : β) (l : List (FsPath × β)) :
    alLookup k (alInsert k v l) = some v := by
  rw [alLookup_alInsert, if_pos rfl]

theorem alLookup_alInsert_ne {k k' : FsPath} (h : k' ≠ k) (v : β) (l : List (FsPath × β)) :
    alLookup k (alInsert k' v l) = alLookup k l := by
  rw [alLookup_alInsert, if_neg h]

theorem alLookup_alErase_ne {k k' : FsPath} (h : k' ≠ k) (l : List (FsPath × β)) :
    alLookup k (alErase k' l) = alLookup k l := by
  induction l with
  | nil => rfl
  | cons x r ih =>
    obtain ⟨k1, v1⟩ := x
    unfold alErase
    by_cases h1 : k1 = k'
    · subst h1
      rw [if_pos rfl]
      simp [alLookup, h]
    · rw [if_neg h1]
      unfold alLookup
      by_cases h2 : k1 = k
      · simp [h2]
      · simp only [h2, if_false]; exact ih

theorem keys_alInsert (k : FsPath) (v : β) (l : List (FsPath × β)) :
    (alInsert k v l).map (·.1) = if k ∈ l.map (·.1) then l.map (·.1) else l.map (·.1) ++ [k] := by
  induction l with
  | nil => simp [alInsert]
  | cons x r ih =>
    obtain ⟨k1, v1⟩ := x
    unfold alInsert
    by_cases h1 : k1 = k
    · subst h1; simp
    · rw [if_neg h1]
      simp only [List.map_cons, ih, List.mem_cons]
      have : ¬ k = k1 := fun e => h1 e.symm
      by_cases h2 : k ∈ r.map (·.1)
      · simp [h2]
      · simp [h2, this]

theorem nodup_alInsert {k : FsPath} {v : β} {l : List (FsPath × β)} (h : (l.map (·.1)).Nodup) :
    ((alInsert k v l).map (·.1)).Nodup := by
  rw [keys_alInsert]
  split
  · exact h
  · rename_i hk
    rw [List.nodup_append]
    refine ⟨h, by simp, ?_⟩
    intro a ha b hb
    simp at hb; subst hb
    intro e; subst e; exact hk ha

theorem keys_alErase_sublist (k : FsPath) (l : List (FsPath × β)) :
    ((alErase k l).map (·.1)).Sublist (l.map (·.1)) := by
  induction l with
  | nil => simp [alErase]
  | cons x r ih =>
    obtain ⟨k1, v1⟩ := x
    unfold alErase
    split
    · simp
    · simpa using ih

theorem nodup_alErase {k : FsPath} {l : List (FsPath × β)} (h : (l.map (·.1)).Nodup) :
    ((alErase k l).map (·.1)).Nodup := (keys_alErase_sublist k l).nodup h

theorem alLookup_alErase_self {k : FsPath} {l : List (FsPath × β)} (h : (l.map (·.1)).Nodup) :
    alLookup k (alErase k l) = none := by
  induction l with
  | nil => rfl
  | cons x r ih =>
    obtain ⟨k1, v1⟩ := x
    simp only [List.map_cons, List.nodup_cons] at h
    unfold alErase
    by_cases h1 : k1 = k
    · subst h1
      rw [if_pos rfl, alLookup_eq_none_iff]
      exact h.1
    · rw [if_neg h1]
      simp only [alLookup, h1, if_false]
      exact ih h.2

theorem alLookup_alErase {k k' : FsPath} {l : List (FsPath × β)} (h : (l.map (·.1)).Nodup) :
    alLookup k (alErase k' l) = if k' = k then none else alLookup k l := by
  by_cases hk : k' = k
  · subst hk; rw [if_pos rfl, alLookup_alErase_self h]
  · rw [if_neg hk, alLookup_alErase_ne hk]

/-- number of keys satisfying a predicate -/
def keyCount (p : FsPath → Bool) (l : List (FsPath × β)) : Nat := (l.filter (fun kv => p kv.1)).length

theorem keyCount_le (p : FsPath → Bool) (l : List (FsPath × β)) : keyCount p l ≤ l.length :=
  List.length_filter_le _ _

theorem keyCount_alInsert_false {p : FsPath → Bool} {k : FsPath} (hk : p k = false) (v : β)
    (l : List (FsPath × β)) : keyCount p (alInsert k v l) = keyCount p l := by
  induction l with
  | nil => simp [alInsert, keyCount, hk]
  | cons x r ih =>
    obtain ⟨k1, v1⟩ := x
    unfold alInsert
    by_cases h1 : k1 = k
    · subst h1
      simp [keyCount, hk]
    · rw [if_neg h1]
      unfold keyCount at ih ⊢
      simp only [List.filter_cons]
      split <;> simp [ih]

theorem keyCount_alErase_true {p : FsPath → Bool} {k : FsPath} (hk : p k = true)
    {l : List (FsPath × β)} (hm : k ∈ l.map (·.1)) :
    keyCount p (alErase k l) + 1 = keyCount p l := by
  induction l with
  | nil => simp at hm
  | cons x r ih =>
    obtain ⟨k1, v1⟩ := x
    unfold alErase
    by_cases h1 : k1 = k
    · subst h1
      simp [keyCount, hk]
    · rw [if_neg h1]
      have hm' : k ∈ r.map (·.1) := by
        simp only [List.map_cons, List.mem_cons] at hm
        rcases hm with h | h
        · exact absurd h.symm h1
        · exact h
      have := ih hm'
      unfold keyCount at this ⊢
      simp only [List.filter_cons]
      split
      · simp only [List.length_cons]; omega
      · exact this

theorem mem_alInsert {kv : FsPath × β} {k : FsPath} {v : β} {l : List (FsPath × β)}
    (h : kv ∈ alInsert k v l) : kv = (k, v) ∨ kv ∈ l := by
  induction l with
  | nil => simp only [alInsert, List.mem_singleton] at h; exact Or.inl h
  | cons x r ih =>
    obtain ⟨k0, v0⟩ := x
    simp only [alInsert] at h
    split at h
    · rcases List.mem_cons.1 h with h | h
      · exact Or.inl h
      · exact Or.inr (List.mem_cons_of_mem _ h)
    · rcases List.mem_cons.1 h with h | h
      · exact Or.inr (h ▸ List.mem_cons_self)
      · exact (ih h).imp_right (List.mem_cons_of_mem _)

theorem mem_keys_of_mem {l : List (FsPath × β)} {k : FsPath} {v : β} (h : (k, v) ∈ l) : k ∈ l.map (·.1) :=
  List.mem_map.2 ⟨(k, v), h, rfl⟩

theorem lookup_isSome_of_mem_keys {l : List (FsPath × β)} {k : FsPath} (h : k ∈ l.map (·.1)) :
    (alLookup k l).isNone = false := by
  cases hl : alLookup k l with
  | none => exact absurd h (alLookup_eq_none_iff.1 hl)
  | some v => rfl

theorem isSome_alInsert (k k0 : FsPath) (v0 : β) (l : List (FsPath × β)) :
    (alLookup k (alInsert k0 v0 l)).isSome = true ↔ k0 = k ∨ (alLookup k l).isSome = true := by
  rw [alLookup_alInsert]
  split
  · rename_i h; simp [h]
  · rename_i h; simp [h]

theorem length_alInsert_of_mem {k : FsPath} {v : β} {l : List (FsPath × β)} (h : k ∈ l.map (·.1)) :
    (alInsert k v l).length = l.length := by
  have := congrArg List.length (keys_alInsert k v l)
  rw [if_pos h, List.length_map, List.length_map] at this
  exact this

theorem alErase_of_not_mem {k : FsPath} {l : List (FsPath × β)} (h : k ∉ l.map (·.1)) :
    alErase k l = l := by
  induction l with
  | nil => rfl
  | cons x xs ih =>
    obtain ⟨a, b⟩ := x
    simp only [List.map_cons, List.mem_cons, not_or] at h
    unfold alErase
    rw [if_neg (fun e => h.1 e.symm), ih h.2]

theorem alErase_of_lookup_none {k : FsPath} {l : List (FsPath × β)} (h : alLookup k l = none) :
    alErase k l = l :=
  alErase_of_not_mem (alLookup_eq_none_iff.1 h)

theorem length_alErase_of_mem {k : FsPath} {l : List (FsPath × β)} (h : k ∈ l.map (·.1)) :
    (alErase k l).length + 1 = l.length := by
  induction l with
  | nil => cases h
  | cons x xs ih =>
    obtain ⟨a, b⟩ := x
    unfold alErase
    by_cases h1 : a = k
    · rw [if_pos h1]; rfl
    · rw [if_neg h1, List.length_cons, List.length_cons, ih]
      rcases List.mem_cons.1 h with h | h
      · exact absurd h.symm h1
      · exact h

theorem alErase_eq_filter {k : FsPath} {l : List (FsPath × β)} (nd : (l.map (·.1)).Nodup) :
    alErase k l = l.filter (fun kv => kv.1 ≠ k) := by
  induction l with
  | nil => rfl
  | cons kv l ih =>
    obtain ⟨k', v'⟩ := kv
    simp only [List.map_cons, List.nodup_cons] at nd
    simp only [alErase]
    split
    · rename_i hk; subst hk
      rw [List.filter_cons_of_neg (by simp)]
      symm
      rw [List.filter_eq_self]
      intro a ha
      have : a.1 ≠ k' := fun h => nd.1 (h ▸ List.mem_map.2 ⟨a, ha, rfl⟩)
      simpa using this
    · rename_i hk
      rw [List.filter_cons_of_pos (by simpa using hk), ih nd.2]

theorem alInsert_eq_map {k : FsPath} (v : β) {l : List (FsPath × β)} (nd : (l.map (·.1)).Nodup)
    (hk : k ∈ l.map (·.1)) :
    alInsert k v l = l.map (fun kv => if kv.1 = k then (k, v) else kv) := by
  induction l with
  | nil => simp at hk
  | cons kv l ih =>
    obtain ⟨k', v'⟩ := kv
    simp only [List.map_cons, List.nodup_cons] at nd
    simp only [alInsert, List.map_cons]
    split
    · rename_i h; subst h
      congr 1
      have : l.map (fun kv => if kv.1 = k' then (k', v) else kv) = l.map id := by
        apply List.map_congr_left
        intro a ha
        have : a.1 ≠ k' := fun h => nd.1 (h ▸ List.mem_map.2 ⟨a, ha, rfl⟩)
        simp [this]
      rw [this, List.map_id]
    · rename_i h
      congr 1
      apply ih nd.2
      simp only [List.map_cons, List.mem_cons] at hk
      rcases hk with hk | hk
      · exact absurd hk.symm h
      · exact hk

theorem alLookup_map (k : FsPath) {γ : Type _} (f : FsPath → β → γ) (l : List (FsPath × β)) :
    alLookup k (l.map (fun kv => (kv.1, f kv.1 kv.2))) = (alLookup k l).map (f k) := by
  induction l with
  | nil => rfl
  | cons x xs ih =>
    obtain ⟨a, b⟩ := x
    simp only [List.map_cons, alLookup]
    by_cases h : a = k
    · subst h; rw [if_pos rfl, if_pos rfl]; rfl
    · rw [if_neg h, if_neg h]; exact ih

theorem keys_map_if (P : FsPath → Bool) (f : β → β) (l : List (FsPath × β)) :
    (l.map (fun kv => if P kv.1 then (kv.1, f kv.2) else kv)).map (·.1) = l.map (·.1) := by
  rw [List.map_map]
  exact List.map_congr_left fun kv _ => by simp only [Function.comp]; split <;> rfl

theorem alLookup_append (k : FsPath) (a b : List (FsPath × β)) :
    alLookup k (a ++ b) = (alLookup k a).or (alLookup k b) := by
  induction a with
  | nil => simp [alLookup]
  | cons x r ih =>
    obtain ⟨k1, v1⟩ := x
    simp only [List.cons_append, alLookup]
    by_cases h : k1 = k
    · simp [h]
    · simp only [h, if_false]; exact ih

theorem all_alInsert (P : FsPath × β → Bool) (k : FsPath) (v : β) (l : List (FsPath × β))
    (hl : l.all P = true) (hv : P (k, v) = true) : (alInsert k v l).all P = true := by
  induction l with
  | nil => simp [alInsert, hv]
  | cons x xs ih =>
    obtain ⟨a, b⟩ := x
    simp only [List.all_cons, Bool.and_eq_true] at hl
    simp only [alInsert]
    split
    · simp only [List.all_cons, Bool.and_eq_true]; exact ⟨hv, hl.2⟩
    · simp only [List.all_cons, Bool.and_eq_true]; exact ⟨hl.1, ih hl.2⟩

end AL

theorem alInsert_alInsert {β} (k : FsPath) (a b : β) (l : List (FsPath × β)) :
    alInsert k b (alInsert k a l) = alInsert k b l := by
  induction l with
  | nil => simp [alInsert]
  | cons kv r ih =>
    obtain ⟨k0, v0⟩ := kv
    by_cases h0 : k0 = k
    · simp [alInsert, h0]
    · simp [alInsert, h0, ih]

theorem alLookup_filter_key {β} (f : FsPath → Bool) (q : FsPath) (l : List (FsPath × β)) :
    alLookup q (l.filter (fun kv => f kv.1)) = if f q then alLookup q l else none := by
  induction l with
  | nil => simp [alLookup]
  | cons kv r ih =>
    obtain ⟨k0, v0⟩ := kv
    by_cases h0 : k0 = q
    · subst h0
      cases hf : f k0 <;> simp [hf, alLookup, ih]
    · cases hf : f k0 <;> simp [hf, alLookup, h0, ih]

/-! ### `insertName` -/

theorem insertName_fst_of_not_mem {n : Str} {l : List Str} (h : n ∉ l) : (insertName n l).1 = true := by
  induction l with
  | nil => rfl
  | cons x xs ih =>
    unfold insertName
    have h1 : n ≠ x := fun e => h (by simp [e])
    have h2 : n ∉ xs := fun e => h (by simp [e])
    rw [if_neg h1]
    split
    · rfl
    · simp [ih h2]

theorem mem_insertName {n m : Str} {l : List Str} : m ∈ (insertName n l).2 ↔ m = n ∨ m ∈ l := by
  induction l with
  | nil => simp [insertName]
  | cons x xs ih =>
    unfold insertName
    split
    · rename_i h; subst h; simp
    · split
      · simp
      · simp only [List.mem_cons, ih]
        constructor
        · rintro (h | h | h) <;> simp [h]
        · rintro (h | h | h) <;> simp [h]

/-! ### the order of child names -/

theorem strLt_iff_lt : ∀ a b : Str, strLt a b = true ↔ a < b
  | [], [] => by simp [strLt]
  | [], _ :: _ => by simp [strLt]
  | _ :: _, [] => by simp [strLt]
  | a :: as, b :: bs => by
    rw [List.cons_lt_cons_iff, strLt, ← strLt_iff_lt as bs, Char.lt_def]
    by_cases h1 : a.val < b.val
    · rw [if_pos h1]; exact ⟨fun _ => Or.inl h1, fun _ => rfl⟩
    · rw [if_neg h1]
      by_cases h2 : a.val > b.val
      · rw [if_pos h2]
        refine ⟨nofun, ?_⟩
        rintro (h | ⟨rfl, _⟩)
        · exact absurd h h1
        · exact absurd h2 (UInt32.lt_irrefl _)
      · rw [if_neg h2]
        have : a = b := Char.ext (UInt32.le_antisymm (UInt32.not_lt.1 h2) (UInt32.not_lt.1 h1))
        subst this
        exact ⟨fun h => Or.inr ⟨rfl, h⟩, fun h => (h.resolve_left h1).2⟩

theorem strLt_irrefl (a : Str) : strLt a a = false := by
  cases h : strLt a a with
  | false => rfl
  | true => exact absurd ((strLt_iff_lt a a).1 h) (List.lt_irrefl a)

theorem strLt_asymm : ∀ (a b : Str), strLt a b = true → strLt b a = false := by
  intro a b h
  cases hb : strLt b a with
  | false => rfl
  | true => exact absurd ((strLt_iff_lt b a).1 hb) (List.lt_asymm ((strLt_iff_lt a b).1 h))

theorem strLt_trans (a b c : Str) (h1 : strLt a b = true) (h2 : strLt b c = true) : strLt a c = true :=
  (strLt_iff_lt a c).2 (List.lt_trans ((strLt_iff_lt a b).1 h1) ((strLt_iff_lt b c).1 h2))

theorem strLt_tricho (a b : Str) : strLt a b = true ∨ a = b ∨ strLt b a = true := by
  by_cases h1 : a < b
  · exact Or.inl ((strLt_iff_lt a b).2 h1)
  · by_cases h2 : b < a
    · exact Or.inr (Or.inr ((strLt_iff_lt b a).2 h2))
    · exact Or.inr (Or.inl (List.le_antisymm (List.not_lt.1 h2) (List.not_lt.1 h1)))

theorem strLt_ne {a b : Str} (h : strLt a b = true) : a ≠ b := by
  intro hab; subst hab; rw [strLt_irrefl] at h; cases h

/-! ### entries -/

/-- listed child names -/
def names (e : Entry) : List Str := e.files.getD []

theorem names_none {e : Entry} (h : e.files = none) : names e = [] := by
  unfold names; rw [h]; rfl

theorem names_some {e : Entry} {fs : List Str} (h : e.files = some fs) : names e = fs := by
  unfold names; rw [h]; rfl

/-- the paths `moveLoop` pushes after moving `e` -/
def kidsOf (e : Entry) : List FsPath :=
  match e.files with
  | some fs => fs.map (fun n => e.path ++ [n])
  | none => []

theorem mem_kidsOf {e : Entry} {x : FsPath} :
    x ∈ kidsOf e ↔ ∃ fs n, e.files = some fs ∧ n ∈ fs ∧ x = e.path ++ [n] := by
  unfold kidsOf
  cases e.files with
  | none => simp
  | some fs =>
    simp only [List.mem_map, Option.some.injEq, exists_and_left, exists_eq_left']
    exact ⟨fun ⟨n, hn, h⟩ => ⟨n, hn, h.symm⟩, fun ⟨n, hn, h⟩ => ⟨n, hn, h.symm⟩⟩

theorem nodup_kidsOf {e : Entry} (h : ∀ fs, e.files = some fs → fs.Nodup) : (kidsOf e).Nodup := by
  unfold kidsOf
  cases hf : e.files with
  | none => exact List.nodup_nil
  | some fs =>
    refine nodup_map_inj (fun a b hab => ?_) (h fs hf)
    exact List.singleton_inj.1 (List.append_cancel_left hab)

/-- `MemfsEntry::remove(name)` -/
def dropName (b : Str) (e : Entry) : Entry := { e with files := e.files.map (·.filter (· ≠ b)) }

theorem removeChild_dir {pe : Entry} (h : pe.dir = true) (b : Str) :
    pe.removeChild b = .ok (dropName b pe) := by
  unfold Entry.removeChild dropName
  rw [if_neg (by simp [h])]
  cases hf : pe.files with
  | none => simp only [Option.map_none]; cases pe; simp_all
  | some fs => simp

theorem removeChild_not_dir {pe : Entry} (h : ¬ pe.dir = true) (b : Str) :
    pe.removeChild b = .err .isNotDir := by
  unfold Entry.removeChild
  rw [if_pos (by simpa using h)]

theorem doFollow_false (e : Entry) : e.doFollow false = e := by
  unfold Entry.doFollow; simp

theorem absM_state (env : Env) (path : Str) (s : State) : (absM env path s).2 = s := by
  unfold Memfs.absM; split <;> rfl

theorem mapVal_snd {α} (f : α → Val) (m : M α) (s : State) : (mapVal f m s).2 = (m s).2 := by
  unfold Memfs.mapVal; split <;> (rename_i heq; rw [heq])

-- answers of the reference are compared by evaluation in the decidable witnesses of Props/
deriving instance DecidableEq for Spec.TreeFs.R

end Rivia.Lemmas
