/-
  Rivia.Lemmas.ContentTree — what a (no-follow) `copy` of a whole tree does to the DATA map:
  a files-only frame calculus (`FFrame`), the per-entry body of `_copy` with the destination key of
  the entry named (`copyBody`: only that key can change, and only when the entry is a regular file,
  which then receives the source bytes), and the loop over a pre-order listing of the source subtree.

  Lives in the C09 "world" (CopyMove / CopyP / CopyTree / SnapshotCopy); it cannot be imported together
  with Rivia.Lemmas.Content (duplicate declaration names), hence `content` is re-declared here in the
  namespace `Rivia.Lemmas.CT`.
-/
import Rivia.Lemmas.SnapshotCopy
import Rivia.Lemmas.InvA

namespace Rivia.Lemmas.CT
open Rivia Rivia.Str Rivia.Memfs Rivia.Spec Rivia.Memfs.M Rivia.Lemmas

theorem bind_ok_inv {α β : Type} {m : M α} {f : α → M β} {s s' : State} {b : β}
    (h : (m >>= f) s = (.ok b, s')) : ∃ a s1, m s = (.ok a, s1) ∧ f a s1 = (.ok b, s') := by
  rw [bind_apply] at h
  cases hr : m s with
  | mk r s1 =>
    rw [hr] at h
    cases r with
    | ok a => exact ⟨a, s1, rfl, h⟩
    | err k => cases h
    | panic => cases h
    | hang => cases h

theorem runList_ok_cons {σ : Type} {step : Entry → σ → Outcome Unit × σ} {e : Entry} {es : List Entry}
    {w w' : σ} (h : runList step (e :: es) w = (.ok (), w')) :
    ∃ w1, step e w = (.ok (), w1) ∧ runList step es w1 = (.ok (), w') := by
  rw [runList] at h
  cases hs : step e w with
  | mk r w1 =>
    rw [hs] at h
    cases r with
    | ok u => cases u; exact ⟨w1, rfl, h⟩
    | err k => cases h
    | panic => cases h
    | hang => cases h

/-- the bytes stored under key `k` (same definition as `Lemmas.content` of Content.lean) -/
abbrev content (s : State) (k : FsPath) : Option File.Bytes := alLookup k s.files

/-! ### files-only frame calculus -/

/-- `m` changes the data map only at keys satisfying `C` (whatever its outcome) -/
def FFrame {α : Type} (C : FsPath → Prop) (m : M α) : Prop :=
  ∀ st k, ¬ C k → alLookup k (m st).2.files = alLookup k st.files

section
variable {α β : Type} {C : FsPath → Prop}

theorem ffr_of_files_eq {m : M α} (h : ∀ st, (m st).2.files = st.files) : FFrame C m := by
  intro st k _; rw [h st]

theorem ffr_pure (a : α) : FFrame C (Pure.pure a : M α) := ffr_of_files_eq (fun _ => rfl)
theorem ffr_mpure (a : α) : FFrame C (M.pure a : M α) := ffr_of_files_eq (fun _ => rfl)
theorem ffr_fail (k : ErrKind) : FFrame C (M.fail k : M α) := ffr_of_files_eq (fun _ => rfl)
theorem ffr_getEntry (p : FsPath) : FFrame C (getEntry p) := ffr_of_files_eq (fun _ => rfl)
theorem ffr_getFile (p : FsPath) : FFrame C (getFile p) := ffr_of_files_eq (fun _ => rfl)
theorem ffr_dirOf (p : FsPath) : FFrame C (dirOf p) := by
  unfold dirOf; split
  · exact ffr_fail _
  · exact ffr_mpure _

theorem ffr_setFile {p : FsPath} (hp : C p) (b : File.Bytes) : FFrame C (setFile p b) := by
  intro st k hk
  show alLookup k (alInsert p b st.files) = _
  exact alLookup_alInsert_ne (fun h => hk (by rw [← h]; exact hp)) _ _

theorem ffr_bind {m : M α} {f : α → M β} (hm : FFrame C m) (hf : ∀ a, FFrame C (f a)) :
    FFrame C (m >>= f) := by
  intro st k hk
  rw [bind_apply]
  have h1 := hm st k hk
  cases hr : m st with
  | mk r s' =>
    rw [hr] at h1
    cases r with
    | ok a => exact ((hf a s') k hk).trans h1
    | err k => exact h1
    | panic => exact h1
    | hang => exact h1

theorem ffr_forM {γ : Type} (l : List γ) (f : γ → M PUnit) (h : ∀ a ∈ l, FFrame C (f a)) :
    FFrame C (l.forM f) := by
  induction l with
  | nil => exact ffr_pure _
  | cons a r ih =>
    show FFrame C (f a >>= fun _ => r.forM f)
    exact ffr_bind (h a (by simp)) (fun _ => ih (fun b hb => h b (List.mem_cons_of_mem _ hb)))

end

/-- `_add` can write data only under the new key, and only when the entry is a regular file -/
theorem ffr_add {C : FsPath → Prop} (e : Entry) (h : (!e.link && e.file) = true → C e.path) :
    FFrame C (add e) := by
  intro st k hk
  rcases InvA.add_state_cases e st with h0 | ⟨_, _, _, _, _, _, _, _, _, h0⟩
  · rw [h0]
  · rw [h0]
    dsimp only
    split
    · rename_i hc
      exact alLookup_alInsert_ne (fun hh => hk (by rw [← hh]; exact h hc)) _ _
    · rfl

theorem ffr_add_nofile {C : FsPath → Prop} (e : Entry) (h : (!e.link && e.file) = false) :
    FFrame C (add e) :=
  ffr_add e (fun h' => by rw [h] at h'; cases h')

theorem ffr_mkdirM {C : FsPath → Prop} (p : FsPath) (mode : Option Nat) : FFrame C (mkdirM p mode) := by
  unfold mkdirM
  apply ffr_forM
  intro q _
  exact ffr_bind (ffr_add_nofile _ rfl) (fun _ => ffr_pure _)

theorem ffr_symlinkAbs {C : FsPath → Prop} (l t : FsPath) : FFrame C (symlinkAbs l t) := by
  unfold symlinkAbs
  refine ffr_bind (ffr_getEntry _) (fun o => ?_)
  split
  · exact ffr_fail _
  · refine ffr_bind (ffr_dirOf _) (fun ldir => ?_)
    refine ffr_bind (ffr_getEntry _) (fun o2 => ?_)
    exact ffr_bind (ffr_add_nofile _ rfl) (fun _ => ffr_pure _)

/-! ### the per-entry body of `_copy`, its destination key named -/

/-- the tail of the file branch of the loop body, from `_add` on -/
def fileTail (K : FsPath) (x : Entry) (fm : Option Nat) : M Unit := do
  let _ ← add (({ x with path := K } : Entry).setMode (fm.getD x.mode))
  if !x.link then
    if (← getFile K).isNone then fail .isNotFile
    else if !x.file then fail .isNotFile
    else match (← getFile x.path) with
      | some b => setFile K b
      | none => fail .doesNotExist

theorem fileTail_ok {K : FsPath} {x : Entry} {fm : Option Nat} {st st' : State}
    (hxl : x.link = false) (hxp : x.path ≠ K)
    (h : fileTail K x fm st = (.ok (), st')) :
    alLookup K st'.files = alLookup x.path st.files := by
  unfold fileTail at h
  obtain ⟨a, s1, hadd, h⟩ := bind_ok_inv h
  have hfr := ffr_add (C := (· = K)) (({ x with path := K } : Entry).setMode (fm.getD x.mode)) (fun _ => rfl) st
    x.path hxp
  rw [hadd] at hfr
  simp only [hxl, Bool.not_false, if_true, getFile_bind_apply] at h
  simp only at hfr
  split at h
  · cases h
  · split at h
    · cases h
    · simp only [getFile_bind_apply] at h
      cases hb : alLookup x.path s1.files with
      | none => rw [hb] at h; cases h
      | some b =>
        rw [hb] at h
        simp only [setFile_apply] at h
        cases h
        rw [← hfr, hb]
        exact alLookup_alInsert_self _ _ _

theorem ffr_fileTail (K : FsPath) (x : Entry) (fm : Option Nat) : FFrame (· = K) (fileTail K x fm) := by
  unfold fileTail
  refine ffr_bind (ffr_add _ (fun _ => rfl)) (fun _ => ?_)
  split
  · refine ffr_bind (ffr_getFile _) (fun o => ?_)
    split
    · exact ffr_fail _
    · split
      · exact ffr_fail _
      · refine ffr_bind (ffr_getFile _) (fun o => ?_)
        split
        · exact ffr_setFile (C := (· = K)) rfl _
        · exact ffr_fail _
  · exact ffr_pure _

/-- the non-directory branch of the loop body of `_copy` up to `k`: the parent of the destination
    key `K` is created when missing (with the mode the options give, else the mode of the source's
    parent) -/
def withParent (c : CopyOpts) (K : FsPath) (x : Entry) (k : M Unit) : M Unit := do
  let dd ← dirOf K
  if (← getEntry dd).isNone then
    let pm ← match copyDirMode c with
      | some m => M.pure m
      | none => do
        let sd ← dirOf x.path
        match (← getEntry sd) with
        | some y => M.pure y.mode
        | none => fail .doesNotExist
    mkdirM dd (some pm)
  k

theorem withParent_run (c : CopyOpts) (K : FsPath) (x : Entry) (k : M Unit) (st : State) :
    ∃ prep : M Unit, FFrame (fun _ => False) prep ∧ withParent c K x k st = (prep >>= fun _ => k) st := by
  unfold withParent
  by_cases hK : K = []
  · exact ⟨M.fail .parentNotFound, ffr_fail _, by rw [hK, dirOf_nil]; rfl⟩
  · rw [dirOf_ne_nil hK, mpure_bind, getEntry_bind_apply]
    cases alLookup K.dropLast st.entries with
    | some pe => exact ⟨M.pure (), ffr_mpure _, rfl⟩
    | none =>
      simp only [Option.isNone_none, if_true]
      cases copyDirMode c with
      | some pm => exact ⟨mkdirM K.dropLast (some pm), ffr_mkdirM _ _, rfl⟩
      | none =>
        by_cases hx : x.path = []
        · exact ⟨M.fail .parentNotFound, ffr_fail _, by rw [hx, dirOf_nil]; rfl⟩
        · simp only [dirOf_ne_nil hx, mpure_bind, getEntry_bind_apply]
          cases alLookup x.path.dropLast st.entries with
          | some y => exact ⟨mkdirM K.dropLast (some y.mode), ffr_mkdirM _ _, rfl⟩
          | none => exact ⟨M.fail .doesNotExist, ffr_fail _, rfl⟩

theorem ffr_withParent {C : FsPath → Prop} {k : M Unit} (hk : FFrame C k) (c : CopyOpts) (K : FsPath)
    (x : Entry) : FFrame C (withParent c K x k) := by
  intro st q hq
  obtain ⟨prep, hp, heq⟩ := withParent_run c K x k st
  rw [heq]
  exact ffr_bind (fun st q _ => hp st q id) (fun _ => hk) st q hq

theorem withParent_ok {c : CopyOpts} {K : FsPath} {x : Entry} {k : M Unit} {st st' : State}
    (h : withParent c K x k st = (.ok (), st')) :
    ∃ s1, (∀ q, alLookup q s1.files = alLookup q st.files) ∧ k s1 = (.ok (), st') := by
  obtain ⟨prep, hp, heq⟩ := withParent_run c K x k st
  rw [heq] at h
  obtain ⟨_, s1, h1, h2⟩ := bind_ok_inv h
  refine ⟨s1, fun q => ?_, h2⟩
  have := hp st q id
  rw [h1] at this
  exact this

/-- the loop body of `_copy` for the yielded entry `e`, its destination key `K` known -/
def copyBody (c : CopyOpts) (K : FsPath) (e : Entry) : M Unit := do
  if !c.follow ∧ e.link then
    let _ ← symlinkAbs K (e.alt.getD [])
  else
    let srcE ← match (← getEntry e.path) with
      | some x => M.pure x
      | none => fail .doesNotExist
    if srcE.dir then
      mkdirM K (some ((copyDirMode c).getD srcE.mode))
    else
      withParent c K srcE (fileTail K srcE (copyFileMode c))

theorem copyStep_eq_body {dk rootPath pre : FsPath} {c : CopyOpts} {ci : Bool} (e : Entry)
    (hpre : if ci = true then rootPath ≠ [] ∧ pre = rootPath.dropLast else pre = rootPath) :
    copyStep dk c ci rootPath e = copyBody c (dstOf dk e.path pre) e := by
  cases ci with
  | true =>
    obtain ⟨h1, rfl⟩ := hpre
    show (dirOf rootPath >>= fun pre => copyBody c (dstOf dk e.path pre) e) = _
    rw [dirOf_ne_nil h1]; rfl
  | false =>
    cases hpre
    rfl

theorem copyBody_link {c : CopyOpts} {e : Entry} (K : FsPath) (hfollow : c.follow = false)
    (hl : e.link = true) :
    copyBody c K e = (symlinkAbs K (e.alt.getD []) >>= fun _ => Pure.pure ()) := by
  unfold copyBody
  rw [if_pos ⟨by rw [hfollow]; rfl, hl⟩]

theorem copyBody_entry {c : CopyOpts} {e x : Entry} {st : State} (K : FsPath) (hl : e.link = false) (he : alLookup e.path st.entries = some x) :
    copyBody c K e st =
      (if x.dir = true then mkdirM K (some ((copyDirMode c).getD x.mode))
       else withParent c K x (fileTail K x (copyFileMode c))) st := by
  unfold copyBody
  rw [if_neg (fun h => by rw [hl] at h; exact Bool.false_ne_true h.2), getEntry_bind_apply, he]
  rfl

theorem copyBody_files {c : CopyOpts} {K : FsPath} {e : Entry} {st : State} (hfollow : c.follow = false)
    (he : alLookup e.path st.entries = some e) (q : FsPath) (hq : q = K → e.link = true ∨ e.dir = true) :
    alLookup q (copyBody c K e st).2.files = alLookup q st.files := by
  cases hl : e.link with
  | true =>
    rw [copyBody_link K hfollow hl]
    exact ffr_bind (C := fun _ => False) (ffr_symlinkAbs _ _) (fun _ => ffr_pure _) st q id
  | false =>
    rw [copyBody_entry K hl he]
    cases hd : e.dir with
    | true => exact ffr_mkdirM (C := fun _ => False) _ _ st q id
    | false =>
      refine ffr_withParent (ffr_fileTail K e _) c K e st q (fun hqK => ?_)
      rcases hq hqK with h | h
      · rw [hl] at h; cases h
      · rw [hd] at h; cases h

theorem copyBody_file_ok {c : CopyOpts} {K : FsPath} {e : Entry} {st st' : State}
    (he : alLookup e.path st.entries = some e) (hl : e.link = false) (hd : e.dir = false)
    (hne : e.path ≠ K) (h : copyBody c K e st = (.ok (), st')) :
    alLookup K st'.files = alLookup e.path st.files := by
  rw [copyBody_entry K hl he, hd] at h
  obtain ⟨s1, hfr, h2⟩ := withParent_ok h
  rw [← hfr]
  exact fileTail_ok hl hne h2

/-! ### the copy loop, seen from the data map -/

/-- the setting of the tree-content theorem: invariant, well-formed names, no-follow, and the
    destination root `D = copyDst s sk dk` neither at/below the source nor above it (all decidable) -/
structure CCtx (s : State) (sk dk : FsPath) (c : CopyOpts) : Prop where
  hi : InvF s
  hk : KeysWf s
  hdk : WfKey dk
  hfollow : c.follow = false
  h1 : ¬ sk <+: copyDst s sk dk
  h2 : ¬ copyDst s sk dk <+: sk

theorem CCtx.skne {s : State} {sk dk : FsPath} {c : CopyOpts} (h : CCtx s sk dk c) : sk ≠ [] := by
  intro e; exact h.h1 (e ▸ List.nil_prefix)

theorem CCtx.incmp {s : State} {sk dk : FsPath} {c : CopyOpts} (h : CCtx s sk dk c) (r : FsPath) :
    ¬ Cmp (copyDst s sk dk) (sk ++ r) := by
  rintro (hc | hc)
  · exact h.h1 ((List.prefix_append sk r).trans hc)
  · rcases List.prefix_or_prefix_of_prefix hc (List.prefix_append sk r) with h' | h'
    · exact h.h2 h'
    · exact h.h1 h'

theorem CCtx.ne {s : State} {sk dk : FsPath} {c : CopyOpts} (h : CCtx s sk dk c) (r r' : FsPath) :
    sk ++ r ≠ copyDst s sk dk ++ r' := by
  intro e
  exact h.incmp r (Or.inr ⟨r', e.symm⟩)

/-- state `σ` after the entries `Ld` of the source subtree have been processed, data map only -/
structure CInv (s : State) (sk D : FsPath) (σ : State) (Ld : List Entry) : Prop where
  frame : ∀ k, ¬ Cmp D k →
    alLookup k σ.entries = alLookup k s.entries ∧ alLookup k σ.files = alLookup k s.files
  other : ∀ q, (∀ r e, e ∈ Ld → e.path = sk ++ r → e.dir = false → e.link = false → q ≠ D ++ r) →
    alLookup q σ.files = alLookup q s.files
  done : ∀ r e, e ∈ Ld → e.path = sk ++ r → e.dir = false → e.link = false →
    alLookup (D ++ r) σ.files = alLookup (sk ++ r) s.files

theorem cinv_init (s : State) (sk D : FsPath) : CInv s sk D s [] :=
  ⟨fun _ _ => ⟨rfl, rfl⟩, fun _ _ => rfl, fun _ _ he => by simp at he⟩

theorem CCtx.copyStep_eq {s : State} {sk dk : FsPath} {c : CopyOpts} (ctx : CCtx s sk dk c)
    {r : FsPath} {e : Entry} (he : alLookup (sk ++ r) s.entries = some e) :
    copyStep dk c (isDirP s dk) sk e = copyBody c (copyDst s sk dk ++ r) e := by
  have hk := ctx.hk.key he
  have hpre := preOf_spec (ci := isDirP s dk) fun _ => ctx.skne
  rw [copyStep_eq_body e hpre, ctx.hi.path _ _ he, dstOf_eq_copyDst ctx.hdk hk.left hk.right hpre]

theorem cinv_step {s : State} {sk dk : FsPath} {c : CopyOpts} (ctx : CCtx s sk dk c)
    {σ σ' : State} {Ld : List Entry} {e : Entry} {r : FsPath}
    (hinv : CInv s sk (copyDst s sk dk) σ Ld)
    (he : alLookup (sk ++ r) s.entries = some e)
    (hnew : ∀ e0 ∈ Ld, e0.path ≠ sk ++ r)
    (hstep : copyStep dk c (isDirP s dk) sk e σ = (.ok (), σ')) :
    CInv s sk (copyDst s sk dk) σ' (Ld ++ [e]) := by
  have hp : e.path = sk ++ r := ctx.hi.path _ _ he
  have hk := ctx.hk.key he
  have hfr := hinv.frame _ (ctx.incmp r)
  have heσ : alLookup e.path σ.entries = some e := by rw [hp, hfr.1]; exact he
  have hfE := frame_copyStep (c := c) (ci := isDirP s dk) (D := copyDst s sk dk) e
    (fun pre hpre => ⟨r, by rw [hp]; exact dstOf_eq_copyDst ctx.hdk hk.left hk.right hpre⟩) σ
  rw [hstep] at hfE
  rw [ctx.copyStep_eq he] at hstep
  have hff : ∀ q, (q = copyDst s sk dk ++ r → e.link = true ∨ e.dir = true) →
      alLookup q σ'.files = alLookup q σ.files := by
    intro q hq
    have := copyBody_files ctx.hfollow heσ q hq
    rw [hstep] at this
    exact this
  refine ⟨?_, ?_, ?_⟩
  · intro k hk
    exact ⟨((hfE.1 k hk).1).trans (hinv.frame k hk).1, ((hfE.1 k hk).2).trans (hinv.frame k hk).2⟩
  · intro q hq
    refine (hff q (fun hqK => ?_)).trans
      (hinv.other q (fun r0 e0 h0 => hq r0 e0 (List.mem_append_left _ h0)))
    cases hl : e.link with
    | true => exact Or.inl rfl
    | false =>
      cases hd : e.dir with
      | true => exact Or.inr rfl
      | false => exact absurd hqK (hq r e (by simp) hp hd hl)
  · intro r0 e0 he0 hp0 hd0 hl0
    rcases List.mem_append.1 he0 with he0 | he0
    · have hr0 : copyDst s sk dk ++ r0 ≠ copyDst s sk dk ++ r := by
        intro h
        rw [List.append_cancel_left h] at hp0
        exact hnew e0 he0 hp0
      exact (hff _ (fun h => absurd h hr0)).trans (hinv.done r0 e0 he0 hp0 hd0 hl0)
    · rw [List.mem_singleton] at he0
      subst he0
      have hr0 : r0 = r := List.append_cancel_left (hp0.symm.trans hp)
      subst hr0
      rw [copyBody_file_ok heσ hl0 hd0 (by rw [hp]; exact ctx.ne r0 r0) hstep, hp]
      exact hfr.2

theorem runList_content {s : State} {sk dk : FsPath} {c : CopyOpts} (ctx : CCtx s sk dk c)
    {L : List Entry} (hL : PreOrder s sk L) {σ' : State} :
    ∀ (Lr Ld : List Entry) (σ : State), L = Ld ++ Lr →
      CInv s sk (copyDst s sk dk) σ Ld →
      runList (copyStep dk c (isDirP s dk) sk) Lr σ = (.ok (), σ') →
      CInv s sk (copyDst s sk dk) σ' L := by
  intro Lr
  induction Lr with
  | nil =>
    intro Ld σ hsplit hinv hrun
    rw [List.append_nil] at hsplit
    rw [runList] at hrun
    cases hrun
    exact hsplit ▸ hinv
  | cons e Lr ih =>
    intro Ld σ hsplit hinv hrun
    have heL : e ∈ L := by rw [hsplit]; simp
    obtain ⟨r, hp, he⟩ := hL.mem_src e heL
    have hnd := hL.nodup
    rw [hsplit, List.map_append, List.map_cons, List.nodup_append] at hnd
    have hnew : ∀ e0 ∈ Ld, e0.path ≠ sk ++ r := by
      intro e0 he0 h
      exact hnd.2.2 e0.path (List.mem_map.2 ⟨e0, he0, rfl⟩) e.path (by simp) (h.trans hp.symm)
    obtain ⟨σ1, hstep, hrest⟩ := runList_ok_cons hrun
    exact ih (Ld ++ [e]) σ1 (by rw [hsplit]; simp) (cinv_step ctx hinv he hnew hstep) hrest

/-! ### the whole `copy` -/

theorem copyDst_prefix_self (s : State) (sk : FsPath) : sk <+: copyDst s sk sk := by
  unfold copyDst
  split
  · exact List.prefix_append _ _
  · exact List.prefix_refl _

/-- **content after a successful no-follow `copy`** (any source: a file or a whole tree, links
    included; any destination: free, an existing file, an existing directory; any `CopyOpts` with
    `follow = false`): with `D = copyDst s sk dk`,
    * every regular file `sk ++ r` of the source subtree has its bytes at `D ++ r`,
    * every key that is not such a `D ++ r` keeps its bytes (in particular the whole source). -/
theorem copyM_content {env : Env} {a b : Str} {c : CopyOpts} {s s' : State} {sk dk : FsPath}
    (hinv : Spec.Inv s) (hs : Snap.Sorted s.entries) (hd : Snap.DepthOk s)
    (ctx : CCtx s sk dk c)
    (ha : absM env a s = (.ok sk, s)) (hb : absM env b s = (.ok dk, s))
    (hrun : copyM env a b c s = (.ok (), s')) :
    (∀ r e, alLookup (sk ++ r) s.entries = some e → e.dir = false → e.link = false →
      alLookup (copyDst s sk dk ++ r) s'.files = alLookup (sk ++ r) s.files) ∧
    (∀ q, (∀ r e, alLookup (sk ++ r) s.entries = some e → e.dir = false → e.link = false →
        q ≠ copyDst s sk dk ++ r) → alLookup q s'.files = alLookup q s.files) := by
  have hi := ctx.hi
  have hne : sk ≠ dk := by
    intro e; subst e; exact ctx.h1 (copyDst_prefix_self s sk)
  cases hsrc : alLookup sk s.entries with
  | none =>
    rw [copyM_noSrc ha hb hne hsrc] at hrun
    cases hrun
  | some rootE =>
    obtain ⟨snap, hent, hwf, hr, hso, _⟩ := Snap.snapshot_correct_core hinv hs hsrc
    have hp : rootE.path = sk := hi.path sk rootE hsrc
    obtain ⟨f1, f2, f3, f4⟩ := Snap.copyOpts_facts
    have hL := Snap.preOrder_walk hinv hd hwf hr hso hp
    have hent' : entriesOf s (rootE.doFollow c.follow).path = .ok (rootE, snap) := by
      rw [ctx.hfollow, doFollow_false, hp]; exact hent
    rw [copyM_resolved ha hb hne hsrc hent', ctx.hfollow, doFollow_false, hp,
      Snap.runIter_walk hwf f1 f2 f3 f4 hr] at hrun
    have hfin := runList_content ctx hL _ [] s (by simp) (cinv_init s sk _) hrun
    refine ⟨?_, ?_⟩
    · intro r e he hd0 hl0
      exact hfin.done r e (hL.complete r e he) (hi.path _ _ he) hd0 hl0
    · intro q hq
      apply hfin.other q
      intro r e heL hpe hd0 hl0
      obtain ⟨r', hp', hl'⟩ := hL.mem_src e heL
      have : r' = r := List.append_cancel_left (hp'.symm.trans hpe)
      subst this
      exact hq r' e hl' hd0 hl0

/-! ### `write_all` / `append_all` touch the data of the key they resolve to only -/

theorem ffr_syncM (p : FsPath) (d : File.Bytes) : FFrame (· = p) (syncM p d) := by
  unfold syncM
  refine ffr_bind (ffr_getEntry _) (fun o => ?_)
  split
  · refine ffr_bind (ffr_getFile _) (fun o2 => ?_)
    split
    · exact ffr_setFile (C := (· = p)) (p := p) rfl _
    · exact ffr_mpure _
  · exact ffr_fail _

theorem ffr_ignore {α : Type} {C : FsPath → Prop} {m : M α} (h : FFrame C m) :
    FFrame C (fun s => let (_, s') := m s; ((.ok () : Outcome Unit), s')) := by
  intro st k hk
  have := h st k hk
  cases hm : m st with
  | mk r s' =>
    rw [hm] at this
    show alLookup k (match m st with | (_, s') => ((.ok () : Outcome Unit), s')).2.files = _
    rw [hm]; exact this

theorem absM_bind_files {α : Type} {env : Env} {p : Str} {body : FsPath → M α}
    (hbody : ∀ k, FFrame (· = k) (body k)) (s : State) (q : FsPath)
    (hq : ∀ k, absM env p s = (.ok k, s) → q ≠ k) :
    alLookup q ((absM env p >>= body) s).2.files = alLookup q s.files := by
  rcases absM_cases env p s with ⟨k, ha⟩ | ⟨r, ha, hr⟩
  · rw [bind_ok ha]
    exact hbody k s q (hq k ha)
  · obtain ⟨r', h', _⟩ := bind_not_ok (f := body) ha hr
    rw [h']

theorem writeAllM_files (env : Env) (p : Str) (d : File.Bytes) (s : State) (q : FsPath)
    (hq : ∀ k, absM env p s = (.ok k, s) → q ≠ k) :
    alLookup q (writeAllM env p d s).2.files = alLookup q s.files := by
  unfold writeAllM
  refine absM_bind_files (fun k => ?_) s q hq
  refine ffr_bind (ffr_add _ (fun _ => rfl)) (fun _ => ffr_bind (ffr_getFile _) (fun o => ?_))
  split
  · exact ffr_fail _
  · exact ffr_ignore (ffr_syncM k d)

theorem appendAllM_files (env : Env) (p : Str) (d : File.Bytes) (s : State) (q : FsPath)
    (hq : ∀ k, absM env p s = (.ok k, s) → q ≠ k) :
    alLookup q (appendAllM env p d s).2.files = alLookup q s.files := by
  unfold appendAllM
  refine absM_bind_files (fun k => ?_) s q hq
  refine ffr_bind (ffr_add _ (fun _ => rfl)) (fun _ => ffr_bind (ffr_getFile _) (fun o => ?_))
  split
  · exact ffr_bind (ffr_syncM k _) (fun _ => ffr_ignore (ffr_syncM k _))
  · exact ffr_fail _

theorem step_write_files (env : Env) (s : State) (p : Str) (d : File.Bytes) (q : FsPath)
    (hq : ∀ k, absM env p s = (.ok k, s) → q ≠ k) :
    alLookup q (step env s (.writeAll p d)).2.files = alLookup q s.files ∧
    alLookup q (step env s (.appendAll p d)).2.files = alLookup q s.files := by
  constructor
  · rw [show (step env s (.writeAll p d)).2 = (writeAllM env p d s).2 from mapVal_snd _ _ _]
    exact writeAllM_files env p d s q hq
  · rw [show (step env s (.appendAll p d)).2 = (appendAllM env p d s).2 from mapVal_snd _ _ _]
    exact appendAllM_files env p d s q hq

end Rivia.Lemmas.CT
