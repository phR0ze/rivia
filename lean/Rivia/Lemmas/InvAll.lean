/-
  Rivia.Lemmas.InvAll — C03, assembly of the three groups.

  * group A (`InvA`): read-only calls, mkfile / mkdir, content, handles, set_cwd, chmod, chown
  * group B (`InvB`): remove, remove_all, symlink, move_p
  * group C (`InvC`): copy, copy_b

  The strengthened invariant `Strong s = Inv s ∧ KeysWf s ∧ SortedKids s ∧ FlagsOk s` (group B's
  definitions) is inductive for every constructor of `Op`, hence holds along histories.
-/
import Rivia.Lemmas.InvA
import Rivia.Lemmas.InvB
import Rivia.Lemmas.InvC
import Rivia.Lemmas.InvCPlus

namespace Rivia.Lemmas.InvAll
open Rivia Rivia.Memfs Rivia.File Rivia.Spec Rivia.Lemmas

theorem keysWf_A_iff (s : State) : InvA.KeysWf s ↔ InvB.KeysWf s := Iff.rfl
theorem keysWf_C_iff (s : State) : InvC.KeysWf s ↔ InvB.KeysWf s := Iff.rfl
theorem sortedKids_A_iff (s : State) : InvA.SortedKids s ↔ InvB.SortedKids s := Iff.rfl
theorem sortedKids_C_iff (s : State) : InvC.SortedKids s ↔ InvB.SortedKids s := Iff.rfl
theorem invP_A_iff_B (s : State) : InvA.InvP s ↔ InvB.InvP s := (InvA.inv_iff s).symm.trans (InvB.inv_iff s)
theorem invP_C_iff_B (s : State) : InvC.InvP s ↔ InvB.InvP s := (InvC.inv_iff s).symm.trans (InvB.inv_iff s)
theorem invPlus_C_iff (s : State) : InvC.InvPlus s ↔ Spec.Inv s ∧ InvB.KeysWf s ∧ InvB.SortedKids s := Iff.rfl


/-- an entry is not flagged both file and directory -/
def FOk (e : Entry) : Prop := ¬ (e.file = true ∧ e.dir = true)

theorem flagsOk_iff (s : State) : InvB.FlagsOk s ↔ ∀ kv ∈ s.entries, FOk kv.2 := Iff.rfl

/-- `FOk` only reads the two flags, which `MemfsEntry::add(name)`, `set_mode`, `set_owner` and
    re-keying leave alone; the entries the operations create have one of them -/
theorem fOk_ops : InvA.EntryOps (fun _ e => FOk e) (fun _ => True) where
  addChild := fun _ _ _ _ _ hd hadd => by rw [InvA.addChild_eq hadd]; exact hd
  file := fun _ _ h => Bool.noConfusion h.2
  dir := fun _ _ _ h => Bool.noConfusion h.1
  link := fun _ _ _ b _ h => by cases b <;> simp [InvA.linkEntry] at h
  setMode := fun _ _ _ h => h
  setOwner := fun _ _ _ _ h => h
  rekey := fun _ _ _ _ h _ => h
  take := fun _ _ _ => trivial

theorem FlagsOk.replace {s : State} (h : InvB.FlagsOk s) {k : FsPath} {e e' : Entry}
    (hk : alLookup k s.entries = some e) (hf : FOk e → FOk e') :
    InvB.FlagsOk { s with entries := alInsert k e' s.entries } :=
  InvA.AllE.replace (P := fun _ e => FOk e) h hk hf

theorem flagsOk_step_A (env : Env) (s : State) (op : Op) (hc : InvA.CoveredA op) (h : InvB.FlagsOk s) :
    InvB.FlagsOk (step env s op).2 :=
  ((fOk_ops.stepAInv (C := fun _ => True) fun _ _ => trivial).step env s op hc
    (fun _ _ _ _ => trivial) ⟨h, trivial⟩).1

theorem flagsOk_copyM (env : Env) (src dst : Str) (c : CopyOpts) :
    InvA.Pres InvB.FlagsOk (copyM env src dst c) :=
  ⟨fun s h => (((fOk_ops.stepCInv (C := fun _ => True) fun _ _ _ => trivial).copyM
    env src dst c).run s ⟨h, trivial⟩).1⟩

theorem flagsOk_step_C (env : Env) (s : State) (op : Op) (hc : InvC.CoveredC op) (h : InvB.FlagsOk s) :
    InvB.FlagsOk (step env s op).2 :=
  InvC.step_C flagsOk_copyM env s op hc h

theorem covered_all (op : Op) : InvA.CoveredA op ∨ InvB.CoveredB op ∨ InvC.CoveredC op := by
  cases op <;>
    first
    | exact Or.inl rfl
    | exact Or.inr (Or.inl trivial)
    | exact Or.inr (Or.inr trivial)

theorem covered_disjoint (op : Op) :
    ¬ (InvA.CoveredA op ∧ InvB.CoveredB op) ∧ ¬ (InvA.CoveredA op ∧ InvC.CoveredC op) ∧
    ¬ (InvB.CoveredB op ∧ InvC.CoveredC op) := by
  cases op
  case remove | removeAll | symlink | moveP => exact ⟨fun h => Bool.noConfusion h.1, fun h => h.2, fun h => h.2⟩
  case copy | copyB => exact ⟨fun h => h.2, fun h => Bool.noConfusion h.1, fun h => h.1⟩
  all_goals exact ⟨fun h => h.2, fun h => h.2, fun h => h.1⟩

theorem strong_step_A (env : Env) (s : State) (op : Op) (hc : InvA.CoveredA op) (h : InvB.Strong s) :
    InvB.Strong (step env s op).2 :=
  ⟨InvA.inv_step_A' env s op hc h.1,
   InvA.keysWf_step_A env s op hc (InvB.absWf_of_keysWf env s h.2.1) h.2.1,
   InvA.sortedKids_step_A env s op hc h.2.2.1,
   flagsOk_step_A env s op hc h.2.2.2⟩

theorem strong_step_C (env : Env) (s : State) (op : Op) (hc : InvC.CoveredC op) (h : InvB.Strong s) :
    InvB.Strong (step env s op).2 :=
  ⟨InvC.inv_step_C' env s op hc h.1,
   InvC.keysWf_step_C env s op hc h.2.1,
   InvC.sortedKids_step_C env s op hc h.2.2.1,
   flagsOk_step_C env s op hc h.2.2.2⟩

/-- the no-hang hypothesis is used for `moveP` only -/
theorem strong_step (env : Env) (s : State) (op : Op) (h : InvB.Strong s)
    (hh : (step env s op).1 ≠ .hang) : InvB.Strong (step env s op).2 := by
  rcases covered_all op with hc | hc | hc
  · exact strong_step_A env s op hc h
  · exact InvB.strong_step_B env s op hc h hh
  · exact strong_step_C env s op hc h

theorem strong_step_any_outcome (env : Env) (s : State) (op : Op) (hm : ∀ a b, op ≠ .moveP a b)
    (h : InvB.Strong s) : InvB.Strong (step env s op).2 := by
  rcases covered_all op with hc | hc | hc
  · exact strong_step_A env s op hc h
  · rw [← InvB.good_true_iff] at h ⊢
    cases op
    case remove | removeAll | symlink => exact InvB.good_step_B3 env s _ trivial h
    case moveP => exact absurd rfl (hm _ _)
    all_goals exact hc.elim
  · exact strong_step_C env s op hc h

theorem strong_init : InvB.Strong Memfs.init := by decide

/-- no call of the history hangs (recursive form) -/
def NoHangRun (env : Env) : State → List Op → Prop
  | _, [] => True
  | s, op :: ops => (step env s op).1 ≠ .hang ∧ NoHangRun env (step env s op).2 ops

theorem run_append (env : Env) (s : State) (a b : List Op) : run env s (a ++ b) = run env (run env s a) b := by
  induction a generalizing s with
  | nil => rfl
  | cons op a ih => exact ih _

theorem noHangRun_iff (env : Env) (s : State) (ops : List Op) :
    NoHangRun env s ops ↔
      ∀ pre op post, ops = pre ++ op :: post → (step env (run env s pre) op).1 ≠ .hang := by
  induction ops generalizing s with
  | nil =>
    refine ⟨fun _ pre op post h => ?_, fun _ => trivial⟩
    cases pre <;> cases h
  | cons o ops ih =>
    constructor
    · rintro ⟨h1, h2⟩ pre op post he
      cases pre with
      | nil =>
        simp only [List.nil_append, List.cons.injEq] at he
        obtain ⟨rfl, _⟩ := he
        exact h1
      | cons p pre =>
        simp only [List.cons_append, List.cons.injEq] at he
        obtain ⟨rfl, he⟩ := he
        exact (ih _).1 h2 pre op post he
    · intro h
      refine ⟨h [] o ops rfl, (ih _).2 fun pre op post he => ?_⟩
      exact h (o :: pre) op post (by rw [he]; rfl)

theorem strong_run (env : Env) (s : State) (ops : List Op) (h : InvB.Strong s)
    (hh : NoHangRun env s ops) : InvB.Strong (run env s ops) := by
  induction ops generalizing s with
  | nil => exact h
  | cons op ops ih => exact ih _ (strong_step env s op h hh.1) hh.2

/-- every state reachable from the fresh filesystem by calls that return is a well-formed tree -/
theorem strong_reachable (env : Env) (ops : List Op)
    (hh : ∀ pre op post, ops = pre ++ op :: post → (step env (run env Memfs.init pre) op).1 ≠ .hang) :
    InvB.Strong (run env Memfs.init ops) :=
  strong_run env _ ops strong_init ((noHangRun_iff env _ ops).2 hh)

/-! ### calls that can never hang (used for the non-vacuity examples) -/

theorem boolQuery_ne_hang (env : Env) (p : Str) (f : Entry → Bool) (s : State) :
    (boolQuery env p f s).1 ≠ .hang ∧ (boolQuery env p f s).2 = s := by
  unfold boolQuery
  split <;> exact ⟨(fun h => by cases h), rfl⟩

/-- the queries `exists`, `is_file`, `is_dir`, `is_symlink`, `cwd`, `root` return in every state
    and leave it unchanged -/
def simpleQuery : Op → Bool
  | .exists _ | .isFile _ | .isDir _ | .isSymlink _ | .isSymlinkDir _ | .isSymlinkFile _
  | .isExec _ | .isReadonly _ | .cwd | .root => true
  | _ => false

theorem simpleQuery_step (env : Env) (s : State) (op : Op) (hq : simpleQuery op = true) :
    (step env s op).1 ≠ .hang ∧ (step env s op).2 = s := by
  cases op
  case cwd | root => exact ⟨(fun h => by cases h), rfl⟩
  case «exists» | isFile | isDir | isSymlink | isSymlinkDir | isSymlinkFile | isExec | isReadonly =>
    exact boolQuery_ne_hang env _ _ s
  all_goals cases hq

theorem noHangRun_simpleQueries (env : Env) (s : State) (ops : List Op)
    (hq : ∀ op ∈ ops, simpleQuery op = true) : NoHangRun env s ops := by
  induction ops with
  | nil => trivial
  | cons op ops ih =>
    have h := simpleQuery_step env s op (hq op List.mem_cons_self)
    refine ⟨h.1, ?_⟩
    rw [h.2]
    exact ih fun o ho => hq o (List.mem_cons_of_mem _ ho)

end Rivia.Lemmas.InvAll
