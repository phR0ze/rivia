/-
  Rivia.Lemmas.Snapshot — `_clone_entries` (model `cloneLoop` / `cloneEntries` / `entriesOf`) produces
  a correct snapshot on every well-formed state.

  Loop invariant `LI ents a W acc` (worklist `W`, snapshot so far `acc`, traversal root `a`):
    sub    every pair of `acc` is a pair of the state's entry list (so it sits under its own key);
    kids   every child listed by a snapshot entry is in the snapshot or on the worklist;
    reach  every existing key at or below `a` is in the snapshot or below a worklist path;
    wex    every worklist path exists (so the loop never fails with `DoesNotExist`).
  Together with the potential of Lemmas/FuelClone.lean (`clone_step`: the worklist is empty before
  the fuel is) this gives `snapshot_correct_core`.

  The snapshot also contains the existing targets of the links it meets, and the subtrees of those
  targets (they go through the same worklist), also when they lie outside the subtree of `a`;
  `SnapOf` only speaks about keys at or below `a`, and all snapshot pairs are state pairs anyway
  (`LI.sub`), so `SnapOf` holds as defined.
-/
import Rivia.Lemmas.FuelClone
import Rivia.Lemmas.Walk

namespace Rivia.Lemmas.Snap
open Rivia Rivia.Memfs Rivia.Spec Rivia.Lemmas

theorem strict_of_sorted_nodup {fs : List Str} (hs : fs.Pairwise (fun a b => strLt b a = false))
    (hn : fs.Nodup) : fs.Pairwise (fun a b => strLt a b = true) := by
  have hn' := List.nodup_iff_pairwise_ne.1 hn
  have := hs.and hn'
  refine this.imp ?_
  intro a b ⟨h1, h2⟩
  rcases strLt_tricho a b with h | h | h
  · exact h
  · exact absurd h h2
  · rw [h1] at h; cases h

abbrev Ents := List (FsPath × Entry)

/-- the child names of an entry -/
def names (e : Entry) : List Str := e.files.getD []

theorem names_eq (e : Entry) : names e = Lemmas.names e := rfl

/-! ### what one iteration (`cloneNext`) leaves on the worklist -/

/-- the new worklist: possibly the existing target of a link, then the children, then the old
    worklist -/
theorem cloneNext_fst (ents : Ents) (e : Entry) (W : List FsPath) (acc : Snap) :
    ∃ pre, (cloneNext ents e W acc).1 = pre ++ (((names e).map (fun n => e.path ++ [n])).reverse ++ W) ∧
      ∀ x ∈ pre, (alLookup x ents).isSome = true := by
  unfold cloneNext
  cases e.alt with
  | none => exact ⟨[], rfl, nofun⟩
  | some a =>
    dsimp only
    split
    · rename_i hc
      exact ⟨[a], rfl, fun x hx => by rw [List.mem_singleton.1 hx]; exact hc.2.1⟩
    · exact ⟨[], rfl, nofun⟩

/-! ### what the tree invariant gives about the entry list -/

structure Tree (ents : Ents) : Prop where
  listed : ∀ k e, (k, e) ∈ ents → ∀ n ∈ names e, (alLookup (k ++ [n]) ents).isSome = true
  chain : ∀ p n t, (alLookup (p ++ n :: t) ents).isSome = true →
    ∃ e, alLookup p ents = some e ∧ n ∈ names e

theorem tree_of_inv {s : State} (hinv : Spec.Inv s) : Tree s.entries := by
  constructor
  · intro k e hke n hn
    exact alLookup_isSome_iff_mem_keys.2 ((inv_facts hinv).listed k e hke n hn)
  · intro p n t h
    obtain ⟨x, hx⟩ := Option.isSome_iff_exists.1 h
    obtain ⟨pe, hpe, _, _, hn⟩ := Walk.chain_of_inv hinv (p := p) (t := n :: t) hx [] n t rfl
    exact ⟨pe, by simpa using hpe, hn⟩

/-! ### the loop invariant -/

structure LI (ents : Ents) (a : FsPath) (W : List FsPath) (acc : Snap) : Prop where
  sub : ∀ kv ∈ acc, kv ∈ ents
  kids : ∀ k e, (k, e) ∈ acc → ∀ n ∈ names e,
    (alLookup (k ++ [n]) acc).isSome = true ∨ (k ++ [n]) ∈ W
  reach : ∀ k, a <+: k → (alLookup k ents).isSome = true →
    (alLookup k acc).isSome = true ∨ ∃ w ∈ W, w <+: k
  wex : ∀ w ∈ W, (alLookup w ents).isSome = true

theorem li_init {ents : Ents} {a : FsPath} (ha : (alLookup a ents).isSome = true) : LI ents a [a] [] := by
  refine ⟨fun _ h => (nomatch h), fun _ _ h => (nomatch h), fun k hk _ => Or.inr ⟨a, by simp, hk⟩, ?_⟩
  intro w hw
  rw [List.mem_singleton] at hw
  subst hw; exact ha

/-- a proper extension of `p` is `p ++ n :: t` -/
theorem prefix_ne_split {p k : FsPath} (h : p <+: k) (hne : k ≠ p) : ∃ n t, k = p ++ n :: t := by
  obtain ⟨t, rfl⟩ := h
  cases t with
  | nil => simp at hne
  | cons n t => exact ⟨n, t, rfl⟩

theorem li_step {ents : Ents} (ok : EntsOK ents) (tr : Tree ents) {a p : FsPath} {W : List FsPath}
    {acc : Snap} {e : Entry} (li : LI ents a (p :: W) acc) (hp : alLookup p ents = some e) :
    LI ents a (cloneNext ents e W acc).1 (cloneNext ents e W acc).2 := by
  have hm := alLookup_mem hp
  have hpath : e.path = p := ok.path p e hm
  obtain ⟨pre, hW, hpre⟩ := cloneNext_fst ents e W acc
  have hmem : ∀ x, x ∈ (cloneNext ents e W acc).1 ↔
      x ∈ pre ∨ x ∈ (names e).map (fun n => p ++ [n]) ∨ x ∈ W := by
    intro x; rw [hW, hpath, List.mem_append, List.mem_append, List.mem_reverse]
  have hsup := fun x h => (hmem x).2 (.inr h)
  show LI ents a _ (alInsert e.path e acc)
  rw [hpath]
  refine ⟨?_, ?_, ?_, ?_⟩
  · intro ⟨k, v⟩ hkv
    rcases mem_alInsert hkv with h | h
    · rw [h]; exact hm
    · exact li.sub _ h
  · intro k e' hke n hn
    rcases mem_alInsert hke with h | h
    · cases h
      exact .inr (hsup _ (.inl (List.mem_map.2 ⟨n, hn, rfl⟩)))
    · rcases li.kids k e' h n hn with h1 | h1
      · exact .inl ((isSome_alInsert _ p e acc).2 (.inr h1))
      · rcases List.mem_cons.1 h1 with h2 | h2
        · exact .inl ((isSome_alInsert _ p e acc).2 (.inl h2.symm))
        · exact .inr (hsup _ (.inr h2))
  · intro k hak hk
    rcases li.reach k hak hk with h | ⟨w, hw, hwk⟩
    · exact .inl ((isSome_alInsert _ p e acc).2 (.inr h))
    · rcases List.mem_cons.1 hw with h2 | h2
      · subst h2
        by_cases hkp : k = w
        · exact .inl ((isSome_alInsert _ w e acc).2 (.inl hkp.symm))
        · obtain ⟨n, t, rfl⟩ := prefix_ne_split hwk hkp
          obtain ⟨e0, he0, hn⟩ := tr.chain w n t hk
          rw [hp] at he0; cases he0
          refine .inr ⟨w ++ [n], hsup _ (.inl (List.mem_map.2 ⟨n, hn, rfl⟩)), ?_⟩
          exact ⟨t, by simp⟩
      · exact .inr ⟨w, hsup _ (.inr h2), hwk⟩
  · intro w hw
    rcases (hmem w).1 hw with h | h | h
    · exact hpre w h
    · obtain ⟨n, hn, rfl⟩ := List.mem_map.1 h
      exact tr.listed p e hm n hn
    · exact li.wex w (List.mem_cons_of_mem _ h)

theorem cloneLoop_li {ents : Ents} (ok : EntsOK ents) (tr : Tree ents) (a : FsPath) :
    ∀ (f : Nat) (W : List FsPath) (acc : Snap), CI ents W acc → PhiC ents W acc < f →
      LI ents a W acc → ∃ snap, cloneLoop ents f W acc = .ok snap ∧ LI ents a [] snap := by
  intro f
  induction f with
  | zero => intro W acc _ h; omega
  | succ f ih =>
    intro W acc ci hf li
    cases W with
    | nil => exact ⟨acc, by simp [cloneLoop], li⟩
    | cons p W =>
      rw [cloneLoop_succ]
      obtain ⟨e, he⟩ := Option.isSome_iff_exists.1 (li.wex p List.mem_cons_self)
      rw [he]
      obtain ⟨ci', hlt⟩ := clone_step ok ci he
      exact ih _ _ ci' (by omega) (li_step ok tr li he)

/-! ### the final snapshot -/

/-- the state's child-name lists are in `insertName` order (= `C03_SortedKids`, `InvB.SortedKids`) -/
def Sorted (ents : Ents) : Prop :=
  ∀ kv ∈ ents, ∀ fs, kv.2.files = some fs → fs.Pairwise (fun a b => strLt b a = false)

theorem snapWf_of_li {ents : Ents} (ok : EntsOK ents) (hs : Sorted ents) {a : FsPath} {snap : Snap}
    (li : LI ents a [] snap) : SnapWf snap := by
  intro kv hkv
  obtain ⟨k, e⟩ := kv
  have hm := li.sub _ hkv
  refine ⟨ok.path k e hm, ?_, ?_⟩
  · have hnd := ok.namesNodup k e hm
    unfold Lemmas.names at hnd
    cases hfs : e.files with
    | none => simp
    | some fs =>
      rw [hfs] at hnd
      simp only [Option.getD_some] at hnd ⊢
      exact strict_of_sorted_nodup (hs _ hm fs hfs) hnd
  · intro n hn
    rcases li.kids k e hkv n hn with h | h
    · exact h
    · cases h

theorem lookup_of_li {ents : Ents} (ok : EntsOK ents) {a : FsPath} {snap : Snap}
    (li : LI ents a [] snap) (k : FsPath) (hak : a <+: k) (hk : (alLookup k ents).isSome = true) :
    alLookup k snap = alLookup k ents := by
  rcases li.reach k hak hk with h | ⟨w, hw, _⟩
  · obtain ⟨x, hx⟩ := Option.isSome_iff_exists.1 h
    rw [hx, alLookup_of_mem ok.nodup (li.sub _ (alLookup_mem hx))]
  · cases hw

theorem snapOf_of_li {s : State} (ok : EntsOK s.entries) {a : FsPath} {snap : Snap}
    (li : LI s.entries a [] snap) : SnapOf s a snap := by
  have key : ∀ kv ∈ s.entries, a <+: kv.1 → alLookup kv.1 snap = alLookup kv.1 s.entries :=
    fun kv hkv hak => lookup_of_li ok li kv.1 hak
      (by rw [alLookup_of_mem ok.nodup (k := kv.1) (v := kv.2) hkv]; rfl)
  exact ⟨key, fun kv hkv => key kv (li.sub _ hkv)⟩

/-! ### the theorem -/

/-- `_clone_entries` on a well-formed state: it succeeds (no error, not a fuel-truncated result),
    every pair of the snapshot is a pair of the state, the snapshot is well-formed, holds the root
    entry under its key, and agrees with the state on every key at or below the root -/
theorem snapshot_correct_core {s : State} (hinv : Spec.Inv s) (hs : Sorted s.entries)
    {a : FsPath} {rootE : Entry} (hroot : alLookup a s.entries = some rootE) :
    ∃ snap, entriesOf s a = .ok (rootE, snap) ∧ SnapWf snap ∧ InSnap snap rootE ∧ SnapOf s a snap ∧
      (∀ kv ∈ snap, kv ∈ s.entries) := by
  have ok := entsOK_of_inv (inv_facts hinv)
  have tr := tree_of_inv hinv
  have ci : CI s.entries [a] [] := fun l e a hl => nomatch hl
  obtain ⟨snap, hcl, li⟩ := cloneLoop_li ok tr a _ [a] [] ci (phiC_init_lt s.entries a)
    (li_init (by rw [hroot]; rfl))
  refine ⟨snap, ?_, snapWf_of_li ok hs li, ?_, snapOf_of_li ok li, li.sub⟩
  · unfold entriesOf cloneEntries
    rw [hroot]
    simp only [hcl]
  · unfold InSnap
    rw [ok.path a rootE (alLookup_mem hroot), lookup_of_li ok li a (List.prefix_refl _) (by rw [hroot]; rfl), hroot]

theorem entriesOf_missing {s : State} {a : FsPath} (h : alLookup a s.entries = none) :
    entriesOf s a = .err .doesNotExist := by
  unfold entriesOf; rw [h]

theorem entriesOf_correct {s : State} (hinv : Spec.Inv s) (hs : Sorted s.entries)
    {a : FsPath} {rootE : Entry} {snap : Snap} (hent : entriesOf s a = .ok (rootE, snap)) :
    alLookup a s.entries = some rootE ∧ SnapWf snap ∧ InSnap snap rootE ∧ SnapOf s a snap ∧
      (∀ kv ∈ snap, kv ∈ s.entries) := by
  cases hl : alLookup a s.entries with
  | none => rw [entriesOf_missing hl] at hent; cases hent
  | some e =>
    obtain ⟨snap', h1, h2⟩ := snapshot_correct_core hinv hs hl
    rw [h1] at hent
    cases hent
    exact ⟨rfl, h2⟩

end Rivia.Lemmas.Snap
