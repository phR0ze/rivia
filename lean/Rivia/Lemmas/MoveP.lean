/-
  Rivia.Lemmas.MoveP — `move_p` on the Memfs model: validation precedes mutation, the relocation
  loop cannot fail after validation, and its effect on the abstract tree and on the data map; the
  node list the reference `move_p` builds (`reKey`), key by key.
-/
import Rivia.Lemmas.CopyMove
import Rivia.Lemmas.MovedEntry

set_option linter.unusedSimpArgs false

namespace Rivia.Lemmas
open Rivia Rivia.Str Rivia.Memfs Rivia.Spec Rivia.Memfs.M

/-! ### path resolution never touches the state -/

theorem absM_cases (env : Env) (p : Str) (s : State) :
    (∃ k, absM env p s = (.ok k, s)) ∨
    (∃ r : Outcome FsPath, absM env p s = (r, s) ∧ ∀ a, r ≠ .ok a) := by
  unfold absM
  cases absWith env (renderP s.cwd) p with
  | ok a => exact Or.inl ⟨_, rfl⟩
  | err k => exact Or.inr ⟨.err k, rfl, by intro a h; cases h⟩
  | panic => exact Or.inr ⟨.panic, rfl, by intro a h; cases h⟩
  | hang => exact Or.inr ⟨.hang, rfl, by intro a h; cases h⟩

theorem bind_not_ok {α β} {m : M α} {f : α → M β} {s : State} {r : Outcome α}
    (h : m s = (r, s)) (hr : ∀ a, r ≠ .ok a) :
    ∃ r' : Outcome β, (m >>= f) s = (r', s) ∧ ∀ b, r' ≠ .ok b := by
  rw [bind_apply, h]
  cases r with
  | ok a => exact absurd rfl (hr a)
  | err k => exact ⟨.err k, rfl, by intro a h; cases h⟩
  | panic => exact ⟨.panic, rfl, by intro a h; cases h⟩
  | hang => exact ⟨.hang, rfl, by intro a h; cases h⟩

/-! ### validation -/

/-- the final destination key of `move_p` -/
def moveDst (s : State) (sk dk : FsPath) : FsPath :=
  if isDirP s dk then toPath (mash (renderP dk) (baseName sk)) else dk

theorem moveDst_def (s : State) (sk dk : FsPath) :
    (if isDirP s dk = true then toPath (mash (renderP dk) (baseName sk)) else dk) = moveDst s sk dk := rfl

theorem moveDst_eq {s : State} {sk dk : FsPath} (hsk : WfKey sk) (hne : sk ≠ []) (hdk : WfKey dk) :
    moveDst s sk dk = if isDirP s dk = true then dk ++ [baseName sk] else dk := by
  unfold moveDst
  cases isDirP s dk with
  | false => rfl
  | true => exact mash_renderP_name hdk (hsk _ (baseName_mem hne))

/-- what the validation phase of `move_p` has established when the relocation loop starts -/
structure MoveValid (s : State) (sk dk : FsPath) (srcE : Entry) : Prop where
  src : alLookup sk s.entries = some srcE
  ne : moveDst s sk dk ≠ sk
  notUnder : sk.isPrefixOf (moveDst s sk dk) = false
  dstNe : moveDst s sk dk ≠ []
  parent : ∃ pe, alLookup (moveDst s sk dk).dropLast s.entries = some pe ∧ pe.dir = true ∧ pe.link = false
  dst : alLookup (moveDst s sk dk) s.entries = none ∨
    ∃ x, alLookup (moveDst s sk dk) s.entries = some x ∧ x.file = true ∧ x.link = false ∧
      srcE.file = true ∧ srcE.link = false

/-- `move_p` once its two arguments are resolved -/
def moveK (s d : FsPath) : M Unit := do
  let st ← get
  let copyInto := isDirP st d
  let srcE ← match (← getEntry s) with
    | some x => M.pure x
    | none => fail .doesNotExist
  let dstFinal := if copyInto then toPath (mash (renderP d) (baseName s)) else d
  if dstFinal = s then return ()
  if s.isPrefixOf dstFinal then fail .ioInvalidInput
  let dd ← dirOf dstFinal
  match (← getEntry dd) with
  | some x => if x.dir && !x.link then M.pure () else fail .isNotDir
  | none => fail .doesNotExist
  match (← getEntry dstFinal) with
  | some x => if x.file && !x.link && srcE.file && !srcE.link then M.pure () else fail .existsAlready
  | none => M.pure ()
  moveLoop s d copyInto (8 * (st.entries.length + 2)) [s]

theorem moveM_eq (env : Env) (src dst : Str) :
    moveM env src dst = (absM env src >>= fun s => absM env dst >>= fun d => moveK s d) := rfl

theorem moveK_nosrc {s : State} {sk d : FsPath} (hs : alLookup sk s.entries = none) :
    moveK sk d s = (.err .doesNotExist, s) := by
  unfold moveK
  simp only [get_bind_apply, getEntry_bind_apply, hs, fail_bind, fail_apply]

/-- the validation of `move_p`, as a decision tree -/
theorem moveK_apply {s : State} {sk d dst : FsPath} {e : Entry} (hs : alLookup sk s.entries = some e)
    (hdst : moveDst s sk d = dst) :
    moveK sk d s =
      if dst = sk then (.ok (), s)
      else if sk.isPrefixOf dst = true then (.err .ioInvalidInput, s)
      else if dst = [] then (.err .parentNotFound, s)
      else match alLookup dst.dropLast s.entries with
        | none => (.err .doesNotExist, s)
        | some x =>
          if (x.dir && !x.link) = true then
            match alLookup dst s.entries with
            | none => moveLoop sk d (isDirP s d) (8 * (s.entries.length + 2)) [sk] s
            | some y =>
              if (y.file && !y.link && e.file && !e.link) = true
              then moveLoop sk d (isDirP s d) (8 * (s.entries.length + 2)) [sk] s
              else (.err .existsAlready, s)
          else (.err .isNotDir, s) := by
  have hdst' : (if isDirP s d = true then toPath (mash (renderP d) (baseName sk)) else d) = dst := hdst
  unfold moveK
  simp only [get_bind_apply, getEntry_bind_apply, hs, mpure_bind, hdst']
  by_cases h1 : dst = sk
  · simp only [h1, if_true]; rfl
  simp only [h1, if_false]
  by_cases h2 : sk.isPrefixOf dst = true
  · simp only [h2, if_true, fail_bind, fail_apply]
  simp only [h2, if_false, Bool.false_eq_true]
  by_cases h3 : dst = []
  · subst h3; simp only [dirOf_nil, fail_bind, fail_apply, if_true]
  simp only [h3, if_false, dirOf_ne_nil h3, mpure_bind, getEntry_bind_apply]
  cases h4 : alLookup dst.dropLast s.entries with
  | none => simp only [fail_bind, fail_apply]
  | some x =>
    simp only
    by_cases h5 : (x.dir && !x.link) = true
    · simp only [h5, if_true, mpure_bind, getEntry_bind_apply]
      cases h6 : alLookup dst s.entries with
      | none => simp only [mpure_bind]
      | some y =>
        simp only
        by_cases h7 : (y.file && !y.link && e.file && !e.link) = true
        · simp only [h7, if_true, mpure_bind]
        · simp only [h7, if_false, Bool.false_eq_true, fail_bind, fail_apply]
    · simp only [h5, if_false, Bool.false_eq_true, fail_bind, fail_apply]

/-- `move_p` either leaves without touching the state (every validation failure and the
    `src == dst` shortcut) or enters the relocation loop on the unchanged state -/
theorem moveM_cases (env : Env) (a b : Str) (s : State) :
    (∃ r : Outcome Unit, moveM env a b s = (r, s) ∧ ∀ u, r ≠ .ok u) ∨
    (∃ sk dk srcE, absM env a s = (.ok sk, s) ∧ absM env b s = (.ok dk, s) ∧
      alLookup sk s.entries = some srcE ∧ moveDst s sk dk = sk ∧ moveM env a b s = (.ok (), s)) ∨
    (∃ sk dk srcE, absM env a s = (.ok sk, s) ∧ absM env b s = (.ok dk, s) ∧
      MoveValid s sk dk srcE ∧
      moveM env a b s = moveLoop sk dk (isDirP s dk) (8 * (s.entries.length + 2)) [sk] s) := by
  let P : Outcome Unit × State → Prop := fun res =>
    (∃ r : Outcome Unit, res = (r, s) ∧ ∀ u, r ≠ .ok u) ∨
    (∃ sk dk srcE, absM env a s = (.ok sk, s) ∧ absM env b s = (.ok dk, s) ∧
      alLookup sk s.entries = some srcE ∧ moveDst s sk dk = sk ∧ res = (.ok (), s)) ∨
    (∃ sk dk srcE, absM env a s = (.ok sk, s) ∧ absM env b s = (.ok dk, s) ∧
      MoveValid s sk dk srcE ∧
      res = moveLoop sk dk (isDirP s dk) (8 * (s.entries.length + 2)) [sk] s)
  have herr : ∀ k, P (.err k, s) := fun k => Or.inl ⟨.err k, rfl, fun _ h => nomatch h⟩
  show P (moveM env a b s)
  rw [moveM_eq]
  rcases absM_cases env a s with ⟨sk, ha⟩ | ⟨r, ha, hr⟩
  case inr => exact Or.inl (bind_not_ok ha hr)
  rw [bind_ok ha]
  rcases absM_cases env b s with ⟨dk, hb⟩ | ⟨r, hb, hr⟩
  case inr => exact Or.inl (bind_not_ok hb hr)
  rw [bind_ok hb]
  cases hs : alLookup sk s.entries with
  | none => rw [moveK_nosrc hs]; exact herr _
  | some srcE =>
    rw [moveK_apply hs rfl]
    by_cases h1 : moveDst s sk dk = sk
    · rw [if_pos h1]
      exact Or.inr (Or.inl ⟨sk, dk, srcE, ha, hb, hs, h1, rfl⟩)
    rw [if_neg h1]
    cases h2 : sk.isPrefixOf (moveDst s sk dk) with
    | true => exact herr _
    | false =>
      rw [if_neg Bool.false_ne_true]
      by_cases h3 : moveDst s sk dk = []
      · rw [if_pos h3]; exact herr _
      rw [if_neg h3]
      cases h4 : alLookup (moveDst s sk dk).dropLast s.entries with
      | none => exact herr _
      | some pe =>
        show P (if (pe.dir && !pe.link) = true then _ else _)
        by_cases h5 : (pe.dir && !pe.link) = true
        case neg => rw [if_neg h5]; exact herr _
        have hpe : pe.dir = true ∧ pe.link = false := by simpa using h5
        have hgo : (alLookup (moveDst s sk dk) s.entries = none ∨
            ∃ x, alLookup (moveDst s sk dk) s.entries = some x ∧ x.file = true ∧ x.link = false ∧
              srcE.file = true ∧ srcE.link = false) →
            P (moveLoop sk dk (isDirP s dk) (8 * (s.entries.length + 2)) [sk] s) := fun h6 =>
          Or.inr (Or.inr ⟨sk, dk, srcE, ha, hb, ⟨hs, h1, h2, h3, ⟨pe, h4, hpe.1, hpe.2⟩, h6⟩, rfl⟩)
        rw [if_pos h5]
        cases h6 : alLookup (moveDst s sk dk) s.entries with
        | none => exact hgo (Or.inl h6)
        | some x =>
          show P (if (x.file && !x.link && srcE.file && !srcE.link) = true then _ else _)
          by_cases h7 : (x.file && !x.link && srcE.file && !srcE.link) = true
          · have hx : ((x.file = true ∧ x.link = false) ∧ srcE.file = true) ∧ srcE.link = false := by
              simpa using h7
            rw [if_pos h7]
            exact hgo (Or.inr ⟨x, h6, hx.1.1.1, hx.1.1.2, hx.1.2, hx.2⟩)
          · rw [if_neg h7]; exact herr _

/-! ### tree facts from the invariant -/

/-- no entry is both a directory and a file (holds in every reachable state; `Spec.Inv` does not
    state it) -/
def KindWf (s : State) : Prop := ∀ kv ∈ s.entries, (kv.2.dir && kv.2.file) = false

instance (s : State) : Decidable (KindWf s) := by unfold KindWf; infer_instance

theorem KindWf.at {s : State} (h : KindWf s) {k : FsPath} {e : Entry}
    (hk : alLookup k s.entries = some e) : (e.dir && e.file) = false := h (k, e) (alLookup_mem hk)

theorem ancestor_is_dir {s : State} (hi : InvF s) :
    ∀ (c p : FsPath) (e : Entry), alLookup (p ++ c) s.entries = some e → c ≠ [] →
      ∃ pe, alLookup p s.entries = some pe ∧ pe.dir = true ∧ pe.link = false := by
  intro c
  induction hn : c.length generalizing c with
  | zero =>
    intro p e _ hc
    exact absurd (List.eq_nil_of_length_eq_zero hn) hc
  | succ n ih =>
    intro p e he hc
    rcases eq_nil_or_snoc c with rfl | ⟨c', t, rfl⟩
    · exact absurd rfl hc
    · have hne : p ++ (c' ++ [t]) ≠ [] := by simp
      obtain ⟨pe, fs, hpe, hd, hl, _, _⟩ := hi.parent _ _ he hne
      have hdl : (p ++ (c' ++ [t])).dropLast = p ++ c' := by
        rw [← List.append_assoc, List.dropLast_concat]
      rw [hdl] at hpe
      by_cases hc' : c' = []
      · subst hc'
        rw [List.append_nil] at hpe
        exact ⟨pe, hpe, hd, hl⟩
      · have hlen : c'.length = n := by simp at hn; exact hn
        exact ih c' hlen p pe hpe hc'

theorem nothing_below {s : State} (hi : InvF s) {D : FsPath}
    (hD : alLookup D s.entries = none ∨ ∃ x, alLookup D s.entries = some x ∧ x.dir = false)
    {r : FsPath} (hr : r ≠ []) : alLookup (D ++ r) s.entries = none := by
  cases h : alLookup (D ++ r) s.entries with
  | none => rfl
  | some e =>
    obtain ⟨pe, hpe, hd, _⟩ := ancestor_is_dir hi r D e h hr
    rcases hD with hD | ⟨x, hx, hxd⟩
    · rw [hD] at hpe; cases hpe
    · rw [hx] at hpe; cases hpe; rw [hd] at hxd; cases hxd

theorem no_data_without_entry {s : State} (hi : InvF s) {k : FsPath}
    (h : alLookup k s.entries = none) : alLookup k s.files = none := by
  cases hb : alLookup k s.files with
  | none => rfl
  | some b =>
    obtain ⟨e, he⟩ := hi.dangling k b hb
    rw [h] at he; cases he

/-! ### the abstract node at a key -/

def nodeAt (σ : State) (k : FsPath) : Option TreeFs.Node := (alLookup k σ.entries).map (absNode σ k)

theorem nodeAt_none {σ : State} {k : FsPath} (h : alLookup k σ.entries = none) : nodeAt σ k = none := by
  unfold nodeAt; rw [h]; rfl

theorem nodeAt_some {σ : State} {k : FsPath} {e : Entry} (h : alLookup k σ.entries = some e) :
    nodeAt σ k = some (absNode σ k e) := by
  unfold nodeAt; rw [h]; rfl

theorem absNode_eq_of {σ σ' : State} {k k' : FsPath} {e e' : Entry}
    (hl : e'.link = e.link) (hd : e'.dir = e.dir) (hm : e'.mode = e.mode) (hu : e'.uid = e.uid)
    (hg : e'.gid = e.gid) (ha : e'.alt = e.alt)
    (hdata : (alLookup k' σ'.files).getD [] = (alLookup k σ.files).getD []) :
    absNode σ' k' e' = absNode σ k e := by
  unfold absNode kindOf
  rw [hl, hd, hm, hu, hg, ha, hdata]

theorem nodeAt_eq_of_lookup {σ σ' : State} {k : FsPath}
    (he : alLookup k σ'.entries = alLookup k σ.entries)
    (hf : alLookup k σ'.files = alLookup k σ.files) : nodeAt σ' k = nodeAt σ k := by
  unfold nodeAt
  rw [he]
  cases alLookup k σ.entries with
  | none => rfl
  | some e => exact congrArg some (absNode_eq_of rfl rfl rfl rfl rfl rfl (by rw [hf]))

/-- the fields the abstraction looks at -/
def EqModFiles (a b : Entry) : Prop :=
  a.link = b.link ∧ a.dir = b.dir ∧ a.mode = b.mode ∧ a.uid = b.uid ∧ a.gid = b.gid ∧ a.alt = b.alt

theorem EqModFiles.rfl' (a : Entry) : EqModFiles a a := ⟨rfl, rfl, rfl, rfl, rfl, rfl⟩

theorem nodeAt_alInsert_eqMod {σ : State} {p : FsPath} {x y : Entry}
    (hx : alLookup p σ.entries = some x) (hy : EqModFiles y x) (k : FsPath) :
    nodeAt { σ with entries := alInsert p y σ.entries } k = nodeAt σ k := by
  unfold nodeAt
  simp only [alLookup_alInsert]
  by_cases hk : p = k
  · subst hk
    rw [if_pos rfl, hx]
    exact congrArg some (absNode_eq_of hy.1 hy.2.1 hy.2.2.1 hy.2.2.2.1 hy.2.2.2.2.1 hy.2.2.2.2.2 rfl)
  · rw [if_neg hk]
    cases alLookup k σ.entries with
    | none => rfl
    | some e => exact congrArg some (absNode_eq_of rfl rfl rfl rfl rfl rfl rfl)

/-! ### one relocation step -/

/-- re-key one entry (and its data) from `w` to `dst` (a link gets its `rel` recomputed against the
    directory of `dst`, see `movedEntry`) -/
def relocate (σ : State) (w dst : FsPath) (e : Entry) : State :=
  { σ with entries := alInsert dst (movedEntry e dst) (alErase w σ.entries),
           files := match alLookup w σ.files with
             | some b => alInsert dst b (alErase w σ.files)
             | none => alErase w σ.files }

theorem relocate_entries {σ : State} (hn : (σ.entries.map (·.1)).Nodup) (w dst : FsPath) (e : Entry)
    (k : FsPath) :
    alLookup k (relocate σ w dst e).entries =
      if dst = k then some (movedEntry e dst) else if w = k then none else alLookup k σ.entries := by
  unfold relocate
  simp only [alLookup_alInsert, alLookup_alErase hn]

theorem relocate_files {σ : State} (hn : (σ.files.map (·.1)).Nodup) (w dst : FsPath) (e : Entry)
    (k : FsPath) :
    alLookup k (relocate σ w dst e).files =
      match alLookup w σ.files with
      | some b => if dst = k then some b else if w = k then none else alLookup k σ.files
      | none => if w = k then none else alLookup k σ.files := by
  unfold relocate
  cases alLookup w σ.files with
  | none => simp only [alLookup_alErase hn]
  | some b => simp only [alLookup_alInsert, alLookup_alErase hn]

theorem relocate_files_src {σ : State} (hn : (σ.files.map (·.1)).Nodup) {w dst : FsPath} (e : Entry)
    (hne : w ≠ dst) : alLookup w (relocate σ w dst e).files = none := by
  rw [relocate_files hn]
  cases alLookup w σ.files with
  | none => exact if_pos rfl
  | some b => exact (if_neg hne.symm).trans (if_pos rfl)

theorem relocate_files_dst {σ : State} (hn : (σ.files.map (·.1)).Nodup) {w dst : FsPath} (e : Entry)
    (hne : w ≠ dst) :
    alLookup dst (relocate σ w dst e).files = (alLookup w σ.files).or (alLookup dst σ.files) := by
  rw [relocate_files hn]
  cases alLookup w σ.files with
  | none => exact if_neg hne
  | some b => exact if_pos rfl

theorem relocate_files_other {σ : State} (hn : (σ.files.map (·.1)).Nodup) {w dst k : FsPath} (e : Entry)
    (h1 : w ≠ k) (h2 : dst ≠ k) : alLookup k (relocate σ w dst e).files = alLookup k σ.files := by
  rw [relocate_files hn]
  cases alLookup w σ.files with
  | none => exact if_neg h1
  | some b => exact (if_neg h2).trans (if_neg h1)

theorem relocate_nodupE {σ : State} (hn : (σ.entries.map (·.1)).Nodup) (w dst : FsPath) (e : Entry) :
    ((relocate σ w dst e).entries.map (·.1)).Nodup := nodup_alInsert (nodup_alErase hn)

theorem relocate_nodupF {σ : State} (hn : (σ.files.map (·.1)).Nodup) (w dst : FsPath) (e : Entry) :
    ((relocate σ w dst e).files.map (·.1)).Nodup := by
  unfold relocate
  cases alLookup w σ.files with
  | none => exact nodup_alErase hn
  | some b => exact nodup_alInsert (nodup_alErase hn)

theorem nodeAt_relocate_dst {σ : State} (hnE : (σ.entries.map (·.1)).Nodup)
    (hnF : (σ.files.map (·.1)).Nodup) {w dst : FsPath} {e : Entry}
    (hw : alLookup w σ.entries = some e) (hne : w ≠ dst)
    (hfree : alLookup w σ.files = none → alLookup dst σ.files = none) :
    nodeAt (relocate σ w dst e) dst = nodeAt σ w := by
  unfold nodeAt
  rw [relocate_entries hnE, if_pos rfl, hw]
  refine congrArg some (absNode_eq_of rfl rfl rfl rfl rfl rfl ?_)
  rw [relocate_files_dst hnF e hne]
  cases hb : alLookup w σ.files with
  | none => rw [hfree hb]; rfl
  | some b => rfl

theorem nodeAt_relocate_src {σ : State} (hnE : (σ.entries.map (·.1)).Nodup)
    {w dst : FsPath} {e : Entry} (hne : w ≠ dst) : nodeAt (relocate σ w dst e) w = none := by
  unfold nodeAt
  rw [relocate_entries hnE, if_neg (Ne.symm hne), if_pos rfl]
  rfl

theorem nodeAt_relocate_other {σ : State} (hnE : (σ.entries.map (·.1)).Nodup)
    (hnF : (σ.files.map (·.1)).Nodup) {w dst k : FsPath} {e : Entry}
    (h1 : w ≠ k) (h2 : dst ≠ k) : nodeAt (relocate σ w dst e) k = nodeAt σ k := by
  apply nodeAt_eq_of_lookup
  · rw [relocate_entries hnE, if_neg h2, if_neg h1]
  · exact relocate_files_other hnF e h1 h2

/-- a per-key reading `V` of the state that a relocation carries along: re-keying `w` to `dst` takes
    the reading at `w` to `dst`, changes it at no other key, and the reading sees neither the child set
    of an entry nor a key that has no entry and no data.  The loop is analysed once for such a
    reading; the abstraction `nodeAt` and the data map are the two in use. -/
structure Relocates {β : Type} (V : State → FsPath → Option β) : Prop where
  vacant : ∀ {σ : State} {k : FsPath}, alLookup k σ.entries = none → alLookup k σ.files = none → V σ k = none
  src : ∀ {σ : State} {w dst : FsPath} {e : Entry}, (σ.entries.map (·.1)).Nodup → (σ.files.map (·.1)).Nodup →
    w ≠ dst → V (relocate σ w dst e) w = none
  dst : ∀ {σ : State} {w dst : FsPath} {e : Entry}, (σ.entries.map (·.1)).Nodup → (σ.files.map (·.1)).Nodup →
    alLookup w σ.entries = some e → w ≠ dst →
    (alLookup w σ.files = none → alLookup dst σ.files = none) → V (relocate σ w dst e) dst = V σ w
  other : ∀ {σ : State} {w dst k : FsPath} {e : Entry}, (σ.entries.map (·.1)).Nodup →
    (σ.files.map (·.1)).Nodup → w ≠ k → dst ≠ k → V (relocate σ w dst e) k = V σ k
  eqMod : ∀ {σ : State} {p : FsPath} {x y : Entry}, alLookup p σ.entries = some x → EqModFiles y x →
    ∀ k, V { σ with entries := alInsert p y σ.entries } k = V σ k

theorem relocates_nodeAt : Relocates nodeAt where
  vacant h _ := nodeAt_none h
  src hnE _ hne := nodeAt_relocate_src hnE hne
  dst hnE hnF hw hne hfree := nodeAt_relocate_dst hnE hnF hw hne hfree
  other hnE hnF h1 h2 := nodeAt_relocate_other hnE hnF h1 h2
  eqMod hx hy k := nodeAt_alInsert_eqMod hx hy k

theorem relocates_files : Relocates fun σ k => alLookup k σ.files where
  vacant _ h := h
  src _ hnF hne := relocate_files_src hnF _ hne
  dst _ hnF _ hne hfree := by
    rw [relocate_files_dst hnF _ hne]
    cases hb : alLookup _ _ with
    | none => exact hfree hb
    | some b => rfl
  other _ hnF h1 h2 := relocate_files_other hnF _ h1 h2
  eqMod _ _ _ := rfl

/-- stops after the re-keying of the entry and its data; what follows is the update of the two
    parents' child sets, which only happens for the source root -/
theorem moveLoop_relocate {sk dk : FsPath} {ci : Bool} {pre : FsPath} {σ : State} {w dst : FsPath} {e : Entry}
    (f : Nat) (W : List FsPath)
    (hpre : if ci = true then sk ≠ [] ∧ pre = sk.dropLast else pre = sk)
    (hw : alLookup w σ.entries = some e) (hdst : dstOf dk w pre = dst) (hok : MovedOk e dst) :
    moveLoop sk dk ci (f + 1) (w :: W) σ =
      (do
        let sd ← dirOf w
        match (← getEntry sd) with
        | some oldParent =>
          let op' ← liftO (oldParent.removeChild (baseName w))
          setEntry sd op'
          let dd ← dirOf dst
          match (← getEntry dd) with
          | some newParent =>
            let (_, np') ← liftO (newParent.addChild (baseName dst))
            setEntry dd np'
          | none => fail .parentNotFound
        | none => M.pure ()
        moveLoop sk dk ci f ((kidsOf e).reverse ++ W)) (relocate σ w dst e) := by
  rw [moveLoop_succ_cons, cutPrefix_bind hpre]
  simp only [mpure_bind, hdst, removeEntry_bind_apply, hw, movedRelM_eq_pure hok, setEntry_bind_apply,
    removeFile_bind_apply]
  cases hb : alLookup w σ.files with
  | none => simp only [relocate, hb, kidsOf]; rfl
  | some b => simp only [setFile_bind_apply, relocate, hb, kidsOf]; rfl

/-- one iteration of the loop on an entry whose old parent is already gone -/
theorem moveLoop_child {sk dk : FsPath} {ci : Bool} {pre : FsPath} {σ : State} {w dst : FsPath} {e : Entry}
    (f : Nat) (W : List FsPath)
    (hpre : if ci = true then sk ≠ [] ∧ pre = sk.dropLast else pre = sk)
    (hw : alLookup w σ.entries = some e) (hne : w ≠ [])
    (hdst : dstOf dk w pre = dst) (hok : MovedOk e dst)
    (hpar : alLookup w.dropLast (relocate σ w dst e).entries = none) :
    moveLoop sk dk ci (f + 1) (w :: W) σ =
      moveLoop sk dk ci f ((kidsOf e).reverse ++ W) (relocate σ w dst e) := by
  rw [moveLoop_relocate f W hpre hw hdst hok]
  simp only [dirOf_ne_nil hne, mpure_bind, getEntry_bind_apply, hpar]

/-! ### the relocation loop below the source root -/

/-- loop invariant once the source root itself has been re-keyed -/
structure ChildInv (sk D : FsPath) (σ : State) (W : List FsPath) : Prop where
  nodupE : (σ.entries.map (·.1)).Nodup
  nodupF : (σ.files.map (·.1)).Nodup
  nodupW : W.Nodup
  srcGone : alLookup sk σ.entries = none
  work : ∀ w ∈ W, ∃ r e, w = sk ++ r ∧ r ≠ [] ∧ alLookup (sk ++ r.dropLast) σ.entries = none ∧
    alLookup w σ.entries = some e
  keys : ∀ r e, alLookup (sk ++ r) σ.entries = some e →
    WfKey r ∧ e.path = sk ++ r ∧
    (∀ fs, e.files = some fs → fs.Nodup ∧ ∀ n ∈ fs, ∃ c, alLookup (sk ++ (r ++ [n])) σ.entries = some c) ∧
    (sk ++ r ∈ W ∨ ∃ pe fs, alLookup (sk ++ r.dropLast) σ.entries = some pe ∧ pe.files = some fs ∧
      baseName r ∈ fs) ∧
    alLookup (D ++ r) σ.entries = none ∧ alLookup (D ++ r) σ.files = none
  data : ∀ r b, alLookup (sk ++ r) σ.files = some b → ∃ e, alLookup (sk ++ r) σ.entries = some e

theorem append_ne_self_snoc (sk r : FsPath) (n : Str) : sk ++ (r ++ [n]) ≠ sk ++ r := by
  intro h
  have := congrArg List.length h
  simp at this

theorem inc_left {sk D : FsPath} (hinc : ∀ r r', sk ++ r ≠ D ++ r') (r : FsPath) : sk ++ r ≠ D :=
  fun h => hinc r [] (h.trans (List.append_nil D).symm)

theorem inc_right {sk D : FsPath} (hinc : ∀ r r', sk ++ r ≠ D ++ r') (r : FsPath) : sk ≠ D ++ r :=
  fun h => hinc [] r ((List.append_nil sk).trans h)

theorem childInv_step {sk D : FsPath} (hinc : ∀ r r', sk ++ r ≠ D ++ r')
    {σ : State} {w : FsPath} {W : List FsPath} (h : ChildInv sk D σ (w :: W))
    {r0 : FsPath} {e : Entry} (hw : w = sk ++ r0) (hr0 : r0 ≠ [])
    (he : alLookup w σ.entries = some e) :
    ChildInv sk D (relocate σ w (D ++ r0) e) ((kidsOf e).reverse ++ W) := by
  subst hw
  have hnE := h.nodupE
  have hnF := h.nodupF
  obtain ⟨hwf0, hpath, hch0, _, hfreeE0, hfreeF0⟩ := h.keys r0 e he
  have hpar0 : alLookup (sk ++ r0.dropLast) σ.entries = none := by
    obtain ⟨r, e', hr, hrne, hp, _⟩ := h.work (sk ++ r0) (by simp)
    have : r = r0 := List.append_cancel_left hr.symm
    subst this; exact hp
  have hE : ∀ r, alLookup (sk ++ r) (relocate σ (sk ++ r0) (D ++ r0) e).entries =
      if r0 = r then none else alLookup (sk ++ r) σ.entries := by
    intro r
    rw [relocate_entries hnE, if_neg (fun hh => hinc r r0 hh.symm)]
    by_cases hr : r0 = r
    · subst hr; simp
    · rw [if_neg hr, if_neg (fun hh => hr (List.append_cancel_left hh))]
  have hF : ∀ r, alLookup (sk ++ r) (relocate σ (sk ++ r0) (D ++ r0) e).files =
      if r0 = r then none else alLookup (sk ++ r) σ.files := by
    intro r
    by_cases hr : r0 = r
    · subst hr; rw [if_pos rfl]; exact relocate_files_src hnF e (hinc r0 r0)
    · rw [if_neg hr]
      exact relocate_files_other hnF e (fun hh => hr (List.append_cancel_left hh)) (fun hh => hinc r r0 hh.symm)
  have hkids : ∀ x, x ∈ kidsOf e ↔ ∃ fs n, e.files = some fs ∧ n ∈ fs ∧ x = sk ++ (r0 ++ [n]) := by
    intro x
    rw [mem_kidsOf, hpath]
    simp only [List.append_assoc]
  refine ⟨relocate_nodupE hnE _ _ _, relocate_nodupF hnF _ _ _, ?_, ?_, ?_, ?_, ?_⟩
  · -- the work list stays duplicate free
    rw [List.nodup_append]
    refine ⟨?_, (List.nodup_cons.1 h.nodupW).2, ?_⟩
    · exact nodup_reverse' (nodup_kidsOf fun fs hf => (hch0 fs hf).1)
    · intro a ha b hb hab
      subst hab
      rw [List.mem_reverse, hkids] at ha
      obtain ⟨fs, n, _, _, rfl⟩ := ha
      obtain ⟨r, e', hr, _, hp, _⟩ := h.work _ (List.mem_cons_of_mem _ hb)
      have : r = r0 ++ [n] := (List.append_cancel_left hr).symm
      subst this
      rw [List.dropLast_concat, he] at hp
      cases hp
  · -- the source root stays absent
    have := hE []
    rw [List.append_nil] at this
    rw [this, h.srcGone]; simp
  · -- every work item is present and its parent is gone
    intro x hx
    rcases List.mem_append.1 hx with hx | hx
    · rw [List.mem_reverse, hkids] at hx
      obtain ⟨fs, n, hfs, hn, rfl⟩ := hx
      obtain ⟨c, hc⟩ := (hch0 fs hfs).2 n hn
      refine ⟨r0 ++ [n], c, rfl, by simp, ?_, ?_⟩
      · rw [List.dropLast_concat, hE, if_pos rfl]
      · rw [hE, if_neg (by intro hh; have := congrArg List.length hh; simp at this), hc]
    · obtain ⟨r, e', hr, hrne, hp, hpres⟩ := h.work x (List.mem_cons_of_mem _ hx)
      subst hr
      refine ⟨r, e', rfl, hrne, ?_, ?_⟩
      · rw [hE, hp]; simp
      · have hne : r0 ≠ r := by
          intro hh; subst hh
          exact (List.nodup_cons.1 h.nodupW).1 hx
        rw [hE, if_neg hne, hpres]
  · -- every remaining key below the source root
    intro r e' hr
    rw [hE] at hr
    by_cases hr0r : r0 = r
    · rw [if_pos hr0r] at hr; cases hr
    rw [if_neg hr0r] at hr
    obtain ⟨hwf, hp, hch, hmem, hfE, hfF⟩ := h.keys r e' hr
    have hrne : r ≠ [] := by
      intro hh; subst hh
      rw [List.append_nil, h.srcGone] at hr; cases hr
    refine ⟨hwf, hp, ?_, ?_, ?_, ?_⟩
    · intro fs hfs
      refine ⟨(hch fs hfs).1, ?_⟩
      intro n hn
      obtain ⟨c, hc⟩ := (hch fs hfs).2 n hn
      refine ⟨c, ?_⟩
      rw [hE, if_neg ?_, hc]
      intro hh
      rw [hh, List.dropLast_concat, hr] at hpar0
      cases hpar0
    · rcases hmem with hmem | ⟨pe, fs, hpe, hfs, hb⟩
      · left
        rcases List.mem_cons.1 hmem with hmem | hmem
        · exact absurd (List.append_cancel_left hmem).symm hr0r
        · exact List.mem_append_right _ hmem
      · by_cases hpw : r0 = r.dropLast
        · left
          apply List.mem_append_left
          rw [List.mem_reverse, hkids]
          rw [← hpw, he] at hpe
          cases hpe
          refine ⟨fs, baseName r, hfs, hb, ?_⟩
          rw [hpw, dropLast_append_baseName hrne]
        · right
          exact ⟨pe, fs, by rw [hE, if_neg hpw, hpe], hfs, hb⟩
    · rw [relocate_entries hnE, if_neg (fun hh => hr0r (List.append_cancel_left hh)),
        if_neg (fun hh => hinc r0 r hh), hfE]
    · rw [relocate_files_other hnF e (hinc r0 r) (fun hh => hr0r (List.append_cancel_left hh)), hfF]
  · -- data keys below the source root still have entries
    intro r b hb
    rw [hF] at hb
    by_cases hr0r : r0 = r
    · rw [if_pos hr0r] at hb; cases hb
    rw [if_neg hr0r] at hb
    obtain ⟨e', he'⟩ := h.data r b hb
    exact ⟨e', by rw [hE, if_neg hr0r, he']⟩

theorem isPrefixOf_append (sk r : FsPath) : sk.isPrefixOf (sk ++ r) = true := by
  rw [List.isPrefixOf_iff_prefix]; exact List.prefix_append _ _

theorem isPrefixOf_false {sk k : FsPath} (h : ∀ t, sk ++ t ≠ k) : sk.isPrefixOf k = false := by
  cases hp : sk.isPrefixOf k with
  | false => rfl
  | true =>
    obtain ⟨t, ht⟩ := List.isPrefixOf_iff_prefix.1 hp
    exact absurd ht (h t)

theorem isPrefixOf_false_of_inc {sk D : FsPath} (hinc : ∀ r r', sk ++ r ≠ D ++ r') (r' : FsPath) :
    sk.isPrefixOf (D ++ r') = false := isPrefixOf_false fun t => hinc t r'

theorem childInv_nil_no_keys {sk D : FsPath} {σ : State} (h : ChildInv sk D σ []) :
    ∀ r, alLookup (sk ++ r) σ.entries = none := by
  intro r
  induction hn : r.length using Nat.strongRecOn generalizing r with
  | _ n ih =>
    cases hl : alLookup (sk ++ r) σ.entries with
    | none => rfl
    | some e =>
      obtain ⟨_, _, _, hmem, _, _⟩ := h.keys r e hl
      rcases hmem with hmem | ⟨pe, fs, hpe, _, _⟩
      · simp at hmem
      · have hrne : r ≠ [] := by
          intro hh; subst hh
          rw [List.append_nil, h.srcGone] at hl; cases hl
        have hlen : r.dropLast.length < n := by
          rw [List.length_dropLast, ← hn]
          have : r.length ≠ 0 := fun h0 => hrne (List.eq_nil_of_length_eq_zero h0)
          omega
        rw [ih _ hlen r.dropLast rfl] at hpe
        cases hpe

theorem moveLoop_children {β : Type} {V : State → FsPath → Option β} (hV : Relocates V)
    {sk dk D pre : FsPath} {ci : Bool}
    (hpre : if ci = true then sk ≠ [] ∧ pre = sk.dropLast else pre = sk)
    (hinc : ∀ r r', sk ++ r ≠ D ++ r')
    (hdst : ∀ r, WfKey r → dstOf dk (sk ++ r) pre = D ++ r) :
    ∀ (f : Nat) (σ : State) (W : List FsPath), ChildInv sk D σ W →
      keyCount (fun k => sk.isPrefixOf k) σ.entries < f →
      ∃ σ', moveLoop sk dk ci f W σ = (.ok (), σ') ∧ σ'.cwd = σ.cwd ∧
        (∀ r, alLookup (sk ++ r) σ'.entries = none) ∧ (∀ r, alLookup (sk ++ r) σ'.files = none) ∧
        (∀ r, V σ' (D ++ r) = (V σ (sk ++ r)).or (V σ (D ++ r))) ∧
        (∀ k, (∀ r, k ≠ sk ++ r) → (∀ r, k ≠ D ++ r) → V σ' k = V σ k) := by
  intro f
  induction f with
  | zero => intro σ W _ hc; omega
  | succ f ih =>
    intro σ W h hc
    cases W with
    | nil =>
      have hnd : ∀ r, alLookup (sk ++ r) σ.files = none := by
        intro r
        cases hb : alLookup (sk ++ r) σ.files with
        | none => rfl
        | some b =>
          obtain ⟨e, he⟩ := h.data r b hb
          rw [childInv_nil_no_keys h r] at he; cases he
      refine ⟨σ, by rw [moveLoop]; rfl, rfl, childInv_nil_no_keys h, hnd, ?_, fun _ _ _ => rfl⟩
      intro r
      rw [hV.vacant (childInv_nil_no_keys h r) (hnd r)]; rfl
    | cons w W =>
      obtain ⟨r0, e, hw, hr0, hpar0, he⟩ := h.work w (by simp)
      subst hw
      have hnE := h.nodupE
      have hnF := h.nodupF
      obtain ⟨hwf0, _, _, _, hfreeE0, hfreeF0⟩ := h.keys r0 e he
      have hne : sk ++ r0 ≠ [] := by simp [hr0]
      have hdl : (sk ++ r0).dropLast = sk ++ r0.dropLast := List.dropLast_append_of_ne_nil hr0
      have hstep := moveLoop_child (sk := sk) (dk := dk) (ci := ci) f W hpre he hne (hdst r0 hwf0)
        (movedOk_of_ne (by simp [hr0]))
        (by
          rw [hdl, relocate_entries hnE, if_neg (fun hh => hinc _ _ hh.symm), hpar0]
          simp)
      have hinv' := childInv_step hinc h rfl hr0 he
      have hcount : keyCount (fun k => sk.isPrefixOf k) (relocate σ (sk ++ r0) (D ++ r0) e).entries < f := by
        have h1 := keyCount_alInsert_false (p := fun k => sk.isPrefixOf k) (k := D ++ r0)
          (isPrefixOf_false_of_inc hinc r0) (movedEntry e (D ++ r0)) (alErase (sk ++ r0) σ.entries)
        have h2 := keyCount_alErase_true (p := fun k => sk.isPrefixOf k) (k := sk ++ r0)
          (isPrefixOf_append sk r0) (l := σ.entries)
          (alLookup_isSome_iff_mem_keys.1 (by rw [he]; rfl))
        show keyCount _ (alInsert (D ++ r0) _ (alErase (sk ++ r0) σ.entries)) < f
        rw [h1]; omega
      obtain ⟨σ', hrun, hcwd, hnone, hnoneF, hview, hother⟩ := ih _ _ hinv' hcount
      refine ⟨σ', by rw [hstep, hrun], hcwd, hnone, hnoneF, ?_, ?_⟩
      · intro r
        rw [hview r]
        by_cases hr : r0 = r
        · subst hr
          rw [hV.src hnE hnF (hinc r0 r0), hV.dst hnE hnF he (hinc r0 r0) (fun _ => hfreeF0),
            hV.vacant hfreeE0 hfreeF0, Option.or_none]
          rfl
        · have h1 : sk ++ r0 ≠ sk ++ r := fun hh => hr (List.append_cancel_left hh)
          have h2 : D ++ r0 ≠ D ++ r := fun hh => hr (List.append_cancel_left hh)
          rw [hV.other hnE hnF h1 (fun hh => hinc r r0 hh.symm), hV.other hnE hnF (hinc r0 r) h2]
      · intro k hk1 hk2
        rw [hother k hk1 hk2]
        exact hV.other hnE hnF (fun hh => hk1 r0 hh.symm) (fun hh => hk2 r0 hh.symm)

/-! ### the first iteration: the source root itself -/

/-- `MemfsEntry::add(name)` on a directory -/
def plusChild (e : Entry) (n : Str) : Entry :=
  match e.files with
  | some fs => { e with files := some (insertName n fs).2 }
  | none => { e with files := some [n] }

theorem addChild_dir {e : Entry} (h : e.dir = true) (n : Str) :
    ∃ b, e.addChild n = .ok (b, plusChild e n) := by
  unfold Entry.addChild plusChild
  rw [h]
  cases e.files with
  | none => exact ⟨true, rfl⟩
  | some fs => exact ⟨(insertName n fs).1, rfl⟩

theorem dropName_eqMod (n : Str) (e : Entry) : EqModFiles (dropName n e) e :=
  ⟨rfl, rfl, rfl, rfl, rfl, rfl⟩

theorem plusChild_eqMod (e : Entry) (n : Str) : EqModFiles (plusChild e n) e := by
  unfold plusChild; cases e.files <;> exact ⟨rfl, rfl, rfl, rfl, rfl, rfl⟩

/-- the state after the first iteration -/
def rootStep (σ : State) (sk dst : FsPath) (e op np : Entry) : State :=
  let σ1 := relocate σ sk dst e
  let σ2 : State := { σ1 with entries := alInsert sk.dropLast (dropName (baseName sk) op) σ1.entries }
  { σ2 with entries := alInsert dst.dropLast (plusChild np (baseName dst)) σ2.entries }

theorem moveLoop_root {sk dk : FsPath} {ci : Bool} {pre : FsPath} {σ : State} {dst : FsPath}
    {e op np : Entry} (f : Nat) (W : List FsPath)
    (hpre : if ci = true then sk ≠ [] ∧ pre = sk.dropLast else pre = sk)
    (hw : alLookup sk σ.entries = some e) (hne : sk ≠ []) (hdne : dst ≠ [])
    (hdst : dstOf dk sk pre = dst)
    (hop : alLookup sk.dropLast (relocate σ sk dst e).entries = some op) (hopd : op.dir = true)
    (hnp : alLookup dst.dropLast
      (alInsert sk.dropLast (dropName (baseName sk) op) (relocate σ sk dst e).entries) = some np)
    (hnpd : np.dir = true) :
    moveLoop sk dk ci (f + 1) (sk :: W) σ =
      moveLoop sk dk ci f ((kidsOf e).reverse ++ W) (rootStep σ sk dst e op np) := by
  obtain ⟨b, hb⟩ := addChild_dir hnpd (baseName dst)
  rw [moveLoop_relocate f W hpre hw hdst (movedOk_of_ne hdne)]
  simp only [dirOf_ne_nil hne, dirOf_ne_nil hdne, mpure_bind, getEntry_bind_apply, hop,
    removeChild_dir hopd, liftO_ok_bind, setEntry_bind_apply]
  have hnp' : alLookup dst.dropLast (alInsert sk.dropLast (dropName (baseName sk) op)
      (relocate σ sk dst e).entries) = some np := hnp
  simp only [hnp', hb, liftO_ok_bind, setEntry_bind_apply]
  rfl

theorem append_ne_dropLast (p r : FsPath) (hp : p ≠ []) : p ++ r ≠ p.dropLast := by
  intro h
  have := congrArg List.length h
  rw [List.length_append, List.length_dropLast] at this
  have : p.length ≠ 0 := fun h0 => hp (List.eq_nil_of_length_eq_zero h0)
  omega

/-- facts established by validation, in the form the loop analysis uses -/
structure MoveSetup (s0 : State) (sk dk D pre : FsPath) (srcE : Entry) : Prop where
  skne : sk ≠ []
  dne : D ≠ []
  src : alLookup sk s0.entries = some srcE
  hpre : if isDirP s0 dk = true then sk ≠ [] ∧ pre = sk.dropLast else pre = sk
  hinc : ∀ r r', sk ++ r ≠ D ++ r'
  hdst : ∀ r, WfKey r → dstOf dk (sk ++ r) pre = D ++ r
  dform : D = if isDirP s0 dk = true then dk ++ [baseName sk] else dk
  dparent : ∃ pe, alLookup D.dropLast s0.entries = some pe ∧ pe.dir = true ∧ pe.link = false
  dfree : alLookup D s0.entries = none ∨ ∃ x, alLookup D s0.entries = some x ∧ x.dir = false ∧
      x.file = true ∧ x.link = false ∧ srcE.file = true ∧ srcE.link = false

theorem moveSetup_of_valid {s0 : State} {sk dk : FsPath} {srcE : Entry} (hi : InvF s0)
    (hk : KeysWf s0) (hkind : KindWf s0) (hdk : WfKey dk) (hv : MoveValid s0 sk dk srcE) :
    MoveSetup s0 sk dk (moveDst s0 sk dk) (preOf (isDirP s0 dk) sk) srcE := by
  have hskne : sk ≠ [] := by
    intro h; subst h
    have := hv.notUnder
    simp at this
  have hD := moveDst_eq (s := s0) (hk.key hv.src) hskne hdk
  have hpre := preOf_spec (ci := isDirP s0 dk) fun _ => hskne
  have hdfree : alLookup (moveDst s0 sk dk) s0.entries = none ∨
      ∃ x, alLookup (moveDst s0 sk dk) s0.entries = some x ∧ x.dir = false ∧
        x.file = true ∧ x.link = false ∧ srcE.file = true ∧ srcE.link = false := by
    rcases hv.dst with h | ⟨x, hx, h1, h2, h3, h4⟩
    · exact Or.inl h
    · refine Or.inr ⟨x, hx, ?_, h1, h2, h3, h4⟩
      have := hkind.at hx
      rw [h1] at this
      simpa using this
  refine ⟨hskne, hv.dstNe, hv.src, hpre, ?_, fun r hr => hD ▸ dstOf_sub hdk (hk.key hv.src) hr hpre, hD,
    hv.parent, hdfree⟩
  · -- source and destination are incomparable
    intro r r' h
    rcases List.append_eq_append_iff.1 h with ⟨a, ha, _⟩ | ⟨c, hc, _⟩
    · have : sk.isPrefixOf (moveDst s0 sk dk) = true := by
        rw [List.isPrefixOf_iff_prefix, ha]; exact List.prefix_append _ _
      rw [hv.notUnder] at this; cases this
    · by_cases hc0 : c = []
      · subst hc0
        rw [List.append_nil] at hc
        exact hv.ne hc.symm
      · rw [hc] at hv
        obtain ⟨pe, hpe, hd, _⟩ := ancestor_is_dir hi c _ srcE hv.src hc0
        rcases hdfree with h | ⟨x, hx, hxd, _⟩
        · rw [h] at hpe; cases hpe
        · rw [hx] at hpe; cases hpe; rw [hd] at hxd; cases hxd

theorem MoveSetup.below {s0 : State} {sk dk D pre : FsPath} {srcE : Entry} (hi : InvF s0)
    (hs : MoveSetup s0 sk dk D pre srcE) {r : FsPath} (hr : r ≠ []) :
    alLookup (D ++ r) s0.entries = none := by
  refine nothing_below hi ?_ hr
  rcases hs.dfree with h | ⟨x, hx, hxd, _⟩
  · exact Or.inl h
  · exact Or.inr ⟨x, hx, hxd⟩

theorem root_establishes {s0 : State} {sk dk D pre : FsPath} {srcE : Entry} (hi : InvF s0)
    (hk : KeysWf s0) (hs : MoveSetup s0 sk dk D pre srcE) :
    ∃ op np,
      alLookup sk.dropLast (relocate s0 sk D srcE).entries = some op ∧ op.dir = true ∧
      alLookup D.dropLast (alInsert sk.dropLast (dropName (baseName sk) op)
        (relocate s0 sk D srcE).entries) = some np ∧ np.dir = true ∧
      ChildInv sk D (rootStep s0 sk D srcE op np) (kidsOf srcE).reverse ∧
      keyCount (fun k => sk.isPrefixOf k) (rootStep s0 sk D srcE op np).entries + 1 =
        keyCount (fun k => sk.isPrefixOf k) s0.entries := by
  have hnE := hi.nodup
  have hnF := hi.fnodup
  have hinc := hs.hinc
  have hskne := hs.skne
  have hdne := hs.dne
  have hsd_sk : ∀ r, sk ++ r ≠ sk.dropLast := fun r => append_ne_dropLast sk r hskne
  have hdd_D : ∀ r, D ++ r ≠ D.dropLast := fun r => append_ne_dropLast D r hdne
  have hdd_sk : ∀ r, sk ++ r ≠ D.dropLast := by
    intro r h
    have := dropLast_append_baseName hdne
    rw [← h, List.append_assoc] at this
    exact hinc (r ++ [baseName D]) [] (by rw [List.append_nil]; exact this)
  have hsd_D : ∀ r, D ++ r ≠ sk.dropLast := by
    intro r h
    have := dropLast_append_baseName hskne
    rw [← h, List.append_assoc] at this
    exact hinc [] (r ++ [baseName sk]) (by rw [List.append_nil]; exact this.symm)
  obtain ⟨op, opfs, hop0, hopd, _, _, _⟩ := hi.parent sk srcE hs.src hskne
  have hop : alLookup sk.dropLast (relocate s0 sk D srcE).entries = some op := by
    rw [relocate_entries hnE, if_neg (by have := hsd_D []; rwa [List.append_nil] at this),
      if_neg (by have := hsd_sk []; rwa [List.append_nil] at this), hop0]
  obtain ⟨dp, hdp0, hdpd, _⟩ := hs.dparent
  have hdp : alLookup D.dropLast (relocate s0 sk D srcE).entries = some dp := by
    rw [relocate_entries hnE, if_neg (by have := hdd_D []; rwa [List.append_nil] at this),
      if_neg (by have := hdd_sk []; rwa [List.append_nil] at this), hdp0]
  have hnp : ∃ np, alLookup D.dropLast (alInsert sk.dropLast (dropName (baseName sk) op)
      (relocate s0 sk D srcE).entries) = some np ∧ np.dir = true := by
    rw [alLookup_alInsert]
    by_cases h : sk.dropLast = D.dropLast
    · rw [if_pos h]; exact ⟨_, rfl, hopd⟩
    · rw [if_neg h, hdp]; exact ⟨_, rfl, hdpd⟩
  obtain ⟨np, hnp, hnpd⟩ := hnp
  refine ⟨op, np, hop, hopd, hnp, hnpd, ?_, ?_⟩
  · -- the invariant
    have hR : ∀ k, sk.dropLast ≠ k → D.dropLast ≠ k →
        alLookup k (rootStep s0 sk D srcE op np).entries = alLookup k (relocate s0 sk D srcE).entries := by
      intro k h1 h2
      show alLookup k (alInsert _ _ (alInsert _ _ _)) = _
      rw [alLookup_alInsert_ne h2, alLookup_alInsert_ne h1]
    have hEsk : ∀ r, alLookup (sk ++ r) (rootStep s0 sk D srcE op np).entries =
        if r = [] then none else alLookup (sk ++ r) s0.entries := by
      intro r
      rw [hR _ (hsd_sk r).symm (hdd_sk r).symm, relocate_entries hnE, if_neg (inc_left hinc r).symm]
      by_cases hr : r = []
      · subst hr; simp
      · rw [if_neg hr, if_neg (self_ne_append hr)]
    have hED : ∀ r, r ≠ [] → alLookup (D ++ r) (rootStep s0 sk D srcE op np).entries = none := by
      intro r hr
      rw [hR _ (hsd_D r).symm (hdd_D r).symm, relocate_entries hnE, if_neg (self_ne_append hr),
        if_neg (inc_right hinc r), hs.below hi hr]
    have hFiles : (rootStep s0 sk D srcE op np).files = (relocate s0 sk D srcE).files := rfl
    have hFsk : ∀ r, r ≠ [] → alLookup (sk ++ r) (rootStep s0 sk D srcE op np).files =
        alLookup (sk ++ r) s0.files := by
      intro r hr
      rw [hFiles, relocate_files_other hnF srcE (self_ne_append hr) (inc_left hinc r).symm]
    have hFD : ∀ r, r ≠ [] → alLookup (D ++ r) (rootStep s0 sk D srcE op np).files = none := by
      intro r hr
      rw [hFiles, relocate_files_other hnF srcE (inc_right hinc r) (self_ne_append hr)]
      exact no_data_without_entry hi (hs.below hi hr)
    have hkids : ∀ x, x ∈ kidsOf srcE ↔ ∃ fs n, srcE.files = some fs ∧ n ∈ fs ∧ x = sk ++ [n] := by
      intro x
      rw [mem_kidsOf, hi.path sk srcE hs.src]
    refine ⟨nodup_alInsert (nodup_alInsert (relocate_nodupE hnE sk D srcE)), relocate_nodupF hnF sk D srcE, ?_, ?_, ?_, ?_, ?_⟩
    · exact nodup_reverse' (nodup_kidsOf fun fs hf => hi.childnodup sk srcE fs hs.src hf)
    · have := hEsk []
      rw [List.append_nil] at this
      rw [this]; rfl
    · intro x hx
      rw [List.mem_reverse, hkids] at hx
      obtain ⟨fs, n, hfs, hn, rfl⟩ := hx
      obtain ⟨c, hc⟩ := hi.child sk srcE fs n hs.src hfs hn
      refine ⟨[n], c, rfl, by simp, ?_, ?_⟩
      · have := hEsk []
        rw [List.append_nil] at this
        simpa using this
      · rw [hEsk, if_neg (by simp), hc]
    · intro r e hr
      rw [hEsk] at hr
      by_cases hr0 : r = []
      · rw [if_pos hr0] at hr; cases hr
      rw [if_neg hr0] at hr
      have hne : sk ++ r ≠ [] := by simp [hr0]
      refine ⟨(hk.key hr).right, hi.path _ _ hr, ?_, ?_, hED r hr0, hFD r hr0⟩
      · intro fs hfs
        refine ⟨hi.childnodup _ _ _ hr hfs, ?_⟩
        intro n hn
        obtain ⟨c, hc⟩ := hi.child _ _ _ n hr hfs hn
        rw [List.append_assoc] at hc
        exact ⟨c, by rw [hEsk, if_neg (by simp), hc]⟩
      · obtain ⟨pe, fs, hpe, _, _, hfs, hb⟩ := hi.parent _ _ hr hne
        rw [List.dropLast_append_of_ne_nil hr0] at hpe
        rw [baseName_append hr0] at hb
        by_cases hd : r.dropLast = []
        · left
          rw [List.mem_reverse, hkids]
          rw [hd, List.append_nil, hs.src] at hpe
          cases hpe
          refine ⟨fs, baseName r, hfs, hb, ?_⟩
          have := dropLast_append_baseName hr0
          rw [hd] at this
          rw [← this]; rfl
        · right
          exact ⟨pe, fs, by rw [hEsk, if_neg hd, hpe], hfs, hb⟩
    · intro r b hb
      by_cases hr0 : r = []
      · subst hr0
        exfalso
        rw [List.append_nil, hFiles,
          relocate_files_src hnF srcE (fun h => inc_left hinc [] ((List.append_nil sk).trans h))] at hb
        cases hb
      · rw [hFsk r hr0] at hb
        obtain ⟨e, he⟩ := hi.dangling _ _ hb
        exact ⟨e, by rw [hEsk, if_neg hr0, he]⟩
  · show keyCount _ (alInsert _ _ (alInsert _ _ (alInsert _ _ (alErase sk s0.entries)))) + 1 = _
    rw [keyCount_alInsert_false (isPrefixOf_false hdd_sk), keyCount_alInsert_false (isPrefixOf_false hsd_sk),
      keyCount_alInsert_false (isPrefixOf_false (inc_left hinc))]
    exact keyCount_alErase_true (List.isPrefixOf_iff_prefix.2 (List.prefix_refl sk))
      (alLookup_isSome_iff_mem_keys.1 (by rw [hs.src]; rfl))

/-- **`move_p` after validation**: the relocation loop succeeds; afterwards neither entry nor data is
    left at or below the source key, what `V` read at `sk ++ r` is found at `D ++ r`, and at every key
    that is neither below the source nor at/below the destination `V` reads what it did -/
theorem moveLoop_view {β : Type} {V : State → FsPath → Option β} (hV : Relocates V)
    {s0 : State} {sk dk D pre : FsPath} {srcE : Entry} (hi : InvF s0)
    (hk : KeysWf s0) (hs : MoveSetup s0 sk dk D pre srcE) :
    ∃ σ', moveLoop sk dk (isDirP s0 dk) (8 * (s0.entries.length + 2)) [sk] s0 = (.ok (), σ') ∧
      σ'.cwd = s0.cwd ∧
      (∀ r, alLookup (sk ++ r) σ'.entries = none) ∧ (∀ r, alLookup (sk ++ r) σ'.files = none) ∧
      (∀ r, V σ' (D ++ r) = V s0 (sk ++ r)) ∧
      (∀ k, (∀ r, k ≠ sk ++ r) → (∀ r, k ≠ D ++ r) → V σ' k = V s0 k) := by
  obtain ⟨op, np, hop, hopd, hnp, hnpd, hinv, hcount⟩ := root_establishes hi hk hs
  -- the two parents only change their child sets
  have hnode : ∀ k, V (rootStep s0 sk D srcE op np) k = V (relocate s0 sk D srcE) k := by
    intro k
    let σ1 : State := { relocate s0 sk D srcE with
      entries := alInsert sk.dropLast (dropName (baseName sk) op) (relocate s0 sk D srcE).entries }
    exact (hV.eqMod (σ := σ1) hnp (plusChild_eqMod np (baseName D)) k).trans
      (hV.eqMod hop (dropName_eqMod (baseName sk) op) k)
  have hinc := hs.hinc
  have hnE := hi.nodup
  have hnF := hi.fnodup
  have hfuel : 8 * (s0.entries.length + 2) = (8 * (s0.entries.length + 2) - 1) + 1 := by omega
  have hdst0 : dstOf dk sk pre = D := by
    have := hs.hdst [] wfKey_nil
    rwa [List.append_nil, List.append_nil] at this
  rw [hfuel, moveLoop_root _ [] hs.hpre hs.src hs.skne hs.dne hdst0 hop hopd hnp hnpd, List.append_nil]
  have hc : keyCount (fun k => sk.isPrefixOf k) (rootStep s0 sk D srcE op np).entries <
      8 * (s0.entries.length + 2) - 1 := by
    have := keyCount_le (fun k => sk.isPrefixOf k) s0.entries
    omega
  obtain ⟨σ', hrun, hcwd, hnone, hnoneF, hview, hother⟩ :=
    moveLoop_children hV hs.hpre hinc hs.hdst _ _ _ hinv hc
  -- a file may replace a file: then the source has data
  have hfree : alLookup sk s0.files = none → alLookup D s0.files = none := by
    intro hnf
    rcases hs.dfree with h | ⟨x, hx, _, _, _, hf, hl⟩
    · exact no_data_without_entry hi h
    · have := hi.data sk srcE hs.src
      rw [hnf, hf, hl] at this
      simp at this
  have hskD : sk ≠ D := fun h => inc_left hinc [] ((List.append_nil sk).trans h)
  refine ⟨σ', hrun, hcwd, hnone, hnoneF, ?_, ?_⟩
  · intro r
    rw [hview r, hnode, hnode]
    by_cases hr : r = []
    · subst hr
      simp only [List.append_nil]
      rw [hV.src hnE hnF hskD, hV.dst hnE hnF hs.src hskD hfree]
      rfl
    · rw [hV.other hnE hnF (self_ne_append hr) (inc_left hinc r).symm,
        hV.other hnE hnF (inc_right hinc r) (self_ne_append hr),
        hV.vacant (hs.below hi hr) (no_data_without_entry hi (hs.below hi hr)), Option.or_none]
  · intro k hk1 hk2
    rw [hother k hk1 hk2, hnode]
    refine hV.other hnE hnF ?_ ?_
    · intro h; exact hk1 [] (by rw [List.append_nil]; exact h.symm)
    · intro h; exact hk2 [] (by rw [List.append_nil]; exact h.symm)

theorem moveLoop_spec {s0 : State} {sk dk D pre : FsPath} {srcE : Entry} (hi : InvF s0)
    (hk : KeysWf s0) (hs : MoveSetup s0 sk dk D pre srcE) :
    ∃ σ', moveLoop sk dk (isDirP s0 dk) (8 * (s0.entries.length + 2)) [sk] s0 = (.ok (), σ') ∧
      σ'.cwd = s0.cwd ∧
      (∀ r, alLookup (sk ++ r) σ'.entries = none) ∧
      (∀ r, nodeAt σ' (D ++ r) = nodeAt s0 (sk ++ r)) ∧
      (∀ k, (∀ r, k ≠ sk ++ r) → (∀ r, k ≠ D ++ r) → nodeAt σ' k = nodeAt s0 k) := by
  obtain ⟨σ', hrun, hcwd, hnone, _, hview, hother⟩ := moveLoop_view relocates_nodeAt hi hk hs
  exact ⟨σ', hrun, hcwd, hnone, hview, hother⟩

/-! ### the reference tree -/

open Rivia.Spec.TreeFs

theorem get_absS_nodeAt (σ : State) (k : FsPath) : get (absS σ) k = nodeAt σ k :=
  alLookup_map k (absNode σ) σ.entries

theorem isPrefixOrEq_iff_append (p q : FsPath) : isPrefixOrEq p q = true ↔ ∃ r, q = p ++ r := by
  unfold isPrefixOrEq
  simp only [Bool.and_eq_true, decide_eq_true_eq, beq_iff_eq]
  constructor
  · rintro ⟨_, h⟩
    refine ⟨q.drop p.length, ?_⟩
    have := List.take_append_drop p.length q
    rw [h] at this
    exact this.symm
  · rintro ⟨r, rfl⟩
    simp

theorem isPrefixOrEq_append (p r : FsPath) : isPrefixOrEq p (p ++ r) = true :=
  (isPrefixOrEq_iff_append _ _).2 ⟨r, rfl⟩

theorem isPrefixOrEq_false_iff (p q : FsPath) : isPrefixOrEq p q = false ↔ ∀ r, q ≠ p ++ r := by
  rw [← Bool.not_eq_true, isPrefixOrEq_iff_append]
  simp

/-- the entries at or below `s`, re-keyed to sit at or below `dst`, values rewritten by `g`: what both
    reference operations (`TreeFs.moveP` with `g = id`, `copySpec`) put at the destination -/
def reKey {β γ : Type} (s dst : FsPath) (g : β → γ) (l : List (FsPath × β)) : List (FsPath × γ) :=
  (l.filter (fun kv => isPrefixOrEq s kv.1)).map (fun kv => (dst ++ kv.1.drop s.length, g kv.2))

section
variable {β γ : Type} (s dst : FsPath) (g : β → γ)

theorem alLookup_reKey (l : List (FsPath × β)) (r : FsPath) :
    alLookup (dst ++ r) (reKey s dst g l) = (alLookup (s ++ r) l).map g := by
  unfold reKey
  induction l with
  | nil => rfl
  | cons x t ih =>
    obtain ⟨k1, v1⟩ := x
    simp only [List.filter_cons]
    cases h : isPrefixOrEq s k1 with
    | true =>
      obtain ⟨r1, rfl⟩ := (isPrefixOrEq_iff_append _ _).1 h
      simp only [if_true, List.map_cons, List.drop_left, alLookup]
      by_cases hr : r1 = r
      · subst hr; simp
      · have h1 : ¬ dst ++ r1 = dst ++ r := fun hh => hr (List.append_cancel_left hh)
        have h2 : ¬ s ++ r1 = s ++ r := fun hh => hr (List.append_cancel_left hh)
        simp only [h1, h2, if_false]; exact ih
    | false =>
      have h2 : ¬ k1 = s ++ r := (isPrefixOrEq_false_iff _ _).1 h r
      simp only [Bool.false_eq_true, if_false, alLookup, h2]
      exact ih

theorem alLookup_reKey_other (l : List (FsPath × β)) (k : FsPath) (hk : ∀ r, k ≠ dst ++ r) :
    alLookup k (reKey s dst g l) = none := by
  rw [alLookup_eq_none_iff]
  unfold reKey
  simp only [List.map_map, List.mem_map, List.mem_filter, Function.comp]
  rintro ⟨kv, _, h⟩
  exact hk _ h.symm

theorem nodup_reKey {l : List (FsPath × β)} (h : (l.map (·.1)).Nodup) :
    ((reKey s dst g l).map (·.1)).Nodup := by
  unfold reKey
  induction l with
  | nil => simp
  | cons x t ih =>
    obtain ⟨k1, v1⟩ := x
    simp only [List.map_cons, List.nodup_cons] at h
    simp only [List.filter_cons]
    cases hp : isPrefixOrEq s k1 with
    | false => simp only [Bool.false_eq_true, if_false]; exact ih h.2
    | true =>
      simp only [if_true, List.map_cons, List.nodup_cons]
      refine ⟨?_, ih h.2⟩
      obtain ⟨r1, rfl⟩ := (isPrefixOrEq_iff_append _ _).1 hp
      simp only [List.drop_left, List.map_map, List.mem_map, List.mem_filter, Function.comp]
      rintro ⟨kv, ⟨hkv, hkp⟩, heq⟩
      obtain ⟨r2, hr2⟩ := (isPrefixOrEq_iff_append _ _).1 hkp
      rw [hr2, List.drop_left] at heq
      have : r2 = r1 := List.append_cancel_left heq
      apply h.1
      rw [← this, ← hr2]
      exact List.mem_map.2 ⟨kv, hkv, rfl⟩

end

theorem moved_eq_reKey {β : Type} (s dst : FsPath) (l : List (FsPath × β)) :
    l.filterMap (fun kv => if isPrefixOrEq s kv.1 then some (dst ++ kv.1.drop s.length, kv.2) else none) =
      reKey s dst id l := by
  unfold reKey
  induction l with
  | nil => rfl
  | cons x t ih =>
    rw [List.filterMap_cons, List.filter_cons]
    cases isPrefixOrEq s x.1 with
    | true => exact congrArg _ ih
    | false => exact ih

/-- a state related to the pre-state as `moveLoop_spec` says abstracts, key by key, to the node list
    the reference `move_p` builds -/
theorem nodeAt_moved {s0 σ' : State} {sk D : FsPath} (hinc : ∀ r r', sk ++ r ≠ D ++ r')
    (hfresh : ∀ r, r ≠ [] → alLookup (D ++ r) s0.entries = none)
    (hnone : ∀ r, alLookup (sk ++ r) σ'.entries = none)
    (hdst : ∀ r, nodeAt σ' (D ++ r) = nodeAt s0 (sk ++ r))
    (hother : ∀ k, (∀ r, k ≠ sk ++ r) → (∀ r, k ≠ D ++ r) → nodeAt σ' k = nodeAt s0 k) (k : FsPath) :
    nodeAt σ' k = alLookup k
      ((absS s0).nodes.filter (fun kv => !(isPrefixOrEq sk kv.1) && kv.1 ≠ D) ++
        reKey sk D id (absS s0).nodes) := by
  rw [alLookup_append]
  have hfilt := alLookup_filter_key (fun k => !(isPrefixOrEq sk k) && decide (k ≠ D)) k (absS s0).nodes
  by_cases h1 : ∃ r, k = sk ++ r
  · obtain ⟨r, rfl⟩ := h1
    rw [nodeAt_none (hnone r), hfilt, isPrefixOrEq_append,
      alLookup_reKey_other _ _ _ _ _ (fun r' h => hinc r r' h)]
    rfl
  · have h1' : ∀ r, k ≠ sk ++ r := fun r h => h1 ⟨r, h⟩
    have hp1 : isPrefixOrEq sk k = false := (isPrefixOrEq_false_iff _ _).2 h1'
    by_cases h2 : ∃ r, k = D ++ r
    · obtain ⟨r, rfl⟩ := h2
      rw [hdst r, alLookup_reKey, hfilt, hp1]
      have hg : alLookup (sk ++ r) (absS s0).nodes = nodeAt s0 (sk ++ r) := get_absS_nodeAt s0 _
      by_cases hr : r = []
      · subst hr
        simp only [List.append_nil] at hg ⊢
        simp [hg]
      · have hg2 : alLookup (D ++ r) (absS s0).nodes = nodeAt s0 (D ++ r) := get_absS_nodeAt s0 _
        simp [(self_ne_append hr).symm, hg, hg2, nodeAt_none (hfresh r hr)]
    · have h2' : ∀ r, k ≠ D ++ r := fun r h => h2 ⟨r, h⟩
      have hne : k ≠ D := fun h => h2' [] (h.trans (List.append_nil D).symm)
      have hg : alLookup k (absS s0).nodes = nodeAt s0 k := get_absS_nodeAt s0 _
      rw [hother k h1' h2', alLookup_reKey_other _ _ _ _ _ h2', hfilt, hp1]
      simp [hne, hg]

end Rivia.Lemmas
