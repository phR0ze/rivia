/-
  Rivia.Lemmas.CopyTree — copying a whole directory tree (no links) onto a free destination:
  `mkdir_m` on fresh paths and the invariant of the copy loop.
-/
import Rivia.Lemmas.CopyFrame

set_option linter.unusedSimpArgs false

namespace Rivia.Lemmas
open Rivia Rivia.Str Rivia.Memfs Rivia.Spec Rivia.Spec.TreeFs Rivia.Memfs.M

/-! ### `mkdir_m` on a path whose proper prefixes all exist -/

/-- `_add` of a directory entry over an existing real directory changes nothing -/
theorem add_existing_dir {σ : State} {q : FsPath} (mode : Option Nat)
    (hq : q = [] ∨ ∃ d x, alLookup q.dropLast σ.entries = some d ∧ d.dir = true ∧ d.link = false ∧
      alLookup q σ.entries = some x ∧ x.dir = true) :
    add (mkDirEntry q mode) σ = (.ok q, σ) := by
  unfold add
  have hpath : (mkDirEntry q mode).path = q := rfl
  simp only [hpath]
  by_cases h0 : q = []
  · simp [h0]
  · rcases hq with h | ⟨d, x, hd, hdd, hdl, hx, hxd⟩
    · exact absurd h h0
    · simp only [h0, if_false, getEntry_bind_apply, hd, hdd, hdl, Bool.not_true, Bool.or_self,
        Bool.false_eq_true, hx]
      have h1 : (mkDirEntry q mode).file = false := rfl
      have h2 : (mkDirEntry q mode).link = false := rfl
      simp [h1, h2, hxd]

theorem forM_append_M {γ : Type} (l1 l2 : List γ) (f : γ → M PUnit) :
    (l1 ++ l2).forM f = (l1.forM f >>= fun _ => l2.forM f) := by
  induction l1 with
  | nil => rfl
  | cons a r ih =>
    show (f a >>= fun _ => (r ++ l2).forM f) = ((f a >>= fun _ => r.forM f) >>= fun _ => l2.forM f)
    rw [ih]
    funext s
    simp only [bind_apply]
    cases f a s with
    | mk o s' => cases o <;> rfl

theorem forM_noop {γ : Type} (l : List γ) (f : γ → M PUnit) (σ : State)
    (h : ∀ a ∈ l, f a σ = (.ok ⟨⟩, σ)) : l.forM f σ = (.ok ⟨⟩, σ) := by
  induction l with
  | nil => rfl
  | cons a r ih =>
    show (f a >>= fun _ => r.forM f) σ = _
    rw [bind_ok (h a (by simp))]
    exact ih (fun b hb => h b (List.mem_cons_of_mem _ hb))

theorem prefixes_snoc (p : FsPath) (hp : p ≠ []) : prefixes p = prefixes p.dropLast ++ [p] := by
  have h1 : prefixes p = (prefixes p).dropLast ++ [p] := by
    unfold prefixes
    rw [List.range_succ, List.map_append]
    simp
  rw [h1, prefixes_dropLast]
  congr 1
  unfold prefixes
  rw [List.length_dropLast]
  have hlen : p.length - 1 + 1 = p.length := by
    have : p.length ≠ 0 := fun h => hp (List.eq_nil_of_length_eq_zero h)
    omega
  rw [hlen]
  apply List.map_congr_left
  intro n hn
  rw [List.mem_range] at hn
  rw [List.dropLast_eq_take, List.take_take]
  congr 1
  omega

/-- `mkdir_m p` when every proper prefix of `p` is an existing real directory and `p` is absent:
    exactly one directory is created -/
theorem mkdirM_new {σ : State} {p : FsPath} {mode : Option Nat} {pe : Entry} {fs : List Str}
    (hp : p ≠ [])
    (hanc : ∀ q, q <+: p.dropLast → ∃ x, alLookup q σ.entries = some x ∧ x.dir = true ∧ x.link = false)
    (hpar : alLookup p.dropLast σ.entries = some pe) (hfs : pe.files = some fs)
    (hfree : alLookup p σ.entries = none) (hname : baseName p ∉ fs) :
    mkdirM p mode σ = (.ok (),
      { σ with entries := alInsert p.dropLast { pe with files := some (insertName (baseName p) fs).2 }
                  (alInsert p (mkDirEntry p mode) σ.entries) }) := by
  obtain ⟨x, hx, hxd, hxl⟩ := hanc p.dropLast (List.prefix_refl _)
  rw [hpar] at hx; cases hx
  unfold mkdirM
  rw [prefixes_snoc p hp, forM_append_M]
  have key : ∀ q ∈ prefixes p.dropLast,
      ((add (mkDirEntry q mode) >>= fun _ => Pure.pure PUnit.unit : M PUnit)) σ = (Outcome.ok PUnit.unit, σ) := by
    intro q hq
    have hqp := mem_prefixes hq
    have : add (mkDirEntry q mode) σ = (.ok q, σ) := by
      apply add_existing_dir
      by_cases h0 : q = []
      · exact Or.inl h0
      · right
        obtain ⟨x, hx, hxd, _⟩ := hanc q hqp
        obtain ⟨d, hd, hdd, hdl⟩ := hanc q.dropLast ((List.dropLast_prefix q).trans hqp)
        exact ⟨d, x, hd, hdd, hdl, hx, hxd⟩
    rw [bind_ok this]
    rfl
  rw [bind_ok (forM_noop _ _ σ key)]
  show ((add (mkDirEntry p mode) >>= fun _ => Pure.pure PUnit.unit) >>= fun _ => (Pure.pure PUnit.unit : M PUnit)) σ = _
  have hadd := add_new (s := σ) (e := mkDirEntry p mode) (d := pe) (fs := fs) hp hpar hxd hxl hfs hfree hname
  have hc : (!(mkDirEntry p mode).link && (mkDirEntry p mode).file) = false := rfl
  rw [hc] at hadd
  have h2 : (add (mkDirEntry p mode) >>= fun _ => (Pure.pure PUnit.unit : M PUnit)) σ = _ := bind_ok hadd
  rw [bind_ok h2]
  rfl

theorem copyStep_dir_new {dk rootPath pre K : FsPath} {c : CopyOpts} {ci : Bool} {st : State}
    {e pe : Entry} {fs : List Str}
    (hfollow : c.follow = false)
    (hpre : if ci = true then rootPath ≠ [] ∧ pre = rootPath.dropLast else pre = rootPath)
    (hD : dstOf dk e.path pre = K) (hKne : K ≠ [])
    (he : alLookup e.path st.entries = some e) (hdir : e.dir = true) (hlink : e.link = false)
    (hanc : ∀ q, q <+: K.dropLast → ∃ x, alLookup q st.entries = some x ∧ x.dir = true ∧ x.link = false)
    (hpar : alLookup K.dropLast st.entries = some pe) (hpefs : pe.files = some fs)
    (hfree : alLookup K st.entries = none) (hname : baseName K ∉ fs) :
    copyStep dk c ci rootPath e st = (.ok (),
      attach st K (mkDirEntry K (some ((copyDirMode c).getD e.mode))) pe fs none) := by
  have hmk := mkdirM_new (mode := some ((copyDirMode c).getD e.mode)) hKne hanc hpar hpefs hfree hname
  have hdir' : (e.dir = true) = True := by simp [hdir]
  have hlink' : (e.link = true) = False := by simp [hlink]
  unfold copyStep
  extract_lets dm fm jp body
  show (if ci = true then dirOf rootPath >>= jp else M.pure rootPath >>= jp) st = _
  rw [cutPrefix_bind hpre]
  simp only [jp, dm, fm, hD, hfollow, Bool.not_false, true_and, hlink', if_false, getEntry_bind_apply, he, mpure_bind,
    hdir', if_true]
  exact hmk

/-! ### the invariant of the copy loop -/

/-- state `σ` after the entries `Ld` of the source subtree have been copied
    (`s` = state when the call started, `sk` source root, `D` destination root) -/
structure CopyInv (s : State) (sk D : FsPath) (dm fm : Option Nat) (σ : State) (Ld : List Entry) : Prop where
  frame : ∀ k, ¬ Cmp D k →
    alLookup k σ.entries = alLookup k s.entries ∧ alLookup k σ.files = alLookup k s.files
  cwd : σ.cwd = s.cwd
  anc : ∀ q, q <+: D.dropLast →
    (∃ x, alLookup q σ.entries = some x ∧ x.dir = true ∧ x.link = false) ∧ nodeAt σ q = nodeAt s q
  dparent : ∃ x fs, alLookup D.dropLast σ.entries = some x ∧ x.files = some fs ∧
    (baseName D ∈ fs → ∃ e ∈ Ld, e.path = sk)
  done : ∀ e ∈ Ld, ∀ r, e.path = sk ++ r →
    ∃ x, alLookup (D ++ r) σ.entries = some x ∧ x.dir = e.dir ∧ x.link = false ∧
      nodeAt σ (D ++ r) = some (copiedNode dm fm (absNode s (sk ++ r) e)) ∧
      (e.dir = true → ∃ fs, x.files = some fs ∧ ∀ n ∈ fs, ∃ e' ∈ Ld, e'.path = sk ++ (r ++ [n]))
  notdone : ∀ r, (∀ e ∈ Ld, e.path ≠ sk ++ r) →
    alLookup (D ++ r) σ.entries = none ∧ alLookup (D ++ r) σ.files = none

theorem ne_of_length_lt {a b : FsPath} (h : a.length < b.length) : a ≠ b := by
  intro e; rw [e] at h; omega

theorem copyInv_attach {s : State} {sk D : FsPath} {dm fm : Option Nat} {σ : State} {Ld : List Entry}
    {e newE pe : Entry} {r : FsPath} {fs : List Str} {data : Option File.Bytes}
    (hDne : D ≠ [])
    (hinv : CopyInv s sk D dm fm σ Ld) (hpath : e.path = sk ++ r)
    (hnew : ∀ e0 ∈ Ld, e0.path ≠ sk ++ r)
    (hclosed : r ≠ [] → ∃ e' ∈ Ld, e'.path = sk ++ r.dropLast)
    (hpar : alLookup (D ++ r).dropLast σ.entries = some pe) (hpefs : pe.files = some fs)
    (hpedir : pe.dir = true) (hpelink : pe.link = false)
    (hdir : newE.dir = e.dir) (hlink : newE.link = false) (hfiles : e.dir = true → newE.files = some [])
    (hnode : nodeAt (attach σ (D ++ r) newE pe fs data) (D ++ r) =
      some (copiedNode dm fm (absNode s (sk ++ r) e))) :
    CopyInv s sk D dm fm (attach σ (D ++ r) newE pe fs data) (Ld ++ [e]) := by
  have hKne : D ++ r ≠ [] := by simp [hDne]
  have hKdl : (D ++ r).dropLast ≠ D ++ r := dropLast_ne_self hKne
  have hcmpK : Cmp D (D ++ r) := cmp_ext D r
  have hcmpP : Cmp D (D ++ r).dropLast := cmp_dropLast hcmpK
  have hlenD : D.dropLast.length < D.length := by
    rw [List.length_dropLast]
    have : D.length ≠ 0 := fun h => hDne (List.eq_nil_of_length_eq_zero h)
    omega
  refine ⟨?_, hinv.cwd, ?_, ?_, ?_, ?_⟩
  · -- frame
    intro k hk
    have h1 : (D ++ r).dropLast ≠ k := fun h => hk (h ▸ hcmpP)
    have h2 : D ++ r ≠ k := fun h => hk (h ▸ hcmpK)
    rw [attach_entries, if_neg h1, if_neg h2, attach_files, if_neg h2]
    exact hinv.frame k hk
  · -- ancestors of the destination root
    intro q hq
    have hqlen : q.length ≤ D.dropLast.length := hq.length_le
    have h2 : D ++ r ≠ q := (ne_of_length_lt (by rw [List.length_append]; omega)).symm
    obtain ⟨⟨x, hx, hxd, hxl⟩, hn⟩ := hinv.anc q hq
    refine ⟨?_, by rw [nodeAt_attach_other hpar h2]; exact hn⟩
    rw [attach_entries]
    by_cases h1 : (D ++ r).dropLast = q
    · rw [if_pos h1]; exact ⟨_, rfl, hpedir, hpelink⟩
    · rw [if_neg h1, if_neg h2]; exact ⟨x, hx, hxd, hxl⟩
  · -- the parent of the destination root
    obtain ⟨x, fs0, hx, hfs0, himp⟩ := hinv.dparent
    have h2 : D ++ r ≠ D.dropLast := (ne_of_length_lt (by rw [List.length_append]; omega)).symm
    rw [attach_entries]
    by_cases h1 : (D ++ r).dropLast = D.dropLast
    · rw [if_pos h1]
      refine ⟨_, _, rfl, rfl, ?_⟩
      intro _
      have hr : r = [] := by
        by_cases hr : r = []
        · exact hr
        · rw [List.dropLast_append_of_ne_nil hr] at h1
          have := congrArg List.length h1
          rw [List.length_append] at this
          omega
      subst hr
      exact ⟨e, by simp, by rw [hpath, List.append_nil]⟩
    · rw [if_neg h1, if_neg h2]
      refine ⟨x, fs0, hx, hfs0, ?_⟩
      intro hb
      obtain ⟨e0, he0, hp0⟩ := himp hb
      exact ⟨e0, List.mem_append_left _ he0, hp0⟩
  · -- copied entries
    intro e0 he0 r0 hp0
    rcases List.mem_append.1 he0 with he0 | he0
    · have hr0 : r0 ≠ r := by
        intro h; subst h; exact hnew e0 he0 hp0
      have h2 : D ++ r ≠ D ++ r0 := fun h => hr0 (List.append_cancel_left h).symm
      obtain ⟨x, hx, hxd, hxl, hxn, hxf⟩ := hinv.done e0 he0 r0 hp0
      rw [attach_entries, nodeAt_attach_other hpar h2]
      by_cases h1 : (D ++ r).dropLast = D ++ r0
      · rw [if_pos h1]
        rw [h1, hx] at hpar
        cases hpar
        refine ⟨_, rfl, hxd, hxl, hxn, ?_⟩
        intro hd0
        refine ⟨_, rfl, ?_⟩
        intro n hn
        rw [mem_insertName] at hn
        have hrne : r ≠ [] := by
          intro hr; subst hr
          rw [List.append_nil] at h1
          have := congrArg List.length h1
          rw [List.length_append] at this
          omega
        rw [List.dropLast_append_of_ne_nil hrne] at h1
        have hr0' : r0 = r.dropLast := (List.append_cancel_left h1).symm
        rcases hn with hn | hn
        · refine ⟨e, by simp, ?_⟩
          rw [hpath, hn, baseName_append hrne, hr0', dropLast_append_baseName hrne]
        · obtain ⟨fs', hfs', hall⟩ := hxf hd0
          rw [hpefs] at hfs'
          cases hfs'
          obtain ⟨e', he', hp'⟩ := hall n hn
          exact ⟨e', List.mem_append_left _ he', hp'⟩
      · rw [if_neg h1, if_neg h2]
        refine ⟨x, hx, hxd, hxl, hxn, ?_⟩
        intro hd0
        obtain ⟨fs', hfs', hall⟩ := hxf hd0
        refine ⟨fs', hfs', ?_⟩
        intro n hn
        obtain ⟨e', he', hp'⟩ := hall n hn
        exact ⟨e', List.mem_append_left _ he', hp'⟩
    · simp only [List.mem_singleton] at he0
      subst he0
      have hr0 : r0 = r := List.append_cancel_left (hp0.symm.trans hpath)
      subst hr0
      rw [attach_entries, if_neg hKdl, if_pos rfl]
      refine ⟨newE, rfl, hdir, hlink, hnode, ?_⟩
      intro hd0
      exact ⟨[], hfiles hd0, by intro n hn; simp at hn⟩
  · -- slots of entries not copied yet
    intro r1 hr1
    have hr1r : r1 ≠ r := by
      intro h; subst h
      exact hr1 e (by simp) hpath
    have hr1old : ∀ e0 ∈ Ld, e0.path ≠ sk ++ r1 := fun e0 he0 => hr1 e0 (List.mem_append_left _ he0)
    have h2 : D ++ r ≠ D ++ r1 := fun h => hr1r (List.append_cancel_left h).symm
    have h1 : (D ++ r).dropLast ≠ D ++ r1 := by
      intro h
      by_cases hr : r = []
      · subst hr
        rw [List.append_nil] at h
        have := congrArg List.length h
        rw [List.length_append] at this
        omega
      · rw [List.dropLast_append_of_ne_nil hr] at h
        have : r1 = r.dropLast := (List.append_cancel_left h).symm
        obtain ⟨e', he', hp'⟩ := hclosed hr
        exact hr1old e' he' (this ▸ hp')
    rw [attach_entries, if_neg h1, if_neg h2, attach_files, if_neg h2]
    exact hinv.notdone r1 hr1old

/-! ### the abstract node of a freshly created directory -/

theorem mkDirEntry_mode {K : FsPath} {m : Nat} (hm : m ≠ 0) :
    (mkDirEntry K (some m)).mode = (m &&& 0o7777) ||| 0o40000 := by
  unfold mkDirEntry
  simp [ModeBits.optsMode_some, hm]

theorem or_sub_dirbit {x : Nat} (h : x < 0o40000) : (x ||| 0o40000) - 0o40000 = x := or_sub_bit 14 h

theorem typeBits_dir : typeBits Kind.dir = 0o40000 := rfl

theorem getD_dirperm_eq {m : Nat} (o : Option Nat) (hmode : (m &&& 0o7777) ||| 0o40000 = m)
    (hperm : ∀ x, o = some x → x < 0o10000) :
    o.getD m &&& 0o7777 = o.getD (m - 0o40000) :=
  getD_perm_eq' o (fun _ hx => or_sub_dirbit (Nat.lt_trans hx (by decide))) hmode hperm

theorem nodeAt_attach_dir {s σ : State} {sk K r : FsPath} {c : CopyOpts} {e pe : Entry} {fs : List Str}
    (hKne : K ≠ [])
    (hdir : e.dir = true) (hlink : e.link = false)
    (huid : e.uid = 1000) (hgid : e.gid = 1000)
    (hmode : (e.mode &&& 0o7777) ||| 0o40000 = e.mode)
    (hperm : ∀ x, copyDirMode c = some x → 0 < x ∧ x < 0o10000)
    (hsrcdata : alLookup (sk ++ r) s.files = none)
    (hfreeF : alLookup K σ.files = none) :
    nodeAt (attach σ K (mkDirEntry K (some ((copyDirMode c).getD e.mode))) pe fs none) K =
      some (copiedNode (copyDirMode c) (copyFileMode c) (absNode s (sk ++ r) e)) := by
  have hne0 : (copyDirMode c).getD e.mode ≠ 0 := by
    cases hc : copyDirMode c with
    | none =>
      simp only [Option.getD_none]
      intro h0
      rw [h0] at hmode
      exact absurd hmode (by decide)
    | some x =>
      simp only [Option.getD_some]
      have := (hperm x hc).1
      omega
  have hk : kindOf e = Kind.dir := (kindOf_dir_iff e).2 ⟨hdir, hlink⟩
  have hp := getD_dirperm_eq (m := e.mode) (copyDirMode c) hmode (fun x hx => (hperm x hx).2)
  rw [nodeAt_attach_self hKne]
  refine congrArg some ?_
  have hnk : kindOf (mkDirEntry K (some ((copyDirMode c).getD e.mode))) = Kind.dir :=
    (kindOf_dir_iff _).2 ⟨rfl, rfl⟩
  have hdata : alLookup K (attach σ K (mkDirEntry K (some ((copyDirMode c).getD e.mode))) pe fs none).files
      = none := by rw [attach_files, if_pos rfl]; exact hfreeF
  have hl1 : (mkDirEntry K (some ((copyDirMode c).getD e.mode))).link = false := rfl
  have hu1 : (mkDirEntry K (some ((copyDirMode c).getD e.mode))).uid = 1000 := rfl
  have hg1 : (mkDirEntry K (some ((copyDirMode c).getD e.mode))).gid = 1000 := rfl
  unfold absNode copiedNode
  rw [hnk, hk, hdata, hsrcdata, hl1, hlink, hu1, hg1, huid, hgid, mkDirEntry_mode hne0, typeBits_dir,
    or_sub_dirbit (Nat.lt_trans (ModeBits.and_perm_lt _) (by decide)), hp]
  rfl

/-! ### one step of the copy loop -/

/-- a source entry the tree theorem covers: no link; a directory has no file flag, a canonical mode
    (permission bits plus its type bit — what every `optsMode` result is) and the default owner; a
    non-directory is a regular file with a canonical mode -/
def SubOk (e : Entry) : Prop :=
  e.link = false ∧
  (e.dir = true → e.file = false ∧ (e.mode &&& 0o7777) ||| 0o40000 = e.mode ∧ e.uid = 1000 ∧ e.gid = 1000) ∧
  (e.dir = false → e.file = true ∧ (e.mode &&& 0o7777) ||| 0o100000 = e.mode)

instance (e : Entry) : Decidable (SubOk e) := by unfold SubOk; infer_instance

/-- the setting of the tree-copy theorem -/
structure TreeCtx (s : State) (sk dk : FsPath) (c : CopyOpts) : Prop where
  hi : InvF s
  hk : KeysWf s
  hdk : WfKey dk
  hfollow : c.follow = false
  skne : sk ≠ []
  dne : copyDst s sk dk ≠ []
  dfree : alLookup (copyDst s sk dk) s.entries = none
  dpar : ∃ pe, alLookup (copyDst s sk dk).dropLast s.entries = some pe ∧ pe.dir = true ∧ pe.link = false
  notUnder : ¬ sk <+: copyDst s sk dk
  subok : ∀ r e, alLookup (sk ++ r) s.entries = some e → SubOk e
  hpermD : ∀ x, copyDirMode c = some x → 0 < x ∧ x < 0o10000
  hpermF : ∀ x, c.mode = some x → x < 0o10000

theorem TreeCtx.hinc {s : State} {sk dk : FsPath} {c : CopyOpts} (h : TreeCtx s sk dk c)
    (r : FsPath) {e : Entry} (he : alLookup (sk ++ r) s.entries = some e) :
    ¬ Cmp (copyDst s sk dk) (sk ++ r) := by
  rintro (hc | hc)
  · exact h.notUnder ((List.prefix_append sk r).trans hc)
  · obtain ⟨t, ht⟩ := hc
    by_cases ht0 : t = []
    · subst ht0
      rw [List.append_nil] at ht
      rw [← ht, h.dfree] at he; cases he
    · rw [← ht] at he
      obtain ⟨x, hx, _⟩ := ancestor_is_dir h.hi t _ e he ht0
      rw [h.dfree] at hx; cases hx

theorem prefix_dropLast_of_ne {q D : FsPath} (h : q <+: D) (hne : q ≠ D) : q <+: D.dropLast := by
  obtain ⟨t, ht⟩ := h
  by_cases ht0 : t = []
  · subst ht0; rw [List.append_nil] at ht; exact absurd ht hne
  · rw [← ht, List.dropLast_append_of_ne_nil ht0]
    exact List.prefix_append _ _

theorem copy_step {s : State} {sk dk : FsPath} {c : CopyOpts} (ctx : TreeCtx s sk dk c)
    {σ : State} {Ld : List Entry} {e : Entry} {r : FsPath}
    (hinv : CopyInv s sk (copyDst s sk dk) (copyDirMode c) (copyFileMode c) σ Ld)
    (he : alLookup (sk ++ r) s.entries = some e)
    (hnew : ∀ e0 ∈ Ld, e0.path ≠ sk ++ r)
    (hclosed : ∀ r', r' <+: r → r' ≠ r →
      ∃ e' ∈ Ld, e'.path = sk ++ r' ∧ alLookup (sk ++ r') s.entries = some e') :
    ∃ σ', copyStep dk c (isDirP s dk) sk e σ = (.ok (), σ') ∧
      CopyInv s sk (copyDst s sk dk) (copyDirMode c) (copyFileMode c) σ' (Ld ++ [e]) := by
  have hi := ctx.hi
  have hp : e.path = sk ++ r := hi.path _ _ he
  have hwr : WfKey r := (ctx.hk.key he).right
  have hwsk : WfKey sk := (ctx.hk.key he).left
  obtain ⟨hlink, hsubD, hsubF⟩ := ctx.subok r e he
  have hfr := hinv.frame _ (ctx.hinc r he)
  have heσ : alLookup e.path σ.entries = some e := by rw [hp, hfr.1]; exact he
  generalize hDdef : copyDst s sk dk = D at *
  have hDne : D ≠ [] := hDdef ▸ ctx.dne
  have hKne : D ++ r ≠ [] := by simp [hDne]
  have hpre := preOf_spec (ci := isDirP s dk) fun _ => ctx.skne
  have hDK : dstOf dk e.path (preOf (isDirP s dk) sk) = D ++ r := by
    rw [hp, ← hDdef]
    exact dstOf_eq_copyDst ctx.hdk hwsk hwr hpre
  obtain ⟨hfreeE, hfreeF⟩ := hinv.notdone r hnew
  -- an already copied proper ancestor `sk ++ r'` is a real directory at `D ++ r'`
  have hancDone : ∀ r', r' <+: r → r' ≠ r →
      ∃ x fs, alLookup (D ++ r') σ.entries = some x ∧ x.dir = true ∧ x.link = false ∧
        x.files = some fs ∧ ∀ n ∈ fs, ∃ e' ∈ Ld, e'.path = sk ++ (r' ++ [n]) := by
    intro r' hr' hne
    obtain ⟨e', he'L, he'p, he's⟩ := hclosed r' hr' hne
    obtain ⟨t, ht⟩ := hr'
    have ht0 : t ≠ [] := by
      intro h; subst h; rw [List.append_nil] at ht; exact hne ht
    have hed : e'.dir = true := by
      have he2 := he
      rw [← ht, ← List.append_assoc] at he2
      obtain ⟨x, hx, hxd, _⟩ := ancestor_is_dir hi t _ e he2 ht0
      rw [he's] at hx; cases hx; exact hxd
    obtain ⟨x, hx, hxd, hxl, _, hxf⟩ := hinv.done e' he'L r' he'p
    obtain ⟨fs, hfs, hall⟩ := hxf hed
    exact ⟨x, fs, hx, hxd.trans hed, hxl, hfs, hall⟩
  have hparent : ∃ pe fs, alLookup (D ++ r).dropLast σ.entries = some pe ∧ pe.dir = true ∧
      pe.link = false ∧ pe.files = some fs ∧ baseName (D ++ r) ∉ fs := by
    by_cases hr : r = []
    · subst hr
      obtain ⟨x, fs, hx, hfs, himp⟩ := hinv.dparent
      obtain ⟨⟨x', hx', hxd, hxl⟩, _⟩ := hinv.anc D.dropLast (List.prefix_refl _)
      rw [hx] at hx'; cases hx'
      refine ⟨x, fs, by rw [List.append_nil]; exact hx, hxd, hxl, hfs, ?_⟩
      rw [List.append_nil]
      intro hb
      obtain ⟨e0, he0, hp0⟩ := himp hb
      exact hnew e0 he0 (by rw [List.append_nil]; exact hp0)
    · obtain ⟨x, fs, hx, hxd, hxl, hfs, hall⟩ := hancDone r.dropLast (List.dropLast_prefix r)
        (dropLast_ne_self hr)
      refine ⟨x, fs, by rw [List.dropLast_append_of_ne_nil hr]; exact hx, hxd, hxl, hfs, ?_⟩
      rw [baseName_append hr]
      intro hb
      obtain ⟨e0, he0, hp0⟩ := hall _ hb
      rw [dropLast_append_baseName hr] at hp0
      exact hnew e0 he0 hp0
  obtain ⟨pe, fs, hpar, hped, hpel, hpefs, hname⟩ := hparent
  have hclosed1 : r ≠ [] → ∃ e' ∈ Ld, e'.path = sk ++ r.dropLast := by
    intro hr
    obtain ⟨e', h1, h2, _⟩ := hclosed r.dropLast (List.dropLast_prefix r) (dropLast_ne_self hr)
    exact ⟨e', h1, h2⟩
  cases hdir : e.dir with
  | true =>
    obtain ⟨hnofile, hmode, huid, hgid⟩ := hsubD hdir
    have hanc : ∀ q, q <+: (D ++ r).dropLast →
        ∃ x, alLookup q σ.entries = some x ∧ x.dir = true ∧ x.link = false := by
      intro q hq
      by_cases hr : r = []
      · subst hr
        rw [List.append_nil] at hq
        exact (hinv.anc q hq).1
      · rw [List.dropLast_append_of_ne_nil hr] at hq
        rcases List.prefix_or_prefix_of_prefix hq (List.prefix_append D r.dropLast) with h | h
        · by_cases hqD : q = D
          · subst hqD
            obtain ⟨x, _, hx, hxd, hxl, _⟩ := hancDone [] (List.nil_prefix) (Ne.symm hr)
            rw [List.append_nil] at hx
            exact ⟨x, hx, hxd, hxl⟩
          · exact (hinv.anc q (prefix_dropLast_of_ne h hqD)).1
        · obtain ⟨r', rfl⟩ := h
          have hr' : r' <+: r.dropLast := (List.prefix_append_right_inj D).1 hq
          have hne : r' ≠ r := by
            intro h
            have := hr'.length_le
            rw [h, List.length_dropLast] at this
            have : r.length ≠ 0 := fun h0 => hr (List.eq_nil_of_length_eq_zero h0)
            omega
          obtain ⟨x, _, hx, hxd, hxl, _⟩ := hancDone r' (hr'.trans (List.dropLast_prefix r)) hne
          exact ⟨x, hx, hxd, hxl⟩
    have hstep := copyStep_dir_new (dk := dk) (rootPath := sk) (c := c) (ci := isDirP s dk) (st := σ)
      ctx.hfollow hpre hDK hKne heσ hdir hlink hanc hpar hpefs hfreeE hname
    refine ⟨_, hstep, ?_⟩
    have hsrcdata : alLookup (sk ++ r) s.files = none := hi.no_bytes_of_not_file he hnofile
    refine copyInv_attach hDne hinv hp hnew hclosed1 hpar hpefs hped hpel (by rw [hdir]; rfl) rfl
      (fun _ => rfl) ?_
    exact nodeAt_attach_dir hKne hdir hlink huid hgid hmode ctx.hpermD hsrcdata hfreeF
  | false =>
    obtain ⟨hfile, hmode⟩ := hsubF hdir
    obtain ⟨bytes, hbytes⟩ := hi.bytes_of_file he hfile hlink
    have hdataσ : alLookup e.path σ.files = some bytes := by rw [hp, hfr.2]; exact hbytes
    have hsd : e.path ≠ D ++ r := by
      rw [hp]; intro h
      rw [← h, hfr.1, he] at hfreeE; cases hfreeE
    have hstep := copyStep_file_new (dk := dk) (rootPath := sk) (c := c) (ci := isDirP s dk) (st := σ)
      ctx.hfollow hpre hDK hKne heσ hfile hlink hdir hdataσ hpar hped hpel hpefs hfreeE hname hsd
    refine ⟨_, hstep, ?_⟩
    refine copyInv_attach hDne hinv hp hnew hclosed1 hpar hpefs hped hpel (by first | rfl | (rw [hdir]; rfl)) hlink
      (fun h => by rw [hdir] at h; cases h) ?_
    rw [← fileCopied_eq_attach, nodeAt_fileCopied hKne hpar hfile hlink hdir, if_pos rfl,
      copiedFileNode_eq (s := s) (sk := sk ++ r) hlink hdir hbytes hmode ctx.hpermF,
      copiedNode_file ((kindOf_file_iff e).2 ⟨hdir, hlink⟩), copyFileMode_eq]

/-! ### the copy loop over a pre-order listing of the source subtree -/

/-- consume a list of entries, stopping at the first failure (what `for e in it { …? }` does) -/
def runList {σ : Type} (step : Entry → σ → Outcome Unit × σ) : List Entry → σ → Outcome Unit × σ
  | [], w => (.ok (), w)
  | e :: es, w =>
    match step e w with
    | (.ok (), w') => runList step es w'
    | r => r

/-- `L` lists the entries of the subtree of `sk` in state `s`: exactly those entries, each once,
    every proper ancestor (below or at `sk`) before its descendants -/
structure PreOrder (s : State) (sk : FsPath) (L : List Entry) : Prop where
  mem_src : ∀ e ∈ L, ∃ r, e.path = sk ++ r ∧ alLookup (sk ++ r) s.entries = some e
  complete : ∀ r e, alLookup (sk ++ r) s.entries = some e → e ∈ L
  nodup : (L.map (·.path)).Nodup
  parentsFirst : ∀ L1 e L2, L = L1 ++ e :: L2 → ∀ r r', e.path = sk ++ r → r' <+: r → r' ≠ r →
    ∃ e' ∈ L1, e'.path = sk ++ r'

theorem copyInv_init {s : State} {sk dk : FsPath} {c : CopyOpts} (ctx : TreeCtx s sk dk c) :
    CopyInv s sk (copyDst s sk dk) (copyDirMode c) (copyFileMode c) s [] := by
  have hi := ctx.hi
  obtain ⟨pe, hpe, hped, hpel⟩ := ctx.dpar
  refine ⟨fun _ _ => ⟨rfl, rfl⟩, rfl, ?_, ?_, ?_, ?_⟩
  · intro q hq
    refine ⟨?_, rfl⟩
    obtain ⟨t, ht⟩ := hq
    by_cases ht0 : t = []
    · subst ht0; rw [List.append_nil] at ht
      exact ⟨pe, by rw [ht]; exact hpe, hped, hpel⟩
    · rw [← ht] at hpe
      exact ancestor_is_dir hi t q pe hpe ht0
  · obtain ⟨fs, hfs⟩ := hi.files_of_dir hpe hped
    refine ⟨pe, fs, hpe, hfs, ?_⟩
    intro hb
    obtain ⟨x, hx⟩ := hi.child _ pe fs _ hpe hfs hb
    rw [dropLast_append_baseName ctx.dne, ctx.dfree] at hx
    cases hx
  · intro e he; simp at he
  · intro r _
    have hE : alLookup (copyDst s sk dk ++ r) s.entries = none := by
      by_cases hr : r = []
      · subst hr; rw [List.append_nil]; exact ctx.dfree
      · exact nothing_below hi (Or.inl ctx.dfree) hr
    exact ⟨hE, no_data_without_entry hi hE⟩

theorem runList_copy {s : State} {sk dk : FsPath} {c : CopyOpts} (ctx : TreeCtx s sk dk c)
    {L : List Entry} (hL : PreOrder s sk L) :
    ∀ (Lr Ld : List Entry) (σ : State), L = Ld ++ Lr →
      CopyInv s sk (copyDst s sk dk) (copyDirMode c) (copyFileMode c) σ Ld →
      ∃ σ', runList (copyStep dk c (isDirP s dk) sk) Lr σ = (.ok (), σ') ∧
        CopyInv s sk (copyDst s sk dk) (copyDirMode c) (copyFileMode c) σ' L := by
  intro Lr
  induction Lr with
  | nil =>
    intro Ld σ hsplit hinv
    rw [List.append_nil] at hsplit
    exact ⟨σ, rfl, hsplit ▸ hinv⟩
  | cons e Lr ih =>
    intro Ld σ hsplit hinv
    have heL : e ∈ L := by rw [hsplit]; simp
    obtain ⟨r, hp, he⟩ := hL.mem_src e heL
    have hnd := hL.nodup
    rw [hsplit, List.map_append, List.map_cons, List.nodup_append] at hnd
    have hnew : ∀ e0 ∈ Ld, e0.path ≠ sk ++ r := by
      intro e0 he0 h
      exact hnd.2.2 e0.path (List.mem_map.2 ⟨e0, he0, rfl⟩) e.path (by simp) (h.trans hp.symm)
    have hclosed : ∀ r', r' <+: r → r' ≠ r →
        ∃ e' ∈ Ld, e'.path = sk ++ r' ∧ alLookup (sk ++ r') s.entries = some e' := by
      intro r' h1 h2
      obtain ⟨e', he', hp'⟩ := hL.parentsFirst Ld e Lr hsplit r r' hp h1 h2
      obtain ⟨r'', hp'', hl''⟩ := hL.mem_src e' (by rw [hsplit]; exact List.mem_append_left _ he')
      have : r'' = r' := List.append_cancel_left (hp''.symm.trans hp')
      subst this
      exact ⟨e', he', hp', hl''⟩
    obtain ⟨σ1, hstep, hinv1⟩ := copy_step ctx hinv he hnew hclosed
    obtain ⟨σ', hrun, hinv'⟩ := ih (Ld ++ [e]) σ1 (by rw [hsplit]; simp) hinv1
    refine ⟨σ', ?_, hinv'⟩
    rw [runList, hstep]
    exact hrun

/-- **tree copy against the reference** (conditional on the traversal yielding the pre-order
    listing `L`, hypothesis `htrav`): the copy succeeds, the reference copy succeeds, and the
    abstraction of the post-state is the reference's post-state -/
theorem copy_tree_refines {env : Env} {a b : Str} {c : CopyOpts} {s : State} {sk dk : FsPath}
    {rootE travRoot : Entry} {snap : Snap} {L : List Entry}
    (ctx : TreeCtx s sk dk c)
    (ha : absM env a s = (.ok sk, s)) (hb : absM env b s = (.ok dk, s)) (hne : sk ≠ dk)
    (hsrc : alLookup sk s.entries = some rootE)
    (hent : entriesOf s sk = .ok (travRoot, snap))
    (hL : PreOrder s sk L)
    (htrav : ∀ (step : Entry → State → Outcome Unit × State) (w : State),
      runIter snap (copyOpts false) noPre travRoot step (travFuel snap) {} w = runList step L w) :
    ∃ s', copyM env a b c s = (.ok (), s') ∧
      (copySpec (absS s) sk dk c.mode c.cdirs c.cfiles).1 = .ok () ∧
      TEquiv (absS s') (copySpec (absS s) sk dk c.mode c.cdirs c.cfiles).2 := by
  have hi := ctx.hi
  have hp : rootE.path = sk := hi.path sk rootE hsrc
  have hent' : entriesOf s (rootE.doFollow c.follow).path = .ok (travRoot, snap) := by
    rw [ctx.hfollow, doFollow_false, hp]; exact hent
  obtain ⟨σ', hrun, hinv⟩ := runList_copy ctx hL L [] s (by simp) (copyInv_init ctx)
  obtain ⟨pe, hpar, hped, hpel⟩ := ctx.dpar
  obtain ⟨t2, hspec, hcwd2, hdst2, hother2⟩ :=
    copySpec_free hi hsrc ctx.skne hne ctx.dfree hpar hped hpel ctx.notUnder c.mode c.cdirs c.cfiles
  refine ⟨σ', ?_, by rw [hspec], ?_⟩
  · rw [copyM_resolved ha hb hne hsrc hent', ctx.hfollow, doFollow_false, hp, htrav]
    exact hrun
  · rw [hspec]
    refine ⟨hinv.cwd.trans hcwd2.symm, ?_⟩
    intro k
    rw [get_absS_nodeAt]
    by_cases hk : ∃ r, k = copyDst s sk dk ++ r
    · obtain ⟨r, rfl⟩ := hk
      rw [hdst2 r]
      cases hl : alLookup (sk ++ r) s.entries with
      | none =>
        have hnd : ∀ e ∈ L, e.path ≠ sk ++ r := by
          intro e he hpe
          obtain ⟨r', hp', hl'⟩ := hL.mem_src e he
          have : r' = r := List.append_cancel_left (hp'.symm.trans hpe)
          subst this
          rw [hl] at hl'; cases hl'
        have h1 : nodeAt σ' (copyDst s sk dk ++ r) = none := by
          unfold nodeAt; rw [(hinv.notdone r hnd).1]; rfl
        have h2 : nodeAt s (sk ++ r) = none := by unfold nodeAt; rw [hl]; rfl
        rw [h1, h2]; rfl
      | some e =>
        obtain ⟨x, _, _, _, hn, _⟩ := hinv.done e (hL.complete r e hl) r (hi.path _ _ hl)
        have h2 : nodeAt s (sk ++ r) = some (absNode s (sk ++ r) e) := by unfold nodeAt; rw [hl]; rfl
        rw [hn, h2, copyDirMode_eq, copyFileMode_eq]; rfl
    · have hk' : ∀ r, k ≠ copyDst s sk dk ++ r := fun r h => hk ⟨r, h⟩
      rw [hother2 k hk']
      by_cases hc : Cmp (copyDst s sk dk) k
      · rcases hc with hc | ⟨t, ht⟩
        · have hneD : k ≠ copyDst s sk dk := fun h => hk' [] (by rw [List.append_nil]; exact h)
          exact (hinv.anc k (prefix_dropLast_of_ne hc hneD)).2
        · exact absurd ht.symm (hk' t)
      · obtain ⟨h1, h2⟩ := hinv.frame k hc
        exact nodeAt_eq_of_lookup h1 h2

end Rivia.Lemmas
