/-
  Rivia.Lemmas.Expand — `expand` against `Spec.expandSpec` (C17): on an unambiguous component the
  `$VAR` scanner computes the substitution of the grammar's tokens and fails on a malformed one;
  `expand` and `expandSpec` are one assembly that differs in the treatment of a component.
-/
import Rivia.Spec.Expand
import Rivia.Lemmas.Components

namespace Rivia.Lemmas
open Rivia Rivia.Str

theorem dropBytes_tilde_slash (r : Str) : dropBytes ('~' :: '/' :: r) 2 = some r := by
  cases r <;> rfl

theorem hasPrefix_tilde_slash {s : Str} (h : hasPrefix s ['~', '/'] = true) :
    ∃ r, s = '~' :: '/' :: r := by
  obtain ⟨r, hr⟩ := List.isPrefixOf_iff_prefix.1 h
  exact ⟨r, hr.symm⟩

end Rivia.Lemmas

namespace Rivia.Lemmas.Expand
open Rivia Rivia.Spec Rivia.Str Rivia.Lemmas

/-! ### the scanner -/

theorem length_dropWhile_le (p : Char → Bool) (l : Str) : (l.dropWhile p).length ≤ l.length :=
  (List.dropWhile_sublist p).length_le

theorem length_tail_le (l : Str) : l.tail.length ≤ l.length := by
  rw [List.length_tail]; exact Nat.sub_le _ _

theorem dropWhile_cons_head {p : Char → Bool} {l : Str} {x : Char} {xs : Str}
    (h : l.dropWhile p = x :: xs) : p x = false := by
  have := List.head?_dropWhile_not p l
  rwa [h] at this

def skipOpen (r : Str) : Str := if r.head? = some '{' then r.tail else r
def skipClose (r : Str) : Str := if r.head? = some '}' then r.tail else r

/-- after a '$': the variable name the scanner reads, and the text it continues on -/
def nameOf (r : Str) : Str := (skipOpen r).takeWhile isVarChar
def afterVar (r : Str) : Str := skipClose ((skipOpen r).dropWhile isVarChar)

theorem expandSeg_succ (env : Env) (f : Nat) (cs acc : Str) :
    expandSeg env (f + 1) cs acc =
      match cs.dropWhile (· ≠ '$') with
      | [] => .ok (acc ++ cs.takeWhile (· ≠ '$'))
      | _ :: r =>
        if nameOf r = [] then .err .invalidExpansion
        else match env (nameOf r) with
          | none => .err .var
          | some v => expandSeg env f (afterVar r) (acc ++ cs.takeWhile (· ≠ '$') ++ v) := by
  cases cs with
  | nil => exact congrArg Outcome.ok (List.append_nil acc).symm
  | cons c r => rfl

theorem afterVar_length (r : Str) : (afterVar r).length ≤ r.length := by
  have h1 : (skipOpen r).length ≤ r.length := by
    unfold skipOpen; split
    · exact length_tail_le r
    · exact Nat.le_refl _
  have h3 : (afterVar r).length ≤ ((skipOpen r).dropWhile isVarChar).length := by
    unfold afterVar skipClose; split
    · exact length_tail_le _
    · exact Nat.le_refl _
  exact Nat.le_trans h3 (Nat.le_trans (length_dropWhile_le _ _) h1)

theorem afterVar_lt {cs : Str} {x : Char} {r : Str} (h : cs.dropWhile (· ≠ '$') = x :: r) :
    (afterVar r).length < cs.length := by
  have h1 : (x :: r).length ≤ cs.length := h ▸ length_dropWhile_le _ cs
  exact Nat.lt_of_lt_of_le (Nat.lt_succ_of_le (afterVar_length r)) h1

theorem expandSeg_nil (env : Env) (f : Nat) (acc : Str) : expandSeg env f [] acc = .ok acc := by
  cases f <;> rfl

theorem expandSeg_fuel (env : Env) : ∀ (f g : Nat) (cs acc : Str), cs.length ≤ f → cs.length ≤ g →
    expandSeg env f cs acc = expandSeg env g cs acc := by
  intro f
  induction f with
  | zero =>
    intro g cs acc h _
    rw [List.length_eq_zero_iff.mp (Nat.le_zero.mp h), expandSeg_nil, expandSeg_nil]
  | succ f ih =>
    intro g cs acc hf hg
    cases g with
    | zero => rw [List.length_eq_zero_iff.mp (Nat.le_zero.mp hg), expandSeg_nil, expandSeg_nil]
    | succ g =>
      rw [expandSeg_succ, expandSeg_succ]
      cases hd : cs.dropWhile (· ≠ '$') with
      | nil => rfl
      | cons x r =>
        have hl := afterVar_lt hd
        simp only [ih g (afterVar r) _ (Nat.le_of_lt_succ (Nat.lt_of_lt_of_le hl hf))
          (Nat.le_of_lt_succ (Nat.lt_of_lt_of_le hl hg))]

/-- the scanner on a component, as `expandComps` calls it -/
def seg (env : Env) (cs acc : Str) : Outcome Str := expandSeg env (cs.length + 1) cs acc

theorem seg_of_fuel (env : Env) {f : Nat} {cs : Str} (h : cs.length ≤ f) (acc : Str) :
    expandSeg env f cs acc = seg env cs acc :=
  expandSeg_fuel env _ _ _ _ h (Nat.le_succ _)

theorem seg_nil (env : Env) (acc : Str) : seg env [] acc = .ok acc := rfl

theorem seg_step (env : Env) (cs acc : Str) :
    seg env cs acc =
      match cs.dropWhile (· ≠ '$') with
      | [] => .ok (acc ++ cs.takeWhile (· ≠ '$'))
      | _ :: r =>
        if nameOf r = [] then .err .invalidExpansion
        else match env (nameOf r) with
          | none => .err .var
          | some v => seg env (afterVar r) (acc ++ cs.takeWhile (· ≠ '$') ++ v) := by
  rw [seg, expandSeg_succ]
  cases hd : cs.dropWhile (· ≠ '$') with
  | nil => rfl
  | cons x r => simp only [seg_of_fuel env (Nat.le_of_lt (afterVar_lt hd))]

theorem seg_dollar (env : Env) (r acc : Str) :
    seg env ('$' :: r) acc =
      if nameOf r = [] then .err .invalidExpansion
      else match env (nameOf r) with
        | none => .err .var
        | some v => seg env (afterVar r) (acc ++ v) := by
  rw [seg_step, List.dropWhile_cons_of_neg (by decide), List.takeWhile_cons_of_neg (by decide),
    List.append_nil]

theorem seg_lit (env : Env) (cs acc : Str) :
    seg env cs acc = seg env (cs.dropWhile (· ≠ '$')) (acc ++ cs.takeWhile (· ≠ '$')) := by
  rw [seg_step]
  cases hd : cs.dropWhile (· ≠ '$') with
  | nil => rfl
  | cons x r =>
    rw [Decidable.of_not_not (of_decide_eq_false (dropWhile_cons_head hd)), seg_dollar]

/-! ### the tokeniser -/

theorem parseFuel_succ_cons (f : Nat) (c : Char) (r : Str) :
    parseFuel (f + 1) (c :: r) =
    if c = '$' then
      if r.head? = some '{' then
        if r.tail.takeWhile isNameChar ≠ [] ∧ (r.tail.dropWhile isNameChar).head? = some '}' then
          (parseFuel f (r.tail.dropWhile isNameChar).tail).map (Tok.var (r.tail.takeWhile isNameChar) :: ·)
        else none
      else
        if r.takeWhile isNameChar ≠ [] then
          (parseFuel f (r.dropWhile isNameChar)).map (Tok.var (r.takeWhile isNameChar) :: ·)
        else none
    else
      (parseFuel f ((c :: r).dropWhile (· ≠ '$'))).map (Tok.lit ((c :: r).takeWhile (· ≠ '$')) :: ·) := by
  rfl

theorem length_braced_rest (r : Str) : (r.tail.dropWhile isNameChar).tail.length ≤ r.length :=
  Nat.le_trans (length_tail_le _) (Nat.le_trans (length_dropWhile_le _ _) (length_tail_le r))

theorem length_lit_rest {c : Char} (hc : c ≠ '$') (r : Str) :
    ((c :: r).dropWhile (· ≠ '$')).length ≤ r.length := by
  rw [List.dropWhile_cons_of_pos (p := (· ≠ '$')) (a := c) (decide_eq_true hc)]
  exact length_dropWhile_le _ r

theorem parseFuel_fuel : ∀ (f g : Nat) (cs : Str), cs.length < f → cs.length < g →
    parseFuel f cs = parseFuel g cs := by
  intro f
  induction f with
  | zero => intro g cs h; exact absurd h (Nat.not_lt_zero _)
  | succ f ih =>
    intro g cs hf hg
    cases g with
    | zero => exact absurd hg (Nat.not_lt_zero _)
    | succ g =>
      cases cs with
      | nil => rfl
      | cons c r =>
        have hf' : r.length < f := Nat.lt_of_succ_lt_succ hf
        have hg' : r.length < g := Nat.lt_of_succ_lt_succ hg
        have ih' : ∀ x : Str, x.length ≤ r.length → parseFuel f x = parseFuel g x :=
          fun x hx => ih g x (Nat.lt_of_le_of_lt hx hf') (Nat.lt_of_le_of_lt hx hg')
        rw [parseFuel_succ_cons, parseFuel_succ_cons, ih' _ (length_braced_rest r),
          ih' _ (length_dropWhile_le isNameChar r)]
        by_cases hc : c = '$'
        · rw [if_pos hc, if_pos hc]
        · rw [if_neg hc, if_neg hc, ih' _ (length_lit_rest hc r)]

theorem parseComp_nil : parseComp [] = some [] := rfl

theorem parseComp_of_fuel {f : Nat} {cs : Str} (h : cs.length < f) : parseFuel f cs = parseComp cs :=
  parseFuel_fuel _ _ _ h (Nat.lt_succ_self _)

theorem parseComp_cons (c : Char) (r : Str) :
    parseComp (c :: r) =
    if c = '$' then
      if r.head? = some '{' then
        if r.tail.takeWhile isNameChar ≠ [] ∧ (r.tail.dropWhile isNameChar).head? = some '}' then
          (parseComp (r.tail.dropWhile isNameChar).tail).map (Tok.var (r.tail.takeWhile isNameChar) :: ·)
        else none
      else
        if r.takeWhile isNameChar ≠ [] then
          (parseComp (r.dropWhile isNameChar)).map (Tok.var (r.takeWhile isNameChar) :: ·)
        else none
    else
      (parseComp ((c :: r).dropWhile (· ≠ '$'))).map (Tok.lit ((c :: r).takeWhile (· ≠ '$')) :: ·) := by
  have h : ∀ x : Str, x.length ≤ r.length → parseFuel (r.length + 1) x = parseComp x :=
    fun x hx => parseComp_of_fuel (Nat.lt_succ_of_le hx)
  rw [parseComp, parseFuel_succ_cons, List.length_cons, h _ (length_braced_rest r),
    h _ (length_dropWhile_le isNameChar r)]
  by_cases hc : c = '$'
  · rw [if_pos hc, if_pos hc]
  · rw [if_neg hc, if_neg hc, h _ (length_lit_rest hc r)]

theorem parseComp_lit {c : Char} (hc : c ≠ '$') (r : Str) :
    parseComp (c :: r) =
      (parseComp ((c :: r).dropWhile (· ≠ '$'))).map (Tok.lit ((c :: r).takeWhile (· ≠ '$')) :: ·) := by
  rw [parseComp_cons, if_neg hc]

theorem parseComp_braced (r1 : Str) :
    parseComp ('$' :: '{' :: r1) =
      if r1.takeWhile isNameChar ≠ [] ∧ (r1.dropWhile isNameChar).head? = some '}' then
        (parseComp (r1.dropWhile isNameChar).tail).map (Tok.var (r1.takeWhile isNameChar) :: ·)
      else none := by
  rw [parseComp_cons, if_pos rfl]
  exact if_pos rfl

theorem parseComp_plain {r : Str} (hb : r.head? ≠ some '{') :
    parseComp ('$' :: r) =
      if r.takeWhile isNameChar ≠ [] then
        (parseComp (r.dropWhile isNameChar)).map (Tok.var (r.takeWhile isNameChar) :: ·)
      else none := by
  rw [parseComp_cons, if_pos rfl, if_neg hb]

/-! ### the scanner's variable names against the grammar's -/

theorem takeWhile_dropWhile_split {p : Char → Bool} {a b : Str} (ha : ∀ x ∈ a, p x = true)
    (hb : ∀ x, b.head? = some x → p x = false) :
    (a ++ b).takeWhile p = a ∧ (a ++ b).dropWhile p = b := by
  rw [List.takeWhile_append_of_pos ha, List.dropWhile_append_of_pos ha]
  cases b with
  | nil => simp
  | cons x xs => simp [hb x rfl]

theorem split_at_dollar {pre x : Str} (hp : '$' ∉ pre) (hx : ∀ c, x.head? = some c → c = '$') :
    (pre ++ x).takeWhile (· ≠ '$') = pre ∧ (pre ++ x).dropWhile (· ≠ '$') = x :=
  takeWhile_dropWhile_split (fun y hy => decide_eq_true fun e => hp (e ▸ hy))
    (fun y hy => by rw [hx y hy]; rfl)

theorem isVarChar_of_isNameChar {c : Char} (h : isNameChar c = true) : isVarChar c = true := by
  simp only [isNameChar, isVarChar, Bool.and_eq_true, decide_eq_true_eq] at *
  exact ⟨h.1.1, h.2⟩

theorem isVarChar_false {c : Char} (h : isNameChar c = false) (hc : c ≠ '{') : isVarChar c = false := by
  simp only [isNameChar, Bool.and_eq_false_iff, decide_eq_false_iff_not, Decidable.not_not] at h
  simp only [isVarChar, Bool.and_eq_false_iff, decide_eq_false_iff_not, Decidable.not_not]
  rcases h with (h | h) | h
  · exact Or.inl h
  · exact absurd h hc
  · exact Or.inr h

/-- The scanner ends a name at '$' or '}', the grammar also at '{': unless a '{' ends the name,
    both delimit the same name. -/
theorem varChar_split {l : Str} (h : (l.dropWhile isNameChar).head? ≠ some '{') :
    l.takeWhile isVarChar = l.takeWhile isNameChar ∧
      l.dropWhile isVarChar = l.dropWhile isNameChar := by
  have := takeWhile_dropWhile_split (p := isVarChar) (a := l.takeWhile isNameChar)
    (b := l.dropWhile isNameChar)
    (fun x hx => isVarChar_of_isNameChar (mem_takeWhile_true _ hx))
    (fun x hx => by
      have h1 := List.head?_dropWhile_not isNameChar l
      rw [hx] at h1
      exact isVarChar_false h1 (fun e => h (e ▸ hx)))
  rwa [List.takeWhile_append_dropWhile] at this

theorem nameOf_braced {r1 : Str} (h : (r1.dropWhile isNameChar).head? = some '}') :
    nameOf ('{' :: r1) = r1.takeWhile isNameChar ∧
      afterVar ('{' :: r1) = (r1.dropWhile isNameChar).tail := by
  obtain ⟨h1, h2⟩ := varChar_split (l := r1) (by rw [h]; decide)
  have hs : skipOpen ('{' :: r1) = r1 := rfl
  rw [nameOf, afterVar, hs, h1, h2, skipClose, if_pos h]
  exact ⟨rfl, rfl⟩

theorem nameOf_plain {r : Str} (hb : r.head? ≠ some '{')
    (h1 : (r.dropWhile isNameChar).head? ≠ some '{')
    (h2 : (r.dropWhile isNameChar).head? ≠ some '}') :
    nameOf r = r.takeWhile isNameChar ∧ afterVar r = r.dropWhile isNameChar := by
  obtain ⟨e1, e2⟩ := varChar_split h1
  rw [nameOf, afterVar, skipOpen, if_neg hb, e1, e2, skipClose, if_neg h2]
  exact ⟨rfl, rfl⟩

/-! ### building well-formed components -/

theorem parseComp_append_lit {lit x : Str} (hl : lit ≠ []) (hd : '$' ∉ lit)
    (hx : ∀ c, x.head? = some c → c = '$') :
    parseComp (lit ++ x) = (parseComp x).map (Tok.lit lit :: ·) := by
  obtain ⟨c, l', rfl⟩ := List.exists_cons_of_ne_nil hl
  obtain ⟨h1, h2⟩ := split_at_dollar hd hx
  rw [List.cons_append, parseComp_lit (fun e => hd (e ▸ List.mem_cons_self)), ← List.cons_append,
    h1, h2]

theorem parseComp_braced_ok {name x : Str} (hn : name ≠ []) (ha : ∀ c ∈ name, isNameChar c = true) :
    parseComp ('$' :: '{' :: (name ++ '}' :: x)) = (parseComp x).map (Tok.var name :: ·) := by
  obtain ⟨h1, h2⟩ := takeWhile_dropWhile_split (p := isNameChar) (a := name) (b := '}' :: x) ha
    (by intro c hc; simp only [List.head?_cons, Option.some.injEq] at hc; subst hc; rfl)
  rw [parseComp_braced, h1, h2, if_pos ⟨hn, rfl⟩, List.tail_cons]

theorem parseComp_plain_ok {name x : Str} (hn : name ≠ []) (ha : ∀ c ∈ name, isNameChar c = true)
    (hx : ∀ c, x.head? = some c → isNameChar c = false) :
    parseComp ('$' :: (name ++ x)) = (parseComp x).map (Tok.var name :: ·) := by
  obtain ⟨h1, h2⟩ := takeWhile_dropWhile_split (p := isNameChar) (a := name) (b := x) ha hx
  have hb : (name ++ x).head? ≠ some '{' := by
    obtain ⟨c, l, rfl⟩ := List.exists_cons_of_ne_nil hn
    have := ha c List.mem_cons_self
    simp only [List.cons_append, List.head?_cons, ne_eq, Option.some.injEq]
    intro e; subst e; cases this
  rw [parseComp_plain hb, h1, h2, if_pos hn]

/-! ### `Ambiguous` -/

theorem ambAt_braced (r1 : Str) :
    ambAt ('{' :: r1) = false ↔
      r1.takeWhile isNameChar ≠ [] ∧ (r1.dropWhile isNameChar).head? = some '}' := by
  show (!(decide (r1.takeWhile isNameChar ≠ []) &&
    decide ((r1.dropWhile isNameChar).head? = some '}'))) = false ↔ _
  simp

theorem ambAt_plain {r : Str} (hb : r.head? ≠ some '{') :
    ambAt r = false ↔
      (r.dropWhile isNameChar).head? ≠ some '{' ∧ (r.dropWhile isNameChar).head? ≠ some '}' := by
  simp [ambAt, hb]

theorem Ambiguous_cons_of_ne {c : Char} (h : c ≠ '$') (r : Str) : Ambiguous (c :: r) = Ambiguous r := by
  simp [Ambiguous, h]

theorem Ambiguous_dollar (r : Str) : Ambiguous ('$' :: r) = (ambAt r || Ambiguous r) := by
  simp [Ambiguous]

theorem Ambiguous_append_of_not_mem {pre : Str} (h : '$' ∉ pre) (x : Str) :
    Ambiguous (pre ++ x) = Ambiguous x := by
  induction pre with
  | nil => rfl
  | cons c r ih =>
    have hc : c ≠ '$' := fun e => h (e ▸ List.mem_cons_self)
    rw [List.cons_append, Ambiguous_cons_of_ne hc, ih (fun m => h (List.mem_cons_of_mem _ m))]

theorem Ambiguous_dropWhile {p : Char → Bool} (hp : p '$' = false) (cs : Str) :
    Ambiguous (cs.dropWhile p) = Ambiguous cs := by
  conv => rhs; rw [← List.takeWhile_append_dropWhile (p := p) (l := cs)]
  rw [Ambiguous_append_of_not_mem]
  intro h
  rw [mem_takeWhile_true p h] at hp
  cases hp

theorem Ambiguous_tail {l : Str} {c : Char} (h : l.head? = some c) (hc : c ≠ '$') :
    Ambiguous l.tail = Ambiguous l := by
  obtain ⟨t, rfl⟩ := List.head?_eq_some_iff.mp h
  rw [List.tail_cons, Ambiguous_cons_of_ne hc]

/-! ### the scanner against the tokeniser -/

theorem map_map_append (o : Outcome Str) (a b : Str) :
    (o.map (b ++ ·)).map (a ++ ·) = o.map ((a ++ b) ++ ·) := by
  cases o <;> simp [Outcome.map, List.append_assoc]

/-- The simulation invariant between the scanner and the grammar: started with accumulator `acc`
    on a text with tokens `toks`, the scanner returns `acc` followed by the substitution of `toks`;
    on a malformed text it fails. -/
def SegSpec (env : Env) (o : Outcome Str) (acc : Str) : Option (List Tok) → Prop
  | some toks => o = (substComp env toks).map (acc ++ ·)
  | none => o = .err .invalidExpansion ∨ o = .err .var

theorem SegSpec.nil (env : Env) (acc : Str) : SegSpec env (.ok acc) acc (some []) := by
  show Outcome.ok acc = Outcome.ok (acc ++ [])
  rw [List.append_nil]

theorem SegSpec.lit {env : Env} {o : Outcome Str} {acc l : Str} {p : Option (List Tok)}
    (h : SegSpec env o (acc ++ l) p) : SegSpec env o acc (p.map (Tok.lit l :: ·)) := by
  cases p with
  | none => exact h
  | some toks =>
    show o = ((substComp env toks).map (l ++ ·)).map (acc ++ ·)
    rw [map_map_append]
    exact h

theorem SegSpec.var {env : Env} {acc name : Str} {k : Str → Outcome Str} {p : Option (List Tok)}
    (h : ∀ v, SegSpec env (k v) (acc ++ v) p) :
    SegSpec env (match env name with | none => .err .var | some v => k v) acc
      (p.map (Tok.var name :: ·)) := by
  cases p with
  | none =>
    cases env name with
    | none => exact Or.inr rfl
    | some v => exact h v
  | some toks =>
    show _ = (substComp env (Tok.var name :: toks)).map (acc ++ ·)
    simp only [substComp]
    cases env name with
    | none => rfl
    | some v => rw [map_map_append]; exact h v

theorem seg_spec (env : Env) : ∀ (n : Nat) (cs : Str), cs.length ≤ n → Ambiguous cs = false →
    ∀ acc : Str, SegSpec env (seg env cs acc) acc (parseComp cs) := by
  intro n
  induction n with
  | zero =>
    intro cs hl _ acc
    rw [List.length_eq_zero_iff.mp (Nat.le_zero.mp hl)]
    exact SegSpec.nil env acc
  | succ n ih =>
    intro cs hl ha acc
    cases cs with
    | nil => exact SegSpec.nil env acc
    | cons c r =>
    have hn' : r.length ≤ n := Nat.le_of_succ_le_succ hl
    by_cases hc : c = '$'
    · subst hc
      rw [Ambiguous_dollar, Bool.or_eq_false_iff] at ha
      obtain ⟨hamb, har⟩ := ha
      rw [seg_dollar]
      by_cases hb : r.head? = some '{'
      · -- `${NAME}`
        obtain ⟨r1, rfl⟩ := List.head?_eq_some_iff.mp hb
        obtain ⟨hn, hclose⟩ := (ambAt_braced r1).mp hamb
        obtain ⟨eN, eA⟩ := nameOf_braced hclose
        rw [eN, eA, if_neg hn, parseComp_braced, if_pos ⟨hn, hclose⟩]
        refine SegSpec.var fun v =>
          ih (r1.dropWhile isNameChar).tail (Nat.le_trans (length_braced_rest ('{' :: r1)) hn') ?_ _
        rw [Ambiguous_tail hclose (by decide), Ambiguous_dropWhile rfl,
          ← Ambiguous_cons_of_ne (c := '{') (by decide)]
        exact har
      · -- `$NAME`, or no name at all
        obtain ⟨h1, h2⟩ := (ambAt_plain hb).mp hamb
        obtain ⟨eN, eA⟩ := nameOf_plain hb h1 h2
        rw [parseComp_plain hb, eN, eA]
        by_cases hn : r.takeWhile isNameChar = []
        · rw [if_pos hn, if_neg (fun h => h hn)]
          exact Or.inl rfl
        · rw [if_neg hn, if_pos hn]
          refine SegSpec.var fun v => ih _ (Nat.le_trans (length_dropWhile_le _ r) hn') ?_ _
          rw [Ambiguous_dropWhile rfl]
          exact har
    · -- literal text up to the next '$'
      rw [parseComp_lit hc, seg_lit]
      exact SegSpec.lit (ih _ (Nat.le_trans (length_lit_rest hc r) hn')
        (by rw [Ambiguous_dropWhile (by decide)]; exact ha) _)

theorem seg_eq_subst (env : Env) {cs : Str} {toks : List Tok} (hp : parseComp cs = some toks)
    (ha : Ambiguous cs = false) (acc : Str) :
    seg env cs acc = (substComp env toks).map (acc ++ ·) := by
  have := seg_spec env _ cs (Nat.le_refl _) ha acc
  rwa [hp] at this

theorem seg_malformed (env : Env) {cs : Str} (hp : parseComp cs = none)
    (ha : Ambiguous cs = false) (acc : Str) :
    seg env cs acc = .err .invalidExpansion ∨ seg env cs acc = .err .var := by
  have := seg_spec env _ cs (Nat.le_refl _) ha acc
  rwa [hp] at this

theorem seg_lit_trailing_dollar (env : Env) {pre : Str} (hp : '$' ∉ pre) (acc : Str) :
    seg env (pre ++ ['$']) acc = .err .invalidExpansion := by
  obtain ⟨h1, h2⟩ := split_at_dollar (x := ['$']) hp (fun c hc => (Option.some.inj hc).symm)
  rw [seg_lit, h1, h2]
  rfl

/-! ### outcomes -/

theorem map_err_iff {α β} (f : α → β) (o : Outcome α) :
    (∃ k, o.map f = .err k) ↔ ∃ k, o = .err k := by
  cases o <;> simp [Outcome.map]

theorem bind_err_iff {α β} (o : Outcome α) (f : α → Outcome β) :
    (∃ k, o.bind f = .err k) ↔ (∃ k, o = .err k) ∨ ∃ a, o = .ok a ∧ ∃ k, f a = .err k := by
  cases o <;> simp [Outcome.bind]

theorem bind_congr {α β} {o : Outcome α} {f g : α → Outcome β} (h : ∀ a, o = .ok a → f a = g a) :
    o.bind f = o.bind g := by
  cases o with
  | ok a => exact h a rfl
  | err k => rfl
  | panic => rfl
  | hang => rfl

/-- what `expand` and its parts can return: a value, or one of three error kinds -/
def ExpOut {α} : Outcome α → Prop
  | .ok _ => True
  | .err k => k = .multipleHomeSymbols ∨ k = .invalidExpansion ∨ k = .var
  | _ => False

theorem ExpOut.map {α β} (f : α → β) {o : Outcome α} (h : ExpOut o) : ExpOut (o.map f) := by
  cases o <;> exact h

theorem ExpOut.bind {α β} {o : Outcome α} {f : α → Outcome β} (h : ExpOut o)
    (hf : ∀ a, ExpOut (f a)) : ExpOut (o.bind f) := by
  cases o with
  | ok a => exact hf a
  | err k => exact h
  | panic => exact h
  | hang => exact h

theorem ExpOut.cases {α} {o : Outcome α} (h : ExpOut o) : (∃ a, o = .ok a) ∨ ∃ k, o = .err k := by
  cases o with
  | ok a => exact Or.inl ⟨a, rfl⟩
  | err k => exact Or.inr ⟨k, rfl⟩
  | panic => exact h.elim
  | hang => exact h.elim

theorem expOut_invalid {α} : ExpOut (.err .invalidExpansion : Outcome α) := Or.inr (Or.inl rfl)
theorem expOut_var {α} : ExpOut (.err .var : Outcome α) := Or.inr (Or.inr rfl)

/-! ### stage 1: the tilde -/

/-- stage 1 of `expand`, verbatim -/
def stage1 (env : Env) (s : Str) : Outcome Str :=
  let cnt := s.count '~'
  if cnt > 1 then .err .multipleHomeSymbols
  else if cnt = 1 ∧ !(hasPrefix s ['~', '/']) ∧ s ≠ ['~'] then .err .invalidExpansion
  else if cnt = 1 ∧ s = ['~'] then homeDir env
  else if cnt = 1 then
    match homeDir env with
    | .ok h => match dropBytes s 2 with
      | some r => .ok (mash h r)
      | none => .panic
    | o => o
  else .ok s

theorem expand_eq (env : Env) (s : Str) :
    expand env s =
      match stage1 env s with
      | .ok p => if p.any (· == '$') then expandComps env (components p) [] else .ok p
      | o => o := rfl

theorem homeDir_eq (env : Env) : homeDir env = homeSpec env := rfl

/-- The byte slice `&s[2..]` is only taken of a text that starts with `~/`, so the panic branch
    is dead and the code's tilde stage is the specification's. -/
theorem stage1_eq_tildeSpec (env : Env) (s : Str) : stage1 env s = tildeSpec env s := by
  unfold stage1 tildeSpec
  generalize s.count '~' = n
  match n with
  | 0 => rfl
  | n + 2 => rfl
  | 1 =>
    simp only [Nat.lt_irrefl, if_false, true_and, if_true, Nat.not_succ_le_self, Nat.succ_ne_zero]
    cases hp : hasPrefix s ['~', '/'] with
    | true =>
      obtain ⟨u, rfl⟩ := hasPrefix_tilde_slash hp
      rw [if_neg (fun h => nomatch h.1), if_neg (fun h => nomatch h), dropBytes_tilde_slash,
        homeDir_eq]
      cases homeSpec env <;> rfl
    | false =>
      by_cases hs : s = ['~']
      · subst hs; rfl
      · rw [if_pos ⟨rfl, hs⟩]
        split
        · exact absurd rfl hs
        · cases hp
        · rfl

/-! ### assembly: tilde stage, every component in order, `push` -/

/-- run `f` on all components in order, first failure wins -/
def allO (f : Comp → Outcome Str) : List Comp → Outcome (List Str)
  | [] => .ok []
  | c :: cs => (f c).bind fun x => (allO f cs).map (x :: ·)

/-- what the code computes for one component -/
def compOut (env : Env) : Comp → Outcome Str
  | .normal y => seg env y []
  | c => .ok c.str

/-- the common shape of `expand` and `expandSpec`; they differ in the treatment `F` of a component -/
def assemble (F : Comp → Outcome Str) (env : Env) (s : Str) : Outcome Str :=
  (tildeSpec env s).bind fun p =>
    if '$' ∈ p then (allO F (components p)).map pushAll else .ok p

theorem substAll_eq_allO (env : Env) (cs : List Comp) : substAll env cs = allO (expandCompSpec env) cs := by
  induction cs with
  | nil => rfl
  | cons c cs ih => simp only [substAll, allO, ih]

theorem expandSpec_eq_assemble (env : Env) (s : Str) :
    expandSpec env s = assemble (expandCompSpec env) env s := by
  simp only [expandSpec, assemble, substAll_eq_allO]

theorem expandComps_cons (env : Env) (c : Comp) (cs : List Comp) (buf : Str) :
    expandComps env (c :: cs) buf = (compOut env c).bind fun x => expandComps env cs (push buf x) := by
  cases c with
  | normal y =>
    show (match seg env y [] with
      | .ok s => expandComps env cs (push buf s) | .err k => .err k | .panic => .panic | .hang => .hang) = _
    simp only [compOut]
    cases seg env y [] <;> rfl
  | root => rfl
  | cur => rfl
  | parent => rfl

theorem expandComps_eq_allO (env : Env) (cs : List Comp) (buf : Str) :
    expandComps env cs buf = (allO (compOut env) cs).map (fun xs => xs.foldl push buf) := by
  induction cs generalizing buf with
  | nil => rfl
  | cons c cs ih =>
    rw [expandComps_cons, allO]
    cases compOut env c with
    | ok x =>
      simp only [Outcome.bind]
      rw [ih]
      cases allO (compOut env) cs <;> rfl
    | err k => rfl
    | panic => rfl
    | hang => rfl

theorem expand_eq_assemble (env : Env) (s : Str) : expand env s = assemble (compOut env) env s := by
  rw [expand_eq, stage1_eq_tildeSpec, assemble]
  cases tildeSpec env s with
  | ok p =>
    by_cases hd : '$' ∈ p
    · simp only [Outcome.bind, if_pos hd, List.any_eq_true, beq_iff_eq, exists_eq_right,
        expandComps_eq_allO]
      rfl
    · simp only [Outcome.bind, if_neg hd, List.any_eq_true, beq_iff_eq, exists_eq_right]
  | err k => rfl
  | panic => rfl
  | hang => rfl

theorem assemble_of_tilde_ok {F : Comp → Outcome Str} {env : Env} {s p : Str}
    (h : tildeSpec env s = .ok p) :
    assemble F env s = if '$' ∈ p then (allO F (components p)).map pushAll else .ok p := by
  rw [assemble, h]; rfl

theorem assemble_of_tilde_err {F : Comp → Outcome Str} {env : Env} {s : Str} {k : ErrKind}
    (h : tildeSpec env s = .err k) : assemble F env s = .err k := by
  rw [assemble, h]; rfl

theorem expand_of_tilde_ok {env : Env} {s p : Str} (h : tildeSpec env s = .ok p) (hd : '$' ∉ p) :
    expand env s = .ok p := by
  rw [expand_eq_assemble, assemble_of_tilde_ok h, if_neg hd]

theorem expand_of_tilde_err {env : Env} {s : Str} {k : ErrKind} (h : tildeSpec env s = .err k) :
    expand env s = .err k := by
  rw [expand_eq_assemble, assemble_of_tilde_err h]

theorem allO_congr {f g : Comp → Outcome Str} {cs : List Comp} (h : ∀ c ∈ cs, f c = g c) :
    allO f cs = allO g cs := by
  induction cs with
  | nil => rfl
  | cons c cs ih =>
    simp only [allO]
    rw [h c List.mem_cons_self, ih (fun c hc => h c (List.mem_cons_of_mem _ hc))]

theorem assemble_congr {F G : Comp → Outcome Str} {env : Env} {s : Str}
    (h : ∀ p, tildeSpec env s = .ok p → ∀ c ∈ components p, F c = G c) :
    assemble F env s = assemble G env s :=
  bind_congr fun p hp => by rw [allO_congr (h p hp)]

/-! ### the domains -/

theorem dom_iff (P : Comp → Bool) (o : Outcome Str) :
    (match o with
      | .ok p => (components p).all P
      | _ => true) = true ↔ ∀ p, o = .ok p → ∀ c ∈ components p, P c = true := by
  cases o <;> simp

theorem D_iff {env : Env} {s : Str} :
    D env s = true ↔ ∀ p, tildeSpec env s = .ok p → ∀ c ∈ components p, compOK c = true :=
  dom_iff _ _

theorem DErr_iff {env : Env} {s : Str} :
    DErr env s = true ↔ ∀ p, tildeSpec env s = .ok p → ∀ c ∈ components p, compSpecified c = true :=
  dom_iff _ _

/-- the component is not in the unspecified class -/
def compUnamb : Comp → Bool
  | .normal y => !Ambiguous y
  | _ => true

/-- no normal component of the tilde-expanded path is `Ambiguous` (vacuously true when the tilde
    stage already fails) -/
def DSpec (env : Env) (s : Str) : Bool :=
  match tildeSpec env s with
  | .ok p => (components p).all compUnamb
  | _ => true

theorem DSpec_iff {env : Env} {s : Str} :
    DSpec env s = true ↔ ∀ p, tildeSpec env s = .ok p → ∀ c ∈ components p, compUnamb c = true :=
  dom_iff _ _

theorem compSpecified_of_compOK {c : Comp} (h : compOK c = true) : compSpecified c = true := by
  cases c with
  | normal y =>
    simp only [compOK, Bool.and_eq_true, Bool.not_eq_true'] at h
    obtain ⟨toks, hp⟩ := Option.isSome_iff_exists.mp h.1
    simp [compSpecified, TrailingDollar, h.2, hp]
  | root => rfl
  | cur => rfl
  | parent => rfl

theorem compUnamb_of_compSpecified {c : Comp} (h : compSpecified c = true) : compUnamb c = true := by
  cases c with
  | normal y =>
    simp only [compSpecified, Bool.and_eq_true] at h
    exact h.1
  | root => rfl
  | cur => rfl
  | parent => rfl

theorem DErr_of_D {env : Env} {s : Str} (h : D env s = true) : DErr env s = true :=
  DErr_iff.mpr fun p hp c hc => compSpecified_of_compOK (D_iff.mp h p hp c hc)

/-- `DErr` additionally excludes the trailing-'$' class of the unrepaired code -/
theorem DSpec_of_DErr {env : Env} {s : Str} (h : DErr env s = true) : DSpec env s = true :=
  DSpec_iff.mpr fun p hp c hc => compUnamb_of_compSpecified (DErr_iff.mp h p hp c hc)

theorem DSpec_of_D {env : Env} {s : Str} (h : D env s = true) : DSpec env s = true :=
  DSpec_of_DErr (DErr_of_D h)

/-! ### code against specification -/

theorem map_nil_append (o : Outcome Str) : o.map (([] : Str) ++ ·) = o := by
  cases o <;> simp [Outcome.map]

/-- per component: in the domain the code computes what the specification says -/
theorem compOut_eq_spec (env : Env) {c : Comp} (h : compOK c = true) :
    compOut env c = expandCompSpec env c := by
  cases c with
  | normal y =>
    simp only [compOK, Bool.and_eq_true, Bool.not_eq_true', Option.isSome_iff_exists] at h
    obtain ⟨⟨toks, hp⟩, ha⟩ := h
    simp only [compOut, expandCompSpec, hp]
    rw [seg_eq_subst env hp ha, map_nil_append]
  | root => rfl
  | cur => rfl
  | parent => rfl

/-- `C17_vars_partial` -/
theorem expand_eq_spec_of_D (env : Env) (s : Str) (h : D env s = true) :
    expand env s = expandSpec env s := by
  rw [expand_eq_assemble, expandSpec_eq_assemble]
  exact assemble_congr fun p hp c hc => compOut_eq_spec env (D_iff.mp h p hp c hc)

/-- the two outcomes are equal, or both are errors (possibly of different kinds) -/
def AgreeUpToKind {α} (a b : Outcome α) : Prop := a = b ∨ ((∃ k, a = .err k) ∧ ∃ k, b = .err k)

theorem AgreeUpToKind.rfl' {α} (a : Outcome α) : AgreeUpToKind a a := Or.inl rfl

/-- the sharp form: equal, or the code says `Var` where the specification says
    `InvalidExpansion` (a malformed component in which an unset variable is met first) -/
def AgreeSharp {α} (a b : Outcome α) : Prop :=
  a = b ∨ (a = .err .var ∧ b = .err .invalidExpansion)

theorem AgreeSharp.weaken {α} {a b : Outcome α} (h : AgreeSharp a b) : AgreeUpToKind a b := by
  rcases h with h | ⟨h1, h2⟩
  · exact Or.inl h
  · exact Or.inr ⟨⟨_, h1⟩, ⟨_, h2⟩⟩

theorem AgreeSharp.map {α β} {a b : Outcome α} (f : α → β) (h : AgreeSharp a b) :
    AgreeSharp (a.map f) (b.map f) := by
  rcases h with rfl | ⟨rfl, rfl⟩
  · exact Or.inl rfl
  · exact Or.inr ⟨rfl, rfl⟩

theorem AgreeSharp.bind {α β} {o o' : Outcome α} {f g : α → Outcome β} (h : AgreeSharp o o')
    (hf : ∀ a, o = .ok a → AgreeSharp (f a) (g a)) : AgreeSharp (o.bind f) (o'.bind g) := by
  rcases h with rfl | ⟨rfl, rfl⟩
  · cases o with
    | ok a => exact hf a rfl
    | err k => exact Or.inl rfl
    | panic => exact Or.inl rfl
    | hang => exact Or.inl rfl
  · exact Or.inr ⟨rfl, rfl⟩

theorem AgreeUpToKind.err_iff {α} {a b : Outcome α} (h : AgreeUpToKind a b) :
    (∃ k, a = .err k) ↔ ∃ k, b = .err k := by
  rcases h with h | ⟨h1, h2⟩
  · rw [h]
  · exact ⟨fun _ => h2, fun _ => h1⟩

theorem compOut_agree (env : Env) {c : Comp} (h : compUnamb c = true) :
    AgreeSharp (compOut env c) (expandCompSpec env c) := by
  cases c with
  | normal y =>
    simp only [compUnamb, Bool.not_eq_true'] at h
    cases hp : parseComp y with
    | some toks => exact Or.inl (compOut_eq_spec env (by simp [compOK, hp, h]))
    | none =>
      simp only [compOut, expandCompSpec, hp]
      rcases seg_malformed env hp h [] with h1 | h1
      · exact Or.inl h1
      · exact Or.inr ⟨h1, rfl⟩
  | root => exact Or.inl rfl
  | cur => exact Or.inl rfl
  | parent => exact Or.inl rfl

theorem allO_agree {f g : Comp → Outcome Str} {cs : List Comp}
    (h : ∀ c ∈ cs, AgreeSharp (f c) (g c)) : AgreeSharp (allO f cs) (allO g cs) := by
  induction cs with
  | nil => exact Or.inl rfl
  | cons c cs ih =>
    exact (h c List.mem_cons_self).bind fun x _ =>
      (ih fun c hc => h c (List.mem_cons_of_mem _ hc)).map _

theorem assemble_agree {F G : Comp → Outcome Str} {env : Env} {s : Str}
    (h : ∀ p, tildeSpec env s = .ok p → ∀ c ∈ components p, AgreeSharp (F c) (G c)) :
    AgreeSharp (assemble F env s) (assemble G env s) :=
  AgreeSharp.bind (Or.inl rfl) fun p hp => by
    split
    · exact (allO_agree (h p hp)).map _
    · exact Or.inl rfl

/-- in `DSpec` the code computes the specification, up to `Var` reported for `InvalidExpansion` -/
theorem expand_sharp_of_DSpec (env : Env) (s : Str) (h : DSpec env s = true) :
    AgreeSharp (expand env s) (expandSpec env s) := by
  rw [expand_eq_assemble, expandSpec_eq_assemble]
  exact assemble_agree fun p hp c hc => compOut_agree env (DSpec_iff.mp h p hp c hc)

theorem expand_agree_of_DSpec (env : Env) (s : Str) (h : DSpec env s = true) :
    AgreeUpToKind (expand env s) (expandSpec env s) :=
  (expand_sharp_of_DSpec env s h).weaken

theorem expand_agree_of_DErr (env : Env) (s : Str) (h : DErr env s = true) :
    AgreeUpToKind (expand env s) (expandSpec env s) :=
  expand_agree_of_DSpec env s (DSpec_of_DErr h)

/-! ### the tilde stage of the specification -/

theorem tildeSpec_of_one (env : Env) {s : Str} (h1 : s.count '~' = 1) :
    tildeSpec env s =
      match (generalizing := false) s with
      | ['~'] => homeSpec env
      | '~' :: '/' :: rest => (homeSpec env).bind fun h => .ok (mash h rest)
      | _ => .err .invalidExpansion := by
  unfold tildeSpec; rw [h1, if_neg (by decide), if_neg (by decide)]; rfl

theorem tildeSpec_multiple (env : Env) {s : Str} (h : 2 ≤ s.count '~') :
    tildeSpec env s = .err .multipleHomeSymbols := by
  unfold tildeSpec; rw [if_pos h]

theorem tildeSpec_home (env : Env) : tildeSpec env ['~'] = homeSpec env := rfl

theorem tildeSpec_none (env : Env) {s : Str} (h : s.count '~' = 0) : tildeSpec env s = .ok s := by
  unfold tildeSpec; rw [h]; rfl

theorem tildeSpec_home_slash (env : Env) {rest : Str} (h : '~' ∉ rest) :
    tildeSpec env ('~' :: '/' :: rest) = (homeSpec env).bind fun h => .ok (mash h rest) :=
  tildeSpec_of_one env (by
    rw [List.count_cons_self, List.count_cons_of_ne (by decide), List.count_eq_zero.mpr h])

theorem tildeSpec_misplaced (env : Env) {s : Str} (h1 : s.count '~' = 1)
    (h : ¬ (s = ['~'] ∨ ['~', '/'] <+: s)) : tildeSpec env s = .err .invalidExpansion := by
  rw [tildeSpec_of_one env h1]
  split
  · exact absurd (Or.inl rfl) h
  · exact absurd (Or.inr ⟨_, rfl⟩) h
  · rfl

theorem homeSpec_err_iff (env : Env) : (∃ k, homeSpec env = .err k) ↔ env "HOME".toList = none := by
  unfold homeSpec
  cases env "HOME".toList <;> simp

theorem homeSpec_out (env : Env) : ExpOut (homeSpec env) := by
  unfold homeSpec
  cases env "HOME".toList
  · exact expOut_var
  · trivial

theorem tildeSpec_out (env : Env) (s : Str) : ExpOut (tildeSpec env s) := by
  unfold tildeSpec
  split
  · exact Or.inl rfl
  · split
    · trivial
    · split
      · exact homeSpec_out env
      · exact (homeSpec_out env).bind fun _ => trivial
      · exact expOut_invalid

theorem tildeSpec_err_iff (env : Env) (s : Str) :
    (∃ k, tildeSpec env s = .err k) ↔ MultipleTilde s ∨ MisplacedTilde s ∨ HomeUnset env s := by
  unfold MultipleTilde MisplacedTilde HomeUnset tildeSpec
  generalize s.count '~' = n
  match n with
  | 0 => simp
  | n + 2 => simp
  | 1 =>
    simp only [Nat.not_succ_le_self, Nat.succ_ne_zero, if_false, false_or, true_and]
    split
    · simp [homeSpec_err_iff]
    · simp [bind_err_iff, homeSpec_err_iff]
    · rename_i h1 h2
      have : ¬ (s = ['~'] ∨ ['~', '/'] <+: s) := by
        rintro (h | ⟨r, rfl⟩)
        · exact h1 h
        · exact h2 r rfl
      simp [this]

/-! ### when the specification fails in the variable stage -/

def tokUnset (env : Env) (t : Tok) : Bool := match t with | .var n => (env n).isNone | _ => false

theorem substComp_out (env : Env) (toks : List Tok) : ExpOut (substComp env toks) := by
  induction toks with
  | nil => trivial
  | cons t ts ih =>
    cases t with
    | lit s => exact ih.map _
    | var n =>
      simp only [substComp]
      cases env n with
      | none => exact expOut_var
      | some v => exact ih.map _

theorem substComp_err_iff (env : Env) (toks : List Tok) :
    (∃ k, substComp env toks = .err k) ↔ toks.any (tokUnset env) = true := by
  induction toks with
  | nil => simp [substComp]
  | cons t ts ih =>
    cases t with
    | lit s => simp only [substComp, map_err_iff, ih, List.any_cons, tokUnset, Bool.false_or]
    | var n =>
      simp only [substComp, List.any_cons, tokUnset]
      cases env n with
      | none => simp
      | some v => simp only [map_err_iff, ih, Option.isNone_some, Bool.false_or]

theorem expandCompSpec_out (env : Env) (c : Comp) : ExpOut (expandCompSpec env c) := by
  cases c with
  | normal y =>
    simp only [expandCompSpec]
    cases parseComp y with
    | none => exact expOut_invalid
    | some toks => exact substComp_out env toks
  | root => trivial
  | cur => trivial
  | parent => trivial

theorem expandCompSpec_err_iff (env : Env) (c : Comp) :
    (∃ k, expandCompSpec env c = .err k) ↔ (compBad c = true ∨ compUnset env c = true) := by
  cases c with
  | normal y =>
    simp only [expandCompSpec, compBad, compUnset]
    cases parseComp y with
    | none => simp
    | some toks =>
      simp only [Option.isNone_some, Bool.false_eq_true, false_or]
      exact substComp_err_iff env toks
  | root => simp [expandCompSpec, compBad, compUnset]
  | cur => simp [expandCompSpec, compBad, compUnset]
  | parent => simp [expandCompSpec, compBad, compUnset]

theorem substAll_err_iff (env : Env) (cs : List Comp) :
    (∃ k, substAll env cs = .err k) ↔ ∃ c ∈ cs, (compBad c = true ∨ compUnset env c = true) := by
  induction cs with
  | nil => simp [substAll]
  | cons c cs ih =>
    simp only [substAll, List.mem_cons, exists_eq_or_imp, bind_err_iff, map_err_iff]
    rw [← ih, ← expandCompSpec_err_iff]
    rcases (expandCompSpec_out env c).cases with ⟨a, h⟩ | ⟨k, h⟩ <;> simp [h]

theorem expandSpec_err_iff (env : Env) (s : Str) :
    (∃ k, expandSpec env s = .err k) ↔
      MultipleTilde s ∨ MisplacedTilde s ∨ HomeUnset env s ∨ EmptyVarName env s ∨ UnsetVar env s := by
  have key : (∃ p, tildeSpec env s = .ok p ∧
        ∃ k, (if '$' ∈ p then (substAll env (components p)).map pushAll else .ok p) = .err k) ↔
      EmptyVarName env s ∨ UnsetVar env s := by
    unfold EmptyVarName UnsetVar
    rw [← exists_or]
    refine exists_congr fun p => ?_
    rw [← and_or_left]
    refine and_congr_right fun _ => ?_
    by_cases hd : '$' ∈ p
    · rw [if_pos hd, map_err_iff, substAll_err_iff]
      simp only [hd, true_and, ← exists_or, ← and_or_left]
    · simp [hd]
  unfold expandSpec
  rw [bind_err_iff, tildeSpec_err_iff, key, or_assoc, or_assoc]

/-! ### which characters can occur in `mash d p` (needed: no '$' appears from nowhere) -/

theorem mem_joinWith {sep x : Char} {p : Str} {L : List Str} (hp : p ∈ L) (hx : x ∈ p) :
    x ∈ joinWith sep L := by
  induction L with
  | nil => cases hp
  | cons y r ih =>
    cases r with
    | nil => exact List.mem_singleton.1 hp ▸ hx
    | cons z rest =>
      rw [joinWith]
      rcases List.mem_cons.1 hp with rfl | hp
      · exact List.mem_append_left _ hx
      · exact List.mem_append_right _ (List.mem_cons_of_mem _ (ih hp))

theorem mem_of_mem_splitOn (sep : Char) (s : Str) {p : Str} (hp : p ∈ splitOn sep s) {x : Char}
    (hx : x ∈ p) : x ∈ s :=
  joinWith_splitOn sep s ▸ mem_joinWith hp hx

theorem mem_push {b p : Str} {x : Char} (h : x ∈ push b p) : x ∈ b ∨ x ∈ p ∨ x = '/' := by
  unfold push at h
  split at h
  · exact Or.inr (Or.inl h)
  · split at h
    · rcases List.mem_append.mp h with h | h
      · exact Or.inl h
      · rcases List.mem_cons.mp h with h | h
        · exact Or.inr (Or.inr h)
        · exact Or.inr (Or.inl h)
    · rcases List.mem_append.mp h with h | h
      · exact Or.inl h
      · exact Or.inr (Or.inl h)

theorem mem_render {cs : List Comp} {buf : Str} {x : Char}
    (h : x ∈ cs.foldl (fun b c => push b c.str) buf) :
    x ∈ buf ∨ x = '/' ∨ ∃ c ∈ cs, x ∈ c.str := by
  induction cs generalizing buf with
  | nil => exact Or.inl h
  | cons c cs ih =>
    rcases ih h with h | h | ⟨c', hc', h⟩
    · rcases mem_push h with h | h | h
      · exact Or.inl h
      · exact Or.inr (Or.inr ⟨c, List.mem_cons_self, h⟩)
      · exact Or.inr (Or.inl h)
    · exact Or.inr (Or.inl h)
    · exact Or.inr (Or.inr ⟨c', List.mem_cons_of_mem _ hc', h⟩)

theorem mem_components {s : Str} {c : Comp} (hc : c ∈ components s) :
    c = .root ∨ c.str ∈ splitSlash s := by
  have hbody : ∀ c ∈ (splitSlash s).filterMap bodyComp, c.str ∈ splitSlash s := by
    intro c hc
    obtain ⟨p, hp, hpc⟩ := List.mem_filterMap.mp hc
    rwa [bodyComp_str hpc]
  unfold components at hc
  split at hc
  · rcases List.mem_cons.mp hc with rfl | hc
    · exact Or.inl rfl
    · exact Or.inr (hbody c hc)
  · rcases List.mem_append.mp hc with hc | hc
    · split at hc
      · rename_i hh
        rw [List.mem_singleton.mp hc]
        exact Or.inr (List.mem_of_mem_head? hh)
      · cases hc
    · exact Or.inr (hbody c hc)

theorem mem_stripSlashes {r : Str} {x : Char} (h : x ∈ stripSlashes r) : x ∈ r := by
  induction r with
  | nil => exact h
  | cons c cs ih =>
    by_cases hc : c = '/'
    · subst hc
      rw [stripSlashes] at h
      exact List.mem_cons_of_mem _ (ih h)
    · rw [stripSlashes] at h
      · exact h
      · intro r e; injection e with e _; exact hc e

theorem mem_mash {d p : Str} {x : Char} (h : x ∈ mash d p) : x = '/' ∨ x ∈ d ∨ x ∈ p := by
  rcases mem_render h with h | h | ⟨c, hc, h⟩
  · cases h
  · exact Or.inl h
  · have hx : x = '/' ∨ x ∈ push d (stripSlashes p) := by
      rcases mem_components hc with rfl | hc
      · exact Or.inl (by simpa [Comp.str] using h)
      · exact Or.inr (mem_of_mem_splitOn '/' _ hc h)
    rcases hx with hx | hx
    · exact Or.inl hx
    · rcases mem_push hx with h | h | h
      · exact Or.inr (Or.inl h)
      · exact Or.inr (Or.inr (mem_stripSlashes h))
      · exact Or.inl h

theorem dollar_not_mem_mash {d p : Str} (hd : '$' ∉ d) (hp : '$' ∉ p) : '$' ∉ mash d p := by
  intro h
  rcases mem_mash h with h | h | h
  · cases h
  · exact hd h
  · exact hp h

/-! ### `expand` never panics or hangs -/

theorem expandSeg_out (env : Env) : ∀ (f : Nat) (cs acc : Str), ExpOut (expandSeg env f cs acc) := by
  intro f
  induction f with
  | zero => intro cs acc; cases cs <;> trivial
  | succ f ih =>
    intro cs acc
    rw [expandSeg_succ]
    split
    · trivial
    · split
      · exact expOut_invalid
      · split
        · exact expOut_var
        · exact ih _ _

theorem compOut_out (env : Env) (c : Comp) : ExpOut (compOut env c) := by
  cases c with
  | normal y => exact expandSeg_out env _ _ _
  | root => trivial
  | cur => trivial
  | parent => trivial

theorem allO_out {f : Comp → Outcome Str} (hf : ∀ c, ExpOut (f c)) (cs : List Comp) :
    ExpOut (allO f cs) := by
  induction cs with
  | nil => trivial
  | cons c cs ih => exact (hf c).bind fun _ => ih.map _

theorem expand_out (env : Env) (s : Str) : ExpOut (expand env s) := by
  rw [expand_eq_assemble]
  refine (tildeSpec_out env s).bind fun p => ?_
  split
  · exact (allO_out (compOut_out env) _).map _
  · trivial

theorem not_emptyVarName_of_D {env : Env} {s : Str} (h : D env s = true) : ¬ EmptyVarName env s := by
  rintro ⟨p, hp, _, c, hc, hbad⟩
  have := D_iff.mp h p hp c hc
  cases c with
  | normal y =>
    simp only [compOK, Bool.and_eq_true, Option.isSome_iff_exists] at this
    obtain ⟨⟨toks, hq⟩, _⟩ := this
    simp [compBad, hq] at hbad
  | root => cases hbad
  | cur => cases hbad
  | parent => cases hbad

/-- the repository's unit test `/foo/${HOME}` with a symbolic absolute `$HOME` -/
theorem expand_foo_home (env : Env) (h : Str)
    (hh : env "HOME".toList = some h) (hr : isRooted h = true) :
    expand env "/foo/${HOME}".toList = .ok h := by
  have hc : components "/foo/${HOME}".toList
      = [.root, .normal "foo".toList, .normal "${HOME}".toList] := by decide +kernel
  have h0 : compOut env .root = .ok ['/'] := rfl
  have h1 : compOut env (.normal "foo".toList) = .ok "foo".toList := rfl
  have h2 : compOut env (.normal "${HOME}".toList) = .ok h := by
    have hp : parseComp "${HOME}".toList = some [Tok.var "HOME".toList] := by decide +kernel
    show seg env _ [] = _
    rw [seg_eq_subst env hp (by decide +kernel)]
    simp only [substComp, hh, Outcome.map, List.append_nil, List.nil_append]
  rw [expand_eq_assemble, assemble_of_tilde_ok (tildeSpec_none env (by decide +kernel)),
    if_pos (by decide +kernel), hc]
  simp only [allO, h0, h1, h2, Outcome.bind, Outcome.map, pushAll, List.foldl]
  rw [push, if_pos hr]

end Rivia.Lemmas.Expand
