/-
  Rivia.Lemmas.InvC — C03, group C: the `copy` / `copy_b` operations.

  `StepCInv I K G` collects what `_copy` needs of an invariant `I`: that `_add` of the three kinds of
  entries `_copy` stores keeps it, and that overwriting existing data keeps it. `StepCInv.copyM`
  follows the join points of `copyM`, each continuation once. The tree invariant is an instance
  (`invP_stepCInv`), every per-entry invariant with `EntryOps` is one (`EntryOps.stepCInv`).
  Every exit is covered (ok, err, panic, hang): a copy failing half-way leaves the state of the
  corresponding cut point, and that state is what `Pres` speaks of.
-/
import Rivia.Lemmas.InvA
open Rivia Rivia.Memfs Rivia.Spec Rivia.Memfs.M

namespace Rivia.Lemmas.InvA

/-- `K` holds of the destination keys, `G` of stored entries -/
structure StepCInv (I : State → Prop) (K : FsPath → Prop) (G : Entry → Prop) : Prop where
  dst : ∀ a b c, K (dstOf a b c)
  take : ∀ k n, K k → K (k.take n)
  addDir : ∀ p m, K p → Pres I (Memfs.add (mkDirEntry p m))
  addLink : ∀ l t rel b, K l → Pres I (Memfs.add (linkEntry l t rel b))
  stored : ∀ s k e, I s → alLookup k s.entries = some e → G e
  addCopy : ∀ e p m, G e → ¬ e.dir = true → K p → Pres I (Memfs.add (({ e with path := p }).setMode m))
  setData : ∀ s p b, I s → (alLookup p s.files).isSome = true → I { s with files := alInsert p b s.files }

section
variable {I : State → Prop} {K : FsPath → Prop} {G : Entry → Prop}

theorem Pres.dirOf_bind {β} (p : FsPath) {f : FsPath → M β} (hf : Pres I (f p.dropLast)) :
    Pres I (Memfs.dirOf p >>= f) :=
  ⟨fun s hs => by
    show I (M.bind (Memfs.dirOf p) f s).2
    unfold Memfs.dirOf
    split
    · exact hs
    · exact hf.run s hs⟩

theorem Pres.symlinkAbs (l t : FsPath) (hadd : ∀ rel b, Pres I (Memfs.add (linkEntry l t rel b))) :
    Pres I (symlinkAbs l t) :=
  Pres.bind (Pres.getEntry _) fun _ => Pres.ite (Pres.fail _) <|
    Pres.bind (Pres.dirOf _) fun _ => Pres.bind (Pres.getEntry _) fun _ =>
      Pres.bind (hadd _ _) fun _ => Pres.pure _

theorem StepCInv.mkdirM (h : StepCInv I K G) (p : FsPath) (m : Option Nat) (hp : K p) :
    Pres I (Memfs.mkdirM p m) := by
  refine Pres.forM_mem _ _ fun q hq => ?_
  obtain ⟨n, rfl⟩ := mem_prefixes hq
  exact Pres.bind (h.addDir _ m (h.take p n hp)) fun _ => Pres.pure _

/-- `_copy` keeps `I` at every exit, for all arguments and options -/
theorem StepCInv.copyM (h : StepCInv I K G) (env : Env) (src dst : Str) (c : CopyOpts) :
    Pres I (Memfs.copyM env src dst c) := by
  unfold Memfs.copyM
  refine Pres.bind (Pres.absM _ _) fun srcRoot => Pres.bind (Pres.absM _ _) fun dstRoot =>
    Pres.ite (Pres.pure _) ?_
  -- from here on: name the `let`s and join points of the `do` block that can be lifted out of the
  -- goal, show that each continuation keeps `I`, then go through the branches that jump to it
  extract_lets dirMode fileMode o
  clear_value dirMode fileMode o
  refine Pres.bind Pres.get fun s => ?_
  extract_lets copyInto fromRoot
  have hfromRoot : ∀ rootE0, Pres I (fromRoot rootE0) := by
    intro rootE0
    unfold fromRoot
    extract_lets rootE step
    refine Pres.bind (Pres.liftO _) fun x => ?_
    obtain ⟨travRoot, snap⟩ := x
    refine ⟨fun st hst => runIter_pres _ _ _ (fun _ _ h => h) _ _ (fun e w hw => ?_) _ _ _ hst⟩
    unfold step
    extract_lets toDst body
    refine Pres.run ?_ w hw
    unfold body
    have htoDst : ∀ pre, Pres I (toDst pre) := by
      intro pre
      unfold toDst
      extract_lets dstPath withSrc
      have hK : K dstPath := h.dst _ _ _
      have hwithSrc : ∀ srcE, G srcE → Pres I (withSrc srcE) := by
        intro srcE hG
        unfold withSrc
        extract_lets dstE putBytes checkSrc addFile
        by_cases hd : srcE.dir = true
        · rw [if_pos hd]; exact h.mkdirM _ _ hK
        rw [if_neg hd]
        -- the data part only ever overwrites bytes that are already there
        have hdata : Pres I (getFile dstPath >>= fun y =>
            if y.isNone = true then M.fail .isNotFile >>= checkSrc else checkSrc ()) := by
          constructor
          intro s1 hs1
          show I (M.bind _ _ s1).2
          rw [bind_getFile]
          cases hy : alLookup dstPath s1.files with
          | none => exact hs1
          | some b0 =>
            show I (checkSrc () s1).2
            unfold checkSrc
            by_cases hf : (!srcE.file) = true
            · rw [if_pos hf]; exact hs1
            · rw [if_neg hf]
              unfold putBytes
              show I (M.bind _ _ s1).2
              rw [bind_getFile]
              cases alLookup srcE.path s1.files with
              | none => exact hs1
              | some b => exact h.setData _ _ _ hs1 (by rw [hy]; rfl)
        have haddFile : ∀ r, Pres I (addFile r) := fun _ =>
          Pres.bind (h.addCopy _ _ _ hG hd hK) fun _ => Pres.ite hdata (Pres.pure _)
        refine Pres.dirOf_bind _ (Pres.bind (Pres.getEntry _) fun pd => Pres.ite ?_ (haddFile ()))
        extract_lets mkParent
        have hmkParent : ∀ pm, Pres I (mkParent pm) := fun pm =>
          Pres.bind (h.mkdirM _ _ (List.dropLast_eq_take ▸ h.take _ _ hK)) haddFile
        split
        · exact Pres.bind (Pres.pure' _) hmkParent
        · refine Pres.bind (Pres.dirOf _) fun sd => Pres.bind (Pres.getEntry _) fun ps => ?_
          cases ps with
          | none => exact Pres.bind (Pres.fail _) hmkParent
          | some x => exact Pres.bind (Pres.pure' _) hmkParent
      refine Pres.ite (Pres.bind (Pres.symlinkAbs _ _ fun _ _ => h.addLink _ _ _ _ hK) fun _ => Pres.pure _)
        ⟨fun s1 hs1 => ?_⟩
      show I (M.bind _ _ s1).2
      rw [bind_getEntry]
      cases hx : alLookup e.path s1.entries with
      | none => exact hs1
      | some x => exact (hwithSrc x (h.stored _ _ _ hs1 hx)).run s1 hs1
    exact Pres.ite (Pres.bind (Pres.dirOf _) htoDst) (Pres.bind (Pres.pure' _) htoDst)
  cases alLookup srcRoot s.entries with
  | none => exact Pres.bind (Pres.fail _) hfromRoot
  | some e => exact Pres.bind (Pres.pure' _) hfromRoot

/-- a per-entry invariant with `EntryOps` is kept by `_copy` when the destination keys are good -/
theorem EntryOps.stepCInv {P : FsPath → Entry → Prop} {C : FsPath → Prop} (h : EntryOps P K)
    (hdst : ∀ a b c, K (dstOf a b c)) : StepCInv (PerEntry P C) K (fun e => ∃ k, P k e) where
  dst := hdst
  take := h.take
  addDir := fun p m hp => PerEntry.add h.addChild _ (h.dir p m hp)
  addLink := fun l t rel b hl => PerEntry.add h.addChild _ (h.link l t rel b hl)
  stored := fun _ k _ hs hk => ⟨k, hs.1 _ (alLookup_mem hk)⟩
  addCopy := fun e p m hG _ hp => PerEntry.add h.addChild _ (hG.elim fun k hk => h.rekey k e p m hk hp)
  setData := fun _ _ _ hs _ => hs

/-- a stored non-directory has no child set, so it may be stored again under another key -/
theorem files_rekey {e : Entry} (hG : e.files.isSome = true ↔ e.dir = true) (hd : ¬ e.dir = true)
    (p : FsPath) (m : Nat) : (({ e with path := p }).setMode m).files =
      if (({ e with path := p }).setMode m).dir then some [] else none := by
  show e.files = if e.dir = true then some [] else none
  rw [if_neg hd]
  cases hf : e.files with
  | none => rfl
  | some fs => exact absurd (hG.mp (by rw [hf]; rfl)) hd

theorem invP_stepCInv : StepCInv InvP (fun _ => True) (fun e => e.files.isSome = true ↔ e.dir = true) where
  dst := fun _ _ _ => trivial
  take := fun _ _ _ => trivial
  addDir := fun p m _ => Pres.add _ (mkDirEntry_files p m)
  addLink := fun _ _ _ _ _ => Pres.add _ rfl
  stored := fun _ k e hs hk => hs.filesDir k e hk
  addCopy := fun _ p m hG hd _ => Pres.add _ (files_rekey hG hd p m)
  setData := fun _ _ b hs hp => hs.setFile_present b hp

end
end Rivia.Lemmas.InvA

namespace Rivia.Lemmas.InvC

theorem alLookup_eq_none_iff {β} (k : FsPath) (l : List (FsPath × β)) :
    alLookup k l = none ↔ k ∉ l.map (·.1) := Lemmas.alLookup_eq_none_iff

theorem baseName_append (k : FsPath) (n : Str) : baseName (k ++ [n]) = n := InvA.baseName_concat k n

theorem bind_pure {α β} (a : α) (f : α → M β) (s : State) : M.bind (M.pure a) f s = f a s := rfl
theorem bind_fail {α β} (k : ErrKind) (f : α → M β) (s : State) : M.bind (M.fail k) f s = (.err k, s) := rfl
theorem bind_liftO_ok {α β} (a : α) (f : α → M β) (s : State) : M.bind (M.liftO (.ok a)) f s = f a s := rfl
theorem run_pure {α} (a : α) (s : State) : (M.pure a : M α) s = (.ok a, s) := rfl
theorem run_fail {α} (k : ErrKind) (s : State) : (M.fail k : M α) s = (.err k, s) := rfl

/-! ### the invariant as a structure of propositions (Boolean form of the two flag clauses) -/

structure InvP (s : State) : Prop where
  nodupE : (s.entries.map (·.1)).Nodup
  root : ∃ e, alLookup [] s.entries = some e ∧ e.dir = true ∧ e.link = false
  rootAbs : s.root = []
  parent : ∀ k e, alLookup k s.entries = some e → k ≠ [] →
    ∃ pe fs, alLookup k.dropLast s.entries = some pe ∧ pe.dir = true ∧ pe.link = false ∧
      pe.files = some fs ∧ baseName k ∈ fs
  listed : ∀ k e fs, alLookup k s.entries = some e → e.files = some fs →
    ∀ n ∈ fs, (alLookup (k ++ [n]) s.entries).isSome = true
  data : ∀ k e, alLookup k s.entries = some e → (e.file && !e.link) = (alLookup k s.files).isSome
  dangling : ∀ k, (alLookup k s.files).isSome = true → (alLookup k s.entries).isSome = true
  nodupF : (s.files.map (·.1)).Nodup
  pathF : ∀ k e, alLookup k s.entries = some e → e.path = k
  childSet : ∀ k e, alLookup k s.entries = some e → e.files.isSome = e.dir
  nodupC : ∀ k e fs, alLookup k s.entries = some e → e.files = some fs → fs.Nodup

theorem invP_iff_A (s : State) : InvP s ↔ InvA.InvP s := by
  constructor
  · intro h
    exact ⟨h.nodupE, h.root, h.rootAbs, h.parent, fun k e fs n hk hfs hn => h.listed k e fs hk hfs n hn,
      fun k e hk => by rw [← h.data k e hk]; simp, h.dangling, h.nodupF, h.pathF,
      fun k e hk => by rw [h.childSet k e hk], h.nodupC⟩
  · intro h
    exact ⟨h.keysNodup, h.rootOk, h.rootNil, h.parent, fun k e fs hk hfs n hn => h.child k e fs n hk hfs hn,
      fun k e hk => Bool.eq_iff_iff.mpr (by simpa using h.data k e hk), h.dataKey, h.dataNodup, h.pathField,
      fun k e hk => Bool.eq_iff_iff.mpr (h.filesDir k e hk), h.childNodup⟩

theorem inv_iff (s : State) : Spec.Inv s ↔ InvP s := (InvA.inv_iff s).trans (invP_iff_A s).symm

/-! ### "every exit keeps the invariant" -/

/-- what `_add` needs of its argument to keep the invariant (`staleDir` below shows it is needed) -/
def AddOK (e : Entry) : Prop := e.files = if e.dir then some [] else none

instance (e : Entry) : Decidable (AddOK e) := by unfold AddOK; infer_instance

/-- whatever the outcome (value, error, panic, hang), the state left behind satisfies the invariant -/
def Pres {α} (m : M α) : Prop := ∀ s, InvP s → InvP (m s).2

theorem pres_of_A {α} {m : M α} (h : InvA.Pres InvA.InvP m) : Pres m :=
  fun s hs => (invP_iff_A _).mpr (h.run s ((invP_iff_A s).mp hs))

theorem Pres.getFile (p : FsPath) : Pres (getFile p) := fun _ h => h

theorem Pres.add (e : Entry) (hok : AddOK e) : Pres (add e) := pres_of_A (InvA.Pres.add e hok)

/-- `_copy` keeps the invariant at every exit, for all arguments and options -/
theorem Pres.copyM (env : Env) (src dst : Str) (c : CopyOpts) : Pres (Memfs.copyM env src dst c) :=
  pres_of_A (InvA.invP_stepCInv.copyM env src dst c)

/-! ### the step function, group C -/

/-- the operations of group C: `copy` and the `copy_b` builder with arbitrary options -/
def CoveredC : Op → Prop
  | .copy _ _ => True
  | .copyB _ _ _ => True
  | _ => False

instance : DecidablePred CoveredC := fun op => by
  cases op <;> unfold CoveredC <;> infer_instance

/-- group C keeps whatever `_copy` keeps, every outcome included (`.hang` too) -/
theorem step_C {I : State → Prop} (hcopy : ∀ env src dst c, InvA.Pres I (copyM env src dst c))
    (env : Env) (s : State) (op : Op) (hc : CoveredC op) (h : I s) : I (step env s op).2 := by
  cases op
  case copy | copyB => exact InvA.mapVal_run _ ((hcopy _ _ _ _).run s h)
  all_goals exact hc.elim

/-- invariant preservation for group C, every outcome included (`.hang` too) -/
theorem inv_step_C' (env : Env) (s : State) (op : Op) (hc : CoveredC op) (h : Spec.Inv s) :
    Spec.Inv (step env s op).2 :=
  (InvA.inv_iff _).mpr (step_C InvA.invP_stepCInv.copyM env s op hc ((InvA.inv_iff s).mp h))

theorem inv_step_C (env : Env) (s : State) (op : Op) (hc : CoveredC op) (h : Spec.Inv s)
    (_hh : (step env s op).1 ≠ .hang) : Spec.Inv (step env s op).2 :=
  inv_step_C' env s op hc h

theorem inv_run_C (env : Env) (s : State) (ops : List Op) (hc : ∀ op ∈ ops, CoveredC op)
    (h : Spec.Inv s) : Spec.Inv (run env s ops) :=
  InvA.run_pres (fun s op => inv_step_C' env s op) s ops hc h

/-! ### `AddOK` is needed for `_add` itself (not reachable through `_copy`)

  `_add` stores the entry it is given: a directory entry carrying a stale child list breaks
  clause (3). `_copy` never does this: directories are re-created by `_mkdir_m`, and the live source
  entry handed to `_add` in the file branch has `dir = false`, hence no child set (clause (6)). -/

def staleDir : Entry := { mkDirEntry [['a']] none with files := some [['b']] }

example : ¬ AddOK staleDir := by decide
example : (add staleDir Memfs.init).1 = .ok [['a']] := by decide
example : ¬ Spec.Inv (add staleDir Memfs.init).2 := by decide

end Rivia.Lemmas.InvC
