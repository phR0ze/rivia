/-
  Rivia.Lemmas.Lines — helper lemmas for the line helpers of C06:
  * `utf8` is the per-character encoding (`utf8_eq_flatMap`), hence additive; `decodeUtf8 ∘ utf8 = some`
  * `joinWith '\n' ls ++ ['\n']` is "each line followed by one newline"
  * `splitLines` inverts it (for lines without `\n` that do not end in `\r`)
-/
import Rivia.Model.Memfs
import Rivia.Lemmas.PathBasics
import Rivia.Lemmas.Components

namespace Rivia.Lemmas
open Rivia Rivia.Memfs Rivia.File

/-! ### `ByteArray.toList` -/

theorem byteArray_toList_loop (bs : ByteArray) (i : Nat) (r : List UInt8) :
    ByteArray.toList.loop bs i r = r.reverse ++ bs.data.toList.drop i := by
  have hsize : bs.size = bs.data.toList.length := by rw [Array.length_toList]; rfl
  induction i, r using ByteArray.toList.loop.induct bs with
  | case1 i r hi ih =>
    have hlen : i < bs.data.toList.length := hsize ▸ hi
    rw [ByteArray.toList.loop, if_pos hi, ih, List.drop_eq_getElem_cons hlen]
    show (bs.data[i]! :: r).reverse ++ _ = _
    rw [getElem!_pos bs.data i (by simpa using hlen), Array.getElem_toList]
    simp
  | case2 i r hi =>
    rw [ByteArray.toList.loop, if_neg hi, List.drop_eq_nil_of_le (by omega)]
    simp

theorem byteArray_toList (bs : ByteArray) : bs.toList = bs.data.toList := by
  unfold ByteArray.toList
  rw [byteArray_toList_loop]; simp

/-! ### `utf8` -/

theorem utf8_eq_flatMap (s : Str) : utf8 s = s.flatMap String.utf8EncodeChar := by
  unfold utf8
  rw [byteArray_toList, String.toUTF8_eq_toByteArray, String.toByteArray_ofList]
  unfold List.utf8Encode
  exact List.toList_data_toByteArray

theorem utf8_append (a b : Str) : utf8 (a ++ b) = utf8 a ++ utf8 b := by
  simp only [utf8_eq_flatMap, List.flatMap_append]

theorem utf8_nil : utf8 [] = [] := by simp [utf8_eq_flatMap]

theorem utf8_newline : utf8 ['\n'] = [nl] := by
  rw [utf8_eq_flatMap]; decide

theorem toArray_utf8 (s : Str) : (⟨(utf8 s).toArray⟩ : ByteArray) = (String.ofList s).toByteArray := by
  unfold utf8
  rw [byteArray_toList, String.toUTF8_eq_toByteArray]

theorem decodeUtf8_utf8 (s : Str) : decodeUtf8 (utf8 s) = some s := by
  unfold decodeUtf8
  rw [toArray_utf8]
  unfold String.fromUTF8?
  rw [dif_pos (String.ofList s).isValidUTF8]
  show Option.map String.toList (some (String.ofList s)) = some s
  simp

theorem decodeUtf8_utf8_append_nl (s : Str) : decodeUtf8 (utf8 s ++ [nl]) = some (s ++ ['\n']) := by
  rw [← utf8_newline, ← utf8_append, decodeUtf8_utf8]

/-! ### joining lines -/

/-- "exactly one newline per line", on text -/
theorem joinWith_append_nl {ls : List Str} (h : ls ≠ []) :
    Str.joinWith '\n' ls ++ ['\n'] = ls.flatMap (· ++ ['\n']) := by
  induction ls with
  | nil => exact absurd rfl h
  | cons x r ih =>
    cases r with
    | nil => simp [Str.joinWith]
    | cons y r' =>
      have := ih (by simp)
      simp only [Str.joinWith, List.flatMap_cons, List.append_assoc, List.cons_append] at this ⊢
      rw [this]; simp

theorem utf8_flatMap_lines (ls : List Str) :
    utf8 (ls.flatMap (· ++ ['\n'])) = ls.flatMap (fun l => utf8 l ++ [nl]) := by
  induction ls with
  | nil => exact utf8_nil
  | cons x r ih =>
    simp only [List.flatMap_cons, utf8_append, ih, utf8_newline]

/-- "exactly one newline per line", on bytes -/
theorem utf8_joinWith_nl {ls : List Str} (h : ls ≠ []) :
    utf8 (Str.joinWith '\n' ls) ++ [nl] = ls.flatMap (fun l => utf8 l ++ [nl]) := by
  rw [← utf8_flatMap_lines, ← joinWith_append_nl h, utf8_append, utf8_newline]

theorem joinLines_eq (ls : List Str) :
    joinLines ls = if Str.joinWith '\n' ls = [] then none
      else some (utf8 (Str.joinWith '\n' ls) ++ [nl]) := rfl

theorem joinLines_of_ne {ls : List Str} (h : Str.joinWith '\n' ls ≠ []) :
    joinLines ls = some (ls.flatMap (fun l => utf8 l ++ [nl])) := by
  have hne : ls ≠ [] := by rintro rfl; exact h rfl
  rw [joinLines_eq, if_neg h, utf8_joinWith_nl hne]

/-! ### splitting lines -/

/-- the `\r` stripping of `BufRead::lines` -/
def stripCr (l : Str) : Str := match l.reverse with | '\r' :: r => r.reverse | _ => l

theorem stripCr_eq_self_iff {l : Str} : stripCr l = l ↔ l.getLast? ≠ some '\r' := by
  constructor
  · intro h hl
    obtain ⟨r, rfl⟩ := List.getLast?_eq_some_iff.1 hl
    have : stripCr (r ++ ['\r']) = r := by simp [stripCr]
    rw [this] at h
    have := congrArg List.length h
    simp at this
  · intro h
    unfold stripCr
    split
    · rename_i r hr
      exfalso; apply h
      have : l = r.reverse ++ ['\r'] := by
        have := congrArg List.reverse hr
        simpa using this
      rw [this]; simp
    · rfl

theorem splitLines_eq (s : Str) :
    splitLines s =
      (let ps := Str.splitOn '\n' s
       let body := (ps.take (ps.length - 1)).map stripCr
       match ps.getLast? with
       | some [] => body
       | some lastp => body ++ [lastp]
       | none => body) := rfl

section
open Rivia.Str

/-- text that ends in a newline: the lines are the `\n`-pieces of what precedes it, each stripped
    of one trailing `\r` -/
theorem splitLines_append_nl (t : Str) :
    splitLines (t ++ ['\n']) = (splitOn '\n' t).map stripCr := by
  rw [splitLines_eq]
  have : splitOn '\n' (t ++ ['\n']) = splitOn '\n' t ++ [[]] := splitOn_append_cons_sep '\n' t []
  rw [this]
  simp only [List.length_append, List.length_cons, List.length_nil, Nat.add_sub_cancel,
    List.take_left', List.getLast?_append, List.getLast?_singleton, Option.some_or]

theorem splitOn_length (sep : Char) (s : Str) : (splitOn sep s).length = s.count sep + 1 := by
  induction s with
  | nil => rfl
  | cons c cs ih =>
    by_cases h : c = sep
    · subst h; simp [splitOn, ih]
    · obtain ⟨hd, tl, h1, h2⟩ := splitOn_cons_of_ne h cs
      rw [h2, List.count_cons_of_ne (by simpa using h), ← ih, h1]; rfl

theorem count_joinWith (sep : Char) (ls : List Str) (h : ls ≠ []) :
    (joinWith sep ls).count sep + 1 = (ls.map (·.count sep)).sum + ls.length := by
  induction ls with
  | nil => exact absurd rfl h
  | cons x r ih =>
    cases r with
    | nil => simp [joinWith]
    | cons y r' =>
      have := ih (by simp)
      simp only [joinWith, List.count_append, List.count_cons_self, List.map_cons, List.sum_cons,
        List.length_cons] at this ⊢
      omega

theorem map_eq_self_iff {α} {f : α → α} {l : List α} : l.map f = l ↔ ∀ x ∈ l, f x = x := by
  simpa using List.map_inj_left (l := l) (f := f) (g := id)

/-- the text of `write_lines ls` read back by `read_lines` gives `ls` exactly when there is a line,
    no line holds a newline and none ends in `\r` -/
theorem splitLines_join_iff (ls : List Str) :
    splitLines (joinWith '\n' ls ++ ['\n']) = ls ↔
      ls ≠ [] ∧ (∀ l ∈ ls, '\n' ∉ l) ∧ (∀ l ∈ ls, l.getLast? ≠ some '\r') := by
  rw [splitLines_append_nl]
  constructor
  · intro h
    have hne : ls ≠ [] := by
      rintro rfl
      revert h; decide
    -- as many pieces as lines: no line holds a newline
    have hnl : ∀ l ∈ ls, '\n' ∉ l := by
      intro l hl
      have hlen := congrArg List.length h
      rw [List.length_map, splitOn_length] at hlen
      have hc := count_joinWith '\n' ls hne
      have hsum : (ls.map (·.count '\n')).sum = 0 := by omega
      exact List.count_eq_zero.1
        (List.sum_eq_zero_iff_forall_eq_nat.1 hsum (l.count '\n') (List.mem_map.2 ⟨l, hl, rfl⟩))
    rw [splitOn_joinWith hne hnl, map_eq_self_iff] at h
    exact ⟨hne, hnl, fun l hl => stripCr_eq_self_iff.1 (h l hl)⟩
  · rintro ⟨hne, hnl, hcr⟩
    rw [splitOn_joinWith hne hnl, map_eq_self_iff]
    exact fun l hl => stripCr_eq_self_iff.2 (hcr l hl)

theorem splitLines_join {ls : List Str} (hne : ls ≠ []) (hnl : ∀ l ∈ ls, '\n' ∉ l)
    (hcr : ∀ l ∈ ls, l.getLast? ≠ some '\r') :
    splitLines (joinWith '\n' ls ++ ['\n']) = ls :=
  (splitLines_join_iff ls).2 ⟨hne, hnl, hcr⟩

end

end Rivia.Lemmas
