/-
  Rivia.Lemmas.FuelRemove — `remove_all` never exhausts its fuel on a well-formed state (and never
  panics, on any state).

  Potential of a loop state (entries `l`, worklist `W`, target `p0`):
    Φ = #(worklist items that do not exist)
      + Σ over entries at/under `p0` of (2 if the entry still has listed children and none of its
        strict descendants is on the worklist ("not expanded yet"), else 1)
  Every iteration of `removeAllLoop` that does not exit with an error decreases Φ by at least one.
-/
import Rivia.Lemmas.CopyMove
import Rivia.Lemmas.Total

namespace Rivia.Lemmas
open Rivia Rivia.Memfs Rivia.Memfs.M Rivia.File

theorem bindM_def {α β} (m : M α) (f : α → M β) : (m >>= f) = M.bind m f := rfl
theorem pureM_def {α} (a : α) : (Pure.pure a : M α) = M.pure a := rfl

/-! ### one iteration of `removeAllLoop` -/

/-- the key-preserving map used by `eraseLeaf` -/
def dropAt (d : FsPath) (b : Str) (kv : FsPath × Entry) : FsPath × Entry :=
  if kv.1 = d then (kv.1, dropName b kv.2) else kv

/-- the entry map after erasing the leaf `p`: removed from its parent's child list, then erased -/
def eraseLeaf (p : FsPath) (l : Ents) : Ents :=
  (l.map (dropAt p.dropLast (baseName p))).filter (fun kv => kv.1 ≠ p)

theorem dropAt_fst (d : FsPath) (b : Str) (kv : FsPath × Entry) : (dropAt d b kv).1 = kv.1 := by
  unfold dropAt; split <;> rfl

theorem map_dropAt_keys (d : FsPath) (b : Str) (l : Ents) :
    (l.map (dropAt d b)).map (·.1) = l.map (·.1) := by
  rw [List.map_map]; apply List.map_congr_left; intro a _; exact dropAt_fst d b a

theorem alInsert_dropName {l : Ents} (nd : (l.map (·.1)).Nodup) {d : FsPath} {pe : Entry}
    (hd : alLookup d l = some pe) (b : Str) :
    alInsert d (dropName b pe) l = l.map (dropAt d b) := by
  rw [alInsert_eq_map _ nd (List.mem_map.2 ⟨(d, pe), alLookup_mem hd, rfl⟩)]
  apply List.map_congr_left
  intro a ha
  unfold dropAt
  split
  · rename_i h
    have : alLookup a.1 l = some a.2 := alLookup_of_mem nd ha
    rw [h, hd] at this
    cases this
    rw [h]
  · rfl

theorem rl_nil (f : Nat) (s : State) : removeAllLoop (f + 1) [] s = (.ok (), s) := by
  simp only [removeAllLoop]; rfl

theorem rl_missing {f : Nat} {p : FsPath} {work : List FsPath} {s : State}
    (hp : alLookup p s.entries = none) :
    removeAllLoop (f + 1) (p :: work) s = removeAllLoop f work s := by
  simp only [removeAllLoop, bindM_def, M.bind, getEntry, hp]

theorem rl_expand {f : Nat} {p : FsPath} {work : List FsPath} {s : State} {e : Entry} {n : Str}
    {ns : List Str} (hp : alLookup p s.entries = some e) (hf : e.files = some (n :: ns)) :
    removeAllLoop (f + 1) (p :: work) s =
      removeAllLoop f (((n :: ns).map (fun x => p ++ [x])).reverse ++ p :: work) s := by
  simp only [removeAllLoop, bindM_def, M.bind, getEntry, hp, hf]

theorem rl_erase {f : Nat} {p : FsPath} {work : List FsPath} {s : State} {e : Entry}
    (hp : alLookup p s.entries = some e) (hn : names e = []) :
    (∃ k, (removeAllLoop (f + 1) (p :: work) s).1 = .err k) ∨
    ∃ s', ((s.entries.map (·.1)).Nodup → s'.entries = eraseLeaf p s.entries) ∧
      removeAllLoop (f + 1) (p :: work) s = removeAllLoop f work s' := by
  have hfiles : e.files = none ∨ e.files = some [] := by
    cases hf : e.files with
    | none => exact .inl rfl
    | some fs => rw [names_some hf] at hn; exact .inr (congrArg some hn)
  simp only [removeAllLoop, bindM_def, M.bind, getEntry, hp]
  have hmatch : ∀ (A B : M Unit), (match e.files with
      | some (n :: ns) => A
      | _ => B) = B := by
    intro A B; rcases hfiles with h | h <;> rw [h]
  by_cases hp0 : p = []
  · left
    rcases hfiles with h | h <;> rw [h] <;> simp [Memfs.dirOf, M.bind, M.fail, hp0]
  · cases hd : alLookup p.dropLast s.entries with
    | none =>
      right
      refine ⟨{ s with files := alErase p s.files, entries := alErase p s.entries }, fun nd => ?_, ?_⟩
      · simp only [eraseLeaf]
        rw [alErase_eq_filter nd]
        congr 1
        have : s.entries.map (dropAt p.dropLast (baseName p)) = s.entries.map id := by
          apply List.map_congr_left
          intro a ha
          have : a.1 ≠ p.dropLast := fun h =>
            (alLookup_eq_none_iff.1 hd) (h ▸ List.mem_map.2 ⟨a, ha, rfl⟩)
          simp [dropAt, this]
        rw [this, List.map_id]
      · rcases hfiles with h | h <;> rw [h] <;>
          simp [Memfs.dirOf, M.bind, M.pure, hp0, hd, removeFile, removeEntry, getEntry]
    | some pe =>
      by_cases hdir : pe.dir = true
      · right
        refine ⟨{ s with files := alErase p s.files,
                         entries := alErase p (alInsert p.dropLast (dropName (baseName p) pe) s.entries) },
          fun nd => ?_, ?_⟩
        · simp only [eraseLeaf]
          rw [alInsert_dropName nd hd, alErase_eq_filter (by rw [map_dropAt_keys]; exact nd)]
        · rcases hfiles with h | h <;> rw [h] <;>
            simp [Memfs.dirOf, M.bind, M.pure, hp0, hd, removeFile, removeEntry, getEntry, setEntry,
              M.liftO, M.modify, removeChild_dir hdir]
      · left
        rcases hfiles with h | h <;> rw [h] <;>
          simp [Memfs.dirOf, M.bind, M.pure, hp0, hd, getEntry, M.liftO, removeChild_not_dir hdir]

/-! ### invariant and potential -/

/-- strict prefix -/
def SPre (a b : FsPath) : Prop := a <+: b ∧ a ≠ b

instance (a b : FsPath) : Decidable (SPre a b) := by unfold SPre; infer_instance

theorem spre_snoc (k : FsPath) (n : Str) : SPre k (k ++ [n]) :=
  ⟨List.prefix_append _ _, fun h => by simpa using congrArg List.length h⟩

structure RInv (p0 : FsPath) (l : Ents) (W : List FsPath) : Prop where
  nodup : (l.map (·.1)).Nodup
  listed : ∀ k e, (k, e) ∈ l → ∀ n ∈ names e, (k ++ [n]) ∈ l.map (·.1)
  namesNodup : ∀ k e, (k, e) ∈ l → (names e).Nodup
  expanded : ∀ k e, (k, e) ∈ l → p0 <+: k → (∃ w ∈ W, SPre k w) → ∀ n ∈ names e, k ++ [n] ∈ W
  order : W.Pairwise (fun a b => ¬ a <+: b)
  under : ∀ w ∈ W, p0 <+: w

def heavy (W : List FsPath) (kv : FsPath × Entry) : Prop :=
  names kv.2 ≠ [] ∧ ∀ w ∈ W, ¬ SPre kv.1 w

instance (W : List FsPath) (kv : FsPath × Entry) : Decidable (heavy W kv) := by
  unfold heavy; infer_instance

def wt (p0 : FsPath) (W : List FsPath) (kv : FsPath × Entry) : Nat :=
  if p0 <+: kv.1 then (if heavy W kv then 2 else 1) else 0

def miss (l : Ents) (W : List FsPath) : Nat := (W.filter (fun w => (alLookup w l).isNone)).length

def Phi (p0 : FsPath) (l : Ents) (W : List FsPath) : Nat := miss l W + (l.map (wt p0 W)).sum

theorem wt_le_two (p0 : FsPath) (W : List FsPath) (kv : FsPath × Entry) : wt p0 W kv ≤ 2 := by
  unfold wt; split <;> try split
  all_goals omega

theorem phi_init_le (p0 : FsPath) (l : Ents) (p : FsPath) : Phi p0 l [p] ≤ 1 + 2 * l.length := by
  unfold Phi miss
  have h1 : ([p].filter (fun w => (alLookup w l).isNone)).length ≤ 1 := by
    have := (List.filter_sublist (p := fun w => (alLookup w l).isNone) (l := [p])).length_le
    simpa using this
  have h2 : (l.map (wt p0 [p])).sum ≤ (l.map (fun _ => 2)).sum :=
    sum_map_le _ _ _ (fun x _ => wt_le_two _ _ _)
  have h3 := sum_map_const (α := FsPath × Entry) 2 l
  omega

/-! #### the top of the worklist does not exist -/

theorem step_missing {p0 : FsPath} {l : Ents} {p : FsPath} {W : List FsPath}
    (inv : RInv p0 l (p :: W)) (hp : alLookup p l = none) :
    RInv p0 l W ∧ Phi p0 l W < Phi p0 l (p :: W) := by
  have hpk : p ∉ l.map (·.1) := alLookup_eq_none_iff.1 hp
  have hexp : ∀ k e, (k, e) ∈ l → p0 <+: k → (∃ w ∈ p :: W, SPre k w) → ∀ n ∈ names e, k ++ [n] ∈ W := by
    intro k e hke hu hw n hn
    have := inv.expanded k e hke hu hw n hn
    rcases List.mem_cons.1 this with h | h
    · exact absurd (h ▸ inv.listed k e hke n hn) hpk
    · exact h
  refine ⟨⟨inv.nodup, inv.listed, inv.namesNodup, ?_, (List.pairwise_cons.1 inv.order).2,
    fun w hw => inv.under w (List.mem_cons_of_mem _ hw)⟩, ?_⟩
  · intro k e hke hu ⟨w, hw, hs⟩
    exact hexp k e hke hu ⟨w, List.mem_cons_of_mem _ hw, hs⟩
  · unfold Phi
    have hm : miss l (p :: W) = miss l W + 1 := by
      unfold miss
      rw [List.filter_cons_of_pos (by simp [hp])]
      rfl
    have hs : (l.map (wt p0 W)).sum ≤ (l.map (wt p0 (p :: W))).sum := by
      apply sum_map_le
      intro kv hkv
      obtain ⟨k, e⟩ := kv
      unfold wt
      split
      · rename_i hu
        by_cases hh : heavy W (k, e)
        · have : heavy (p :: W) (k, e) := by
            refine ⟨hh.1, ?_⟩
            intro w hw
            rcases List.mem_cons.1 hw with rfl | hw
            · intro hsp
              obtain ⟨n, hn⟩ := List.exists_mem_of_ne_nil _ hh.1
              have := hexp k e hkv hu ⟨w, List.mem_cons_self, hsp⟩ n hn
              exact hh.2 _ this (spre_snoc k n)
            · exact hh.2 w hw
          rw [if_pos hh, if_pos this]; exact Nat.le_refl _
        · rw [if_neg hh]; split <;> omega
      · omega
    omega

/-! #### the top of the worklist is a directory with listed children: they are pushed -/

theorem heavy_mono {W W' : List FsPath} (h : ∀ w ∈ W, w ∈ W') {kv : FsPath × Entry}
    (hh : heavy W' kv) : heavy W kv :=
  ⟨hh.1, fun w hw => hh.2 w (h w hw)⟩

theorem wt_mono (p0 : FsPath) {W W' : List FsPath} (h : ∀ w ∈ W, w ∈ W') (kv : FsPath × Entry) :
    wt p0 W' kv ≤ wt p0 W kv := by
  unfold wt
  split
  · by_cases hh : heavy W' kv
    · rw [if_pos hh, if_pos (heavy_mono h hh)]; exact Nat.le_refl _
    · rw [if_neg hh]; split <;> omega
  · omega

theorem step_expand {p0 : FsPath} {l : Ents} {p : FsPath} {W : List FsPath} {e : Entry}
    (inv : RInv p0 l (p :: W)) (hpe : (p, e) ∈ l) (hne : names e ≠ []) :
    RInv p0 l (((names e).map (fun x => p ++ [x])).reverse ++ p :: W) ∧
    Phi p0 l (((names e).map (fun x => p ++ [x])).reverse ++ p :: W) < Phi p0 l (p :: W) := by
  have hord := List.pairwise_cons.1 inv.order
  have hpu : p0 <+: p := inv.under p List.mem_cons_self
  have hsub : ∀ w ∈ p :: W, w ∈ ((names e).map (fun x => p ++ [x])).reverse ++ p :: W :=
    fun w hw => List.mem_append_right _ hw
  have hkid : ∀ n ∈ names e, p ++ [n] ∈ ((names e).map (fun x => p ++ [x])).reverse ++ p :: W := by
    intro n hn
    apply List.mem_append_left
    rw [List.mem_reverse]
    exact List.mem_map.2 ⟨n, hn, rfl⟩
  refine ⟨⟨inv.nodup, inv.listed, inv.namesNodup, ?_, ?_, ?_⟩, ?_⟩
  · -- expanded
    intro k e' hke hu ⟨w, hw, hs⟩ n hn
    rcases List.mem_append.1 hw with hw | hw
    · rw [List.mem_reverse] at hw
      obtain ⟨x, hx, rfl⟩ := List.mem_map.1 hw
      rcases List.prefix_concat_iff.1 hs.1 with h | h
      · exact absurd h hs.2
      · by_cases hkp : k = p
        · subst hkp
          have : e' = e := by
            have h1 := alLookup_of_mem inv.nodup hke
            have h2 := alLookup_of_mem inv.nodup hpe
            rw [h1] at h2; exact Option.some.inj h2
          subst this
          exact hkid n hn
        · exact hsub _ (inv.expanded k e' hke hu ⟨p, List.mem_cons_self, h, hkp⟩ n hn)
    · exact hsub _ (inv.expanded k e' hke hu ⟨w, hw, hs⟩ n hn)
  · -- order
    rw [List.pairwise_append]
    refine ⟨?_, inv.order, ?_⟩
    · rw [List.pairwise_reverse, List.pairwise_map]
      have := List.nodup_iff_pairwise_ne.1 (inv.namesNodup p e hpe)
      refine this.imp ?_
      intro a b hab hpre
      have := hpre.eq_of_length (by simp)
      exact hab (snoc_inj this).2.symm
    · intro a ha b hb hpre
      rw [List.mem_reverse] at ha
      obtain ⟨x, hx, rfl⟩ := List.mem_map.1 ha
      rcases List.mem_cons.1 hb with rfl | hb
      · have := hpre.length_le
        simp at this
        omega
      · exact hord.1 b hb ((List.prefix_append p [x]).trans hpre)
  · -- under
    intro w hw
    rcases List.mem_append.1 hw with hw | hw
    · rw [List.mem_reverse] at hw
      obtain ⟨x, hx, rfl⟩ := List.mem_map.1 hw
      exact hpu.trans (List.prefix_append _ _)
    · exact inv.under w hw
  · -- potential
    unfold Phi
    have hm : miss l (((names e).map (fun x => p ++ [x])).reverse ++ p :: W) = miss l (p :: W) := by
      unfold miss
      rw [List.filter_append]
      have : ((names e).map (fun x => p ++ [x])).reverse.filter (fun w => (alLookup w l).isNone) = [] := by
        rw [List.filter_eq_nil_iff]
        intro a ha
        rw [List.mem_reverse] at ha
        obtain ⟨x, hx, rfl⟩ := List.mem_map.1 ha
        simp [lookup_isSome_of_mem_keys (inv.listed p e hpe x hx)]
      rw [this]; rfl
    have hs : (l.map (wt p0 (((names e).map (fun x => p ++ [x])).reverse ++ p :: W))).sum
        < (l.map (wt p0 (p :: W))).sum := by
      apply sum_map_lt _ _ _ (fun kv _ => wt_mono p0 hsub kv) hpe
      have h1 : heavy (p :: W) (p, e) := by
        refine ⟨hne, ?_⟩
        intro w hw hsp
        rcases List.mem_cons.1 hw with rfl | hw
        · exact hsp.2 rfl
        · exact hord.1 w hw hsp.1
      have h2 : ¬ heavy (((names e).map (fun x => p ++ [x])).reverse ++ p :: W) (p, e) := by
        intro hh
        obtain ⟨n, hn⟩ := List.exists_mem_of_ne_nil _ hne
        exact hh.2 _ (hkid n hn) (spre_snoc p n)
      unfold wt
      rw [if_pos hpu, if_pos hpu, if_pos h1, if_neg h2]
      omega
    omega

/-! #### the top of the worklist has no listed children: it is erased -/

theorem names_dropName (b : Str) (e : Entry) : names (dropName b e) = (names e).filter (· ≠ b) := by
  unfold names dropName
  cases e.files <;> simp

theorem names_dropAt {d : FsPath} {b : Str} {k : FsPath} {e : Entry} {n : Str}
    (h : n ∈ names (dropAt d b (k, e)).2) : n ∈ names e ∧ (k = d → n ≠ b) := by
  unfold dropAt at h
  split at h
  · simp only [names_dropName, List.mem_filter] at h
    exact ⟨h.1, fun _ => by simpa using h.2⟩
  · rename_i hk; exact ⟨h, fun hd => absurd hd hk⟩

theorem mem_eraseLeaf {p : FsPath} {l : Ents} {k : FsPath} {e' : Entry} :
    (k, e') ∈ eraseLeaf p l ↔
      k ≠ p ∧ ∃ e, (k, e) ∈ l ∧ e' = (dropAt p.dropLast (baseName p) (k, e)).2 := by
  unfold eraseLeaf
  simp only [List.mem_filter, List.mem_map]
  constructor
  · rintro ⟨⟨⟨k0, e0⟩, hm, heq⟩, hk⟩
    have h1 : k0 = k := by
      have := congrArg Prod.fst heq
      rw [dropAt_fst] at this; exact this
    subst h1
    exact ⟨by simpa using hk, e0, hm, by rw [heq]⟩
  · rintro ⟨hk, e, hm, rfl⟩
    refine ⟨⟨(k, e), hm, ?_⟩, by simpa using hk⟩
    apply Prod.ext
    · exact dropAt_fst _ _ _
    · rfl

theorem keys_eraseLeaf (p : FsPath) (l : Ents) :
    (eraseLeaf p l).map (·.1) = (l.map (·.1)).filter (· ≠ p) := by
  unfold eraseLeaf
  conv => rhs; rw [← map_dropAt_keys p.dropLast (baseName p) l, List.filter_map]
  rfl

theorem mem_keys_eraseLeaf {p : FsPath} {l : Ents} {k : FsPath} :
    k ∈ (eraseLeaf p l).map (·.1) ↔ k ≠ p ∧ k ∈ l.map (·.1) := by
  rw [keys_eraseLeaf, List.mem_filter]
  constructor
  · rintro ⟨h1, h2⟩; exact ⟨by simpa using h2, h1⟩
  · rintro ⟨h1, h2⟩; exact ⟨h2, by simpa using h1⟩

theorem step_erase {p0 : FsPath} {l : Ents} {p : FsPath} {W : List FsPath} {e : Entry}
    (inv : RInv p0 l (p :: W)) (hpe : (p, e) ∈ l) :
    RInv p0 (eraseLeaf p l) W ∧ Phi p0 (eraseLeaf p l) W < Phi p0 l (p :: W) := by
  have hord := List.pairwise_cons.1 inv.order
  have hpu : p0 <+: p := inv.under p List.mem_cons_self
  have hpW : p ∉ W := fun h => hord.1 p h (List.prefix_refl p)
  -- a listed child of a surviving entry is never `p` itself
  have hchild : ∀ k e0 n, n ∈ names (dropAt p.dropLast (baseName p) (k, e0)).2 → k ++ [n] ≠ p := by
    intro k e0 n hn heq
    obtain ⟨h1, h2⟩ := snoc_eq_dropLast heq
    exact (names_dropAt hn).2 h1 h2
  have hexp : ∀ k e0, (k, e0) ∈ l → p0 <+: k → (∃ w ∈ p :: W, SPre k w) →
      ∀ n ∈ names (dropAt p.dropLast (baseName p) (k, e0)).2, k ++ [n] ∈ W := by
    intro k e0 hke hu hw n hn
    have := inv.expanded k e0 hke hu hw n (names_dropAt hn).1
    rcases List.mem_cons.1 this with h | h
    · exact absurd h (hchild k e0 n hn)
    · exact h
  refine ⟨⟨?_, ?_, ?_, ?_, hord.2, fun w hw => inv.under w (List.mem_cons_of_mem _ hw)⟩, ?_⟩
  · rw [keys_eraseLeaf]
    exact List.Nodup.sublist List.filter_sublist inv.nodup
  · intro k e' hke n hn
    obtain ⟨hkp, e0, hm, rfl⟩ := mem_eraseLeaf.1 hke
    rw [mem_keys_eraseLeaf]
    exact ⟨hchild k e0 n hn, inv.listed k e0 hm n (names_dropAt hn).1⟩
  · intro k e' hke
    obtain ⟨hkp, e0, hm, rfl⟩ := mem_eraseLeaf.1 hke
    unfold dropAt
    split
    · rw [names_dropName]
      exact List.Nodup.sublist List.filter_sublist (inv.namesNodup k e0 hm)
    · exact inv.namesNodup k e0 hm
  · intro k e' hke hu ⟨w, hw, hs⟩ n hn
    obtain ⟨hkp, e0, hm, rfl⟩ := mem_eraseLeaf.1 hke
    exact hexp k e0 hm hu ⟨w, List.mem_cons_of_mem _ hw, hs⟩ n hn
  · unfold Phi
    have hm : miss (eraseLeaf p l) W = miss l (p :: W) := by
      unfold miss
      rw [List.filter_cons_of_neg (by simp [lookup_isSome_of_mem_keys (mem_keys_of_mem hpe)])]
      congr 1
      apply List.filter_congr
      intro w hw
      have hwp : w ≠ p := fun h => hpW (h ▸ hw)
      cases h1 : alLookup w l with
      | none =>
        have : w ∉ (eraseLeaf p l).map (·.1) := fun h =>
          (alLookup_eq_none_iff.1 h1) (mem_keys_eraseLeaf.1 h).2
        rw [alLookup_eq_none_iff.2 this]
      | some v =>
        have : w ∈ (eraseLeaf p l).map (·.1) :=
          mem_keys_eraseLeaf.2 ⟨hwp, mem_keys_of_mem (alLookup_mem h1)⟩
        rw [lookup_isSome_of_mem_keys this]; rfl
    have hs : ((eraseLeaf p l).map (wt p0 W)).sum < (l.map (wt p0 (p :: W))).sum := by
      unfold eraseLeaf
      rw [sum_map_filter, List.map_map]
      apply sum_map_lt _ _ _ _ hpe
      · simp only [Function.comp, dropAt_fst]
        unfold wt
        rw [if_pos hpu]
        simp only [ne_eq, not_true_eq_false, decide_false, Bool.false_eq_true, if_false]
        split <;> omega
      · intro kv hkv
        obtain ⟨k, e0⟩ := kv
        simp only [Function.comp, dropAt_fst]
        split
        · rename_i hkp
          have hkp : k ≠ p := by simpa using hkp
          unfold wt
          rw [dropAt_fst]
          split
          · rename_i hu
            by_cases hh : heavy W (dropAt p.dropLast (baseName p) (k, e0))
            · have : heavy (p :: W) (k, e0) := by
                obtain ⟨n, hn⟩ := List.exists_mem_of_ne_nil _ hh.1
                refine ⟨List.ne_nil_of_mem (names_dropAt hn).1, ?_⟩
                intro w hw hsp
                rcases List.mem_cons.1 hw with rfl | hw
                · have := hexp k e0 hkv hu ⟨w, List.mem_cons_self, hsp⟩ n hn
                  have h2 := hh.2 _ this
                  rw [dropAt_fst] at h2
                  exact h2 (spre_snoc k n)
                · have h2 := hh.2 w hw
                  rw [dropAt_fst] at h2
                  exact h2 hsp
              rw [if_pos hh, if_pos this]; exact Nat.le_refl _
            · rw [if_neg hh]; split <;> omega
          · omega
        · omega
    omega

/-! ### the loop -/

theorem names_eq_nil_or (e : Entry) : names e = [] ∨ ∃ n ns, e.files = some (n :: ns) := by
  cases h : e.files with
  | none => exact .inl (names_none h)
  | some fs =>
    cases fs with
    | nil => exact .inl (names_some h)
    | cons n ns => exact .inr ⟨n, ns, rfl⟩

theorem removeAllLoop_runs {hg : Prop} (p0 : FsPath) : ∀ (f : Nat) (s : State) (W : List FsPath),
    (¬ hg → RInv p0 s.entries W ∧ Phi p0 s.entries W < f) →
    wpAllow False hg (removeAllLoop f W) s (fun _ _ => True) := by
  intro f
  induction f with
  | zero =>
    intro s W h
    refine wpAllow_hang.2 (Classical.byContradiction fun hn => ?_)
    have := (h hn).2
    omega
  | succ f ih =>
    intro s W h
    cases W with
    | nil => exact (wpAllow_congr (rl_nil f s)).2 trivial
    | cons p work =>
      cases hp : alLookup p s.entries with
      | none =>
        refine (wpAllow_congr (rl_missing hp)).2 (ih s work fun hn => ?_)
        obtain ⟨inv', hlt⟩ := step_missing (h hn).1 hp
        exact ⟨inv', by have := (h hn).2; omega⟩
      | some e =>
        have hpe := alLookup_mem hp
        rcases names_eq_nil_or e with hnil | ⟨n, ns, hf⟩
        · rcases rl_erase (f := f) (work := work) hp hnil with ⟨k, hk⟩ | ⟨s', hs', heq⟩
          · exact wpAllow_err hk
          · refine (wpAllow_congr heq).2 (ih s' work fun hn => ?_)
            obtain ⟨inv', hlt⟩ := step_erase (h hn).1 hpe
            rw [← hs' (h hn).1.nodup] at inv' hlt
            exact ⟨inv', by have := (h hn).2; omega⟩
        · refine (wpAllow_congr (rl_expand hp hf)).2 (ih s _ fun hn => ?_)
          have hnames : names e = n :: ns := names_some hf
          obtain ⟨inv', hlt⟩ := step_expand (h hn).1 hpe (by rw [hnames]; simp)
          rw [hnames] at inv' hlt
          exact ⟨inv', by have := (h hn).2; omega⟩

/-! ### from the C03 invariant -/

/-- the clauses of `Spec.Inv` in usable form -/
structure InvFacts (s : State) : Prop where
  nodup : (s.entries.map (·.1)).Nodup
  parent : ∀ k e, (k, e) ∈ s.entries → k ≠ [] → ∃ pe, alLookup k.dropLast s.entries = some pe ∧
    pe.dir = true ∧ pe.link = false ∧ baseName k ∈ names pe
  listed : ∀ k e, (k, e) ∈ s.entries → ∀ n ∈ names e, (k ++ [n]) ∈ s.entries.map (·.1)
  pathField : ∀ k e, (k, e) ∈ s.entries → e.path = k
  filesDir : ∀ k e, (k, e) ∈ s.entries → e.files.isSome = e.dir
  namesNodup : ∀ k e, (k, e) ∈ s.entries → (names e).Nodup

theorem inv_facts {s : State} (h : Spec.Inv s) : InvFacts s := by
  have i := invF_of_inv h
  have look : ∀ {k e}, (k, e) ∈ s.entries → alLookup k s.entries = some e := alLookup_of_mem i.nodup
  refine ⟨i.nodup, ?_, ?_, fun k e hke => i.path k e (look hke),
    fun k e hke => i.childset k e (look hke), ?_⟩
  · intro k e hke hk
    obtain ⟨pe, fs, hpe, hd, hl, hf, hm⟩ := i.parent k e (look hke) hk
    exact ⟨pe, hpe, hd, hl, by rw [names_some hf]; exact hm⟩
  · intro k e hke n hn
    cases hf : e.files with
    | none => rw [names_none hf] at hn; cases hn
    | some fs =>
      rw [names_some hf] at hn
      obtain ⟨c, hc⟩ := i.child k e fs n (look hke) hf hn
      exact mem_keys_of_mem (alLookup_mem hc)
  · intro k e hke
    cases hf : e.files with
    | none => rw [names_none hf]; exact List.nodup_nil
    | some fs => rw [names_some hf]; exact i.childnodup k e fs (look hke) hf

theorem rinv_init {s : State} (h : InvFacts s) (p : FsPath) : RInv p s.entries [p] := by
  refine ⟨h.nodup, h.listed, h.namesNodup, ?_, by simp, by simp⟩
  intro k e _ hu ⟨w, hw, hs⟩
  rw [List.mem_singleton] at hw
  subst hw
  exact absurd (hs.1.eq_of_length_le hu.length_le) hs.2

theorem wpAllow_absM {pn hg : Prop} {env : Env} {p : Str} {s : State} {Q : FsPath → State → Prop}
    (h : ∀ a, absM env p s = (.ok a, s) → Q a s) : wpAllow pn hg (absM env p) s Q := by
  refine (Safe.absM env p).wp fun a s' heq => ?_
  have hst := absM_state env p s
  rw [heq] at hst
  cases hst
  exact h a heq

/-- `remove_all` never panics, and on a well-formed state it does not run out of fuel -/
theorem removeAllM_runs {hg : Prop} (env : Env) (path : Str) (s : State) (h : ¬ hg → Spec.Inv s) :
    wpAllow False hg (removeAllM env path) s (fun _ _ => True) := by
  unfold Memfs.removeAllM
  simp only [bindM_def, wpAllow_bind, wpAllow_get]
  refine wpAllow_absM fun a _ => removeAllLoop_runs a _ _ _ fun hn => ?_
  have := phi_init_le a s.entries a
  exact ⟨rinv_init (inv_facts (h hn)) a, by omega⟩

end Rivia.Lemmas
