/-
  Rivia.Lemmas.Symlink — helper lemmas for `Rivia.Props.C10`.
-/
import Rivia.Model.MemfsOps
import Rivia.Lemmas.AbsMemfs
import Rivia.Lemmas.InvA

namespace Rivia.Lemmas
open Rivia Rivia.Str Rivia.Memfs Rivia.Memfs.M Rivia.Spec

/-! ### the state monad -/

@[simp] theorem M_bind_apply {α β} (m : M α) (f : α → M β) (s : State) :
    (m >>= f) s = (match m s with
      | (.ok a, s') => f a s'
      | (.err k, s') => (.err k, s')
      | (.panic, s') => (.panic, s')
      | (.hang, s') => (.hang, s')) := rfl

theorem M_bind_ok {α β} {m : M α} {f : α → M β} {s s' : State} {a : α} (h : m s = (.ok a, s')) :
    (m >>= f) s = f a s' := by rw [M_bind_apply, h]

@[simp] theorem M_pure_apply {α} (a : α) (s : State) : (Pure.pure a : M α) s = (.ok a, s) := rfl
@[simp] theorem M_pure'_apply {α} (a : α) (s : State) : (M.pure a : M α) s = (.ok a, s) := rfl
@[simp] theorem M_fail_apply {α} (k : ErrKind) (s : State) : (M.fail k : M α) s = (.err k, s) := rfl
@[simp] theorem M_hang_apply {α} (s : State) : (M.hang : M α) s = (.hang, s) := rfl
@[simp] theorem M_get_apply (s : State) : M.get s = (.ok s, s) := rfl
@[simp] theorem M_modify_apply (f : State → State) (s : State) : M.modify f s = (.ok (), f s) := rfl
@[simp] theorem M_liftO_apply {α} (o : Outcome α) (s : State) : M.liftO o s = (o, s) := rfl
@[simp] theorem getEntry_apply (p : FsPath) (s : State) :
    getEntry p s = (.ok (alLookup p s.entries), s) := rfl
@[simp] theorem setEntry_apply (p : FsPath) (e : Entry) (s : State) :
    setEntry p e s = (.ok (), { s with entries := alInsert p e s.entries }) := rfl
@[simp] theorem removeEntry_apply (p : FsPath) (s : State) :
    removeEntry p s = (.ok (alLookup p s.entries), { s with entries := alErase p s.entries }) := rfl
@[simp] theorem getFile_apply (p : FsPath) (s : State) :
    getFile p s = (.ok (alLookup p s.files), s) := rfl
@[simp] theorem setFile_apply (p : FsPath) (b : File.Bytes) (s : State) :
    setFile p b s = (.ok (), { s with files := alInsert p b s.files }) := rfl
@[simp] theorem removeFile_apply (p : FsPath) (s : State) :
    removeFile p s = (.ok (alLookup p s.files), { s with files := alErase p s.files }) := rfl

theorem dirOf_nil (s : State) : dirOf [] s = (.err .parentNotFound, s) := rfl
theorem dirOf_ne_nil {p : FsPath} (h : p ≠ []) (s : State) : dirOf p s = (.ok p.dropLast, s) := by
  unfold dirOf; rw [if_neg h]; rfl

@[simp] theorem mapVal_apply {α} (f : α → Val) (m : M α) (s : State) :
    mapVal f m s = (match m s with
      | (.ok a, s') => (.ok (f a), s')
      | (.err k, s') => (.err k, s')
      | (.panic, s') => (.panic, s')
      | (.hang, s') => (.hang, s')) := rfl

theorem mapVal_eq_ok {α} {f : α → Val} {m : M α} {s s' : State} {v : Val}
    (h : mapVal f m s = (.ok v, s')) : ∃ a, m s = (.ok a, s') ∧ v = f a := by
  rw [mapVal_apply] at h
  split at h <;> cases h
  exact ⟨_, by assumption, rfl⟩

theorem absM_congr {env : Env} {p : Str} {s s' : State} {k : FsPath} (hc : s'.cwd = s.cwd)
    (h : absM env p s = (.ok k, s)) : absM env p s' = (.ok k, s') := by
  unfold absM at h ⊢
  rw [hc]
  split at h <;> simp_all

/-! ### `readlink` / `readlink_abs` once the path is resolved -/

theorem step_readlink_eq {env : Env} {s : State} {p : Str} {k : FsPath}
    (ha : absM env p s = (.ok k, s)) :
    step env s (.readlink p) = (match alLookup k s.entries with
      | some e => if e.link then (.ok (.str e.rel), s) else (.err .isNotSymlink, s)
      | none => (.err .doesNotExist, s)) := by
  show mapVal _ _ _ = _
  rw [mapVal_apply, M_bind_ok ha, M_bind_apply, getEntry_apply]
  cases alLookup k s.entries with
  | none => rfl
  | some e => cases h : e.link <;> simp [h]

theorem step_readlinkAbs_eq {env : Env} {s : State} {p : Str} {k : FsPath}
    (ha : absM env p s = (.ok k, s)) :
    step env s (.readlinkAbs p) = (match alLookup k s.entries with
      | some e => if e.link then (.ok (.path (e.alt.getD [])), s) else (.err .isNotSymlink, s)
      | none => (.err .doesNotExist, s)) := by
  show mapVal _ _ _ = _
  rw [mapVal_apply, M_bind_ok ha, M_bind_apply, getEntry_apply]
  cases alLookup k s.entries with
  | none => rfl
  | some e => cases h : e.link <;> simp [h]

/-! ### `_add` of a link -/

theorem addChild_dir {d : Entry} (h : d.dir = true) (n : Str) :
    ∃ b d', d.addChild n = .ok (b, d') := by
  unfold Entry.addChild
  rw [h]
  cases d.files <;> exact ⟨_, _, rfl⟩

/-- `_add` below a missing parent, or one that is not a real directory, fails and changes nothing -/
theorem add_bad_parent {e : Entry} {s : State} {k : FsPath} (hp : e.path = k) (hk : k ≠ [])
    (h : ∀ d, alLookup k.dropLast s.entries = some d → ¬ (d.dir = true ∧ d.link = false)) :
    ∃ kind, add e s = (.err kind, s) := by
  subst hp
  unfold add
  simp only [M_bind_apply, getEntry_apply, if_neg hk]
  cases hd : alLookup e.path.dropLast s.entries with
  | none => exact ⟨_, rfl⟩
  | some d =>
    have hbad : (!d.dir || d.link) = true := by
      cases hdd : d.dir
      · rfl
      · cases hdl : d.link
        · exact absurd ⟨hdd, hdl⟩ (h d hd)
        · rfl
    exact ⟨.isNotDir, by simp only [hbad, if_true]; rfl⟩

/-- `_add` of a link under a free key whose parent `d` is a real directory: the entry is stored, the
    parent lists the name, and the call fails only if the name was listed already -/
theorem add_link_fresh {e d : Entry} {s : State} {k : FsPath} (hp : e.path = k) (hl : e.link = true)
    (hk : k ≠ []) (hd : alLookup k.dropLast s.entries = some d) (hdd : d.dir = true)
    (hdl : d.link = false) (hfree : alLookup k s.entries = none) :
    ∃ b d', d.addChild (baseName k) = .ok (b, d') ∧
      add e s = (if b then .ok k else .err .existsAlready,
        { s with entries := alInsert k.dropLast d' (alInsert k e s.entries) }) := by
  subst hp
  obtain ⟨b, d', hac⟩ := addChild_dir hdd (baseName e.path)
  refine ⟨b, d', hac, ?_⟩
  unfold add
  simp only [M_bind_apply, getEntry_apply, if_neg hk, hd, hdd, hdl, hfree, hl,
    Bool.not_true, Bool.or_false, Bool.false_eq_true, if_false, Bool.false_and, setEntry_apply,
    alLookup_alInsert_ne (dropLast_ne_self hk).symm, M_liftO_apply, hac]
  cases b <;> rfl

/-! ### `_symlink` -/

def linkEntry (s : State) (lk tk : FsPath) : Entry :=
  let tIsDir := match alLookup tk s.entries with | some x => x.dir | none => false
  { path := lk, alt := some tk, rel := relative (renderP tk) (renderP lk.dropLast), dir := tIsDir,
    file := !tIsDir, link := true, mode := optsMode true (!tIsDir) tIsDir none, uid := 1000,
    gid := 1000, follow := false, cached := false, files := if tIsDir then some [] else none }

theorem symlinkAbs_eq (lk tk : FsPath) (s : State) :
    symlinkAbs lk tk s =
      if (alLookup lk s.entries).isSome = true then (.err .existsAlready, s)
      else if lk = [] then (.err .parentNotFound, s)
      else (add (linkEntry s lk tk) >>= fun _ => Pure.pure lk) s := by
  unfold symlinkAbs
  simp only [M_bind_apply, getEntry_apply]
  split
  · rfl
  · by_cases hnil : lk = []
    · subst hnil; rfl
    · rw [if_neg hnil]
      rw [M_bind_apply, dirOf_ne_nil hnil]
      rfl

theorem symlinkM_exists {env : Env} {s : State} {l : Str} (t : Str) {lk : FsPath} {x : Entry}
    (ha : absM env l s = (.ok lk, s)) (he : alLookup lk s.entries = some x) :
    symlinkM env l t s = (.err .existsAlready, s) := by
  unfold symlinkM
  rw [M_bind_ok ha, M_bind_apply, getEntry_apply, he]
  rfl

theorem symlinkAbs_ok (s s' : State) (lk tk r : FsPath) (h : symlinkAbs lk tk s = (.ok r, s')) :
    r = lk ∧ lk ≠ [] ∧ alLookup lk s.entries = none ∧
    ∃ d d', alLookup lk.dropLast s.entries = some d ∧ d.dir = true ∧ d.link = false ∧
      d.addChild (baseName lk) = .ok (true, d') ∧
      s' = { s with entries := alInsert lk.dropLast d' (alInsert lk (linkEntry s lk tk) s.entries) } := by
  rw [symlinkAbs_eq] at h
  split at h
  · cases h
  rename_i hfree
  split at h
  · cases h
  rename_i hnil
  have hfree : alLookup lk s.entries = none := by simpa using hfree
  rw [M_bind_apply] at h
  by_cases hpar : ∃ d, alLookup lk.dropLast s.entries = some d ∧ d.dir = true ∧ d.link = false
  · obtain ⟨d, hd, hdd, hdl⟩ := hpar
    obtain ⟨b, d', hac, ha⟩ := add_link_fresh (e := linkEntry s lk tk) (k := lk) rfl rfl hnil hd hdd hdl hfree
    rw [ha] at h
    cases b
    · cases h
    · cases h
      exact ⟨rfl, hnil, hfree, d, d', hd, hdd, hdl, hac, rfl⟩
  · obtain ⟨kind, ha⟩ := add_bad_parent (e := linkEntry s lk tk) (k := lk) rfl hnil
      (fun d hd hr => hpar ⟨d, hd, hr.1, hr.2⟩)
    rw [ha] at h; cases h

theorem symlinkM_eq_symlinkAbs (env : Env) (s : State) (l t : Str) (lk tk : FsPath)
    (ha : absM env l s = (.ok lk, s))
    (ht : absM env (if isAbsolute t then t else mash (renderP lk.dropLast) t) s = (.ok tk, s)) :
    symlinkM env l t s = symlinkAbs lk tk s := by
  unfold symlinkM symlinkAbs
  rw [M_bind_ok ha, M_bind_apply, M_bind_apply (getEntry lk), getEntry_apply]
  dsimp only
  by_cases hs : (alLookup lk s.entries).isSome = true
  · rw [if_pos hs, if_pos hs]
  · -- what follows the resolution of the target is the same term on both sides
    rw [if_neg hs, if_neg hs]
    by_cases hab : isAbsolute t = true
    · rw [if_pos hab] at ht ⊢
      exact M_bind_ok ht
    · rw [if_neg hab] at ht ⊢
      by_cases hnil : lk = []
      · subst hnil; rfl
      · rw [M_bind_ok (dirOf_ne_nil hnil s)]
        exact M_bind_ok ht

/-! ### what the invariant gives; `remove` of a link -/

structure InvFacts (s : State) : Prop where
  nodup : (s.entries.map (·.1)).Nodup
  root : ∃ e0, alLookup [] s.entries = some e0 ∧ e0.dir = true ∧ e0.link = false
  parent : ∀ k e, (k, e) ∈ s.entries → k ≠ [] →
    ∃ pe fs, alLookup k.dropLast s.entries = some pe ∧ pe.dir = true ∧ pe.link = false ∧
      pe.files = some fs ∧ baseName k ∈ fs
  listed : ∀ k e fs, (k, e) ∈ s.entries → e.files = some fs → ∀ n ∈ fs,
    (alLookup (k ++ [n]) s.entries).isSome = true
  data : ∀ k e, (k, e) ∈ s.entries → (e.file && !e.link) = (alLookup k s.files).isSome
  path : ∀ k e, (k, e) ∈ s.entries → e.path = k

theorem inv_facts {s : State} (h : Spec.Inv s) : InvFacts s := by
  have P := (InvA.inv_iff s).1 h
  have L : ∀ {k e}, (k, e) ∈ s.entries → alLookup k s.entries = some e :=
    fun hm => alLookup_of_mem P.keysNodup hm
  exact ⟨P.keysNodup, P.rootOk, fun k e hm => P.parent k e (L hm),
    fun k e fs hm hf n hn => P.child k e fs n (L hm) hf hn,
    fun k e hm => Bool.eq_iff_iff.2 (by simpa using P.data k e (L hm)),
    fun k e hm => P.pathField k e (L hm)⟩

theorem link_no_children {s : State} (hinv : Spec.Inv s) {lk : FsPath} {e : Entry}
    (he : alLookup lk s.entries = some e) (hl : e.link = true) :
    e.files = none ∨ e.files = some [] := by
  have F := inv_facts hinv
  cases hf : e.files with
  | none => exact Or.inl rfl
  | some fs =>
    cases fs with
    | nil => exact Or.inr rfl
    | cons n ns =>
      exfalso
      have h1 := F.listed lk e (n :: ns) (alLookup_mem he) hf n (by simp)
      cases hc : alLookup (lk ++ [n]) s.entries with
      | none => simp [hc] at h1
      | some c =>
        obtain ⟨pe, fs, hp, _, hpl, _, _⟩ := F.parent (lk ++ [n]) c (alLookup_mem hc) (by simp)
        rw [List.dropLast_concat, he] at hp
        cases hp
        rw [hl] at hpl; cases hpl

theorem link_ne_root {s : State} (hinv : Spec.Inv s) {lk : FsPath} {e : Entry}
    (he : alLookup lk s.entries = some e) (hl : e.link = true) : lk ≠ [] := by
  intro h; subst h
  obtain ⟨e0, h0, _, h2⟩ := (inv_facts hinv).root
  rw [he] at h0; cases h0; rw [hl] at h2; cases h2

theorem link_no_data {s : State} (hinv : Spec.Inv s) {lk : FsPath} {e : Entry}
    (he : alLookup lk s.entries = some e) (hl : e.link = true) : alLookup lk s.files = none := by
  have := (inv_facts hinv).data lk e (alLookup_mem he)
  rw [hl] at this
  cases h : alLookup lk s.files with
  | none => rfl
  | some b => simp [h] at this

theorem removeM_link (env : Env) (s : State) (l : Str) (lk : FsPath) (e : Entry) (hinv : Spec.Inv s)
    (ha : absM env l s = (.ok lk, s)) (he : alLookup lk s.entries = some e) (hl : e.link = true) :
    ∃ pe fs, lk ≠ [] ∧ alLookup lk.dropLast s.entries = some pe ∧ pe.files = some fs ∧
      removeM env l s = (.ok (), { s with entries := (alErase lk
        (alInsert lk.dropLast { pe with files := some (fs.filter (· ≠ baseName lk)) } s.entries)) }) := by
  have hnil := link_ne_root hinv he hl
  obtain ⟨pe, fs, hp, hpd, _, hpf, _⟩ := (inv_facts hinv).parent lk e (alLookup_mem he) hnil
  refine ⟨pe, fs, hnil, hp, hpf, ?_⟩
  have hrc : pe.removeChild (baseName lk) = .ok { pe with files := some (fs.filter (· ≠ baseName lk)) } := by
    simp [Entry.removeChild, hpd, hpf]
  unfold removeM
  rw [M_bind_ok ha]
  -- no children either way
  rcases link_no_children hinv he hl with hf | hf <;>
    simp only [M_bind_apply, getEntry_apply, he, hf, List.isEmpty_nil, Bool.not_true,
      M_pure'_apply, Option.isNone_some, Bool.false_eq_true, if_false, dirOf_ne_nil hnil, hp,
      hrc, M_liftO_apply, setEntry_apply, alLookup_alInsert_ne (dropLast_ne_self hnil)] <;>
    -- a link has no data, so erasing its data key changes nothing
    cases e.file <;>
    simp only [if_true, if_false, Bool.false_eq_true, M_bind_apply, removeEntry_apply,
      removeFile_apply, M_pure_apply, alErase_of_lookup_none (link_no_data hinv he hl)]

/-! ### traversal rooted at a link that is not followed -/

theorem nextE_link_root {σ} (snap : Snap) (o : Opts) (preOp : Entry → σ → Outcome Unit × σ)
    (e : Entry) (w : σ) (n : Nat) (hl : e.link = true) (hf : o.follow = false)
    (hmin : o.minDepth = 0) (hfiles : o.files = false) (hdirs : o.dirs = false) :
    nextE snap o preOp e (n + 1) {} w = (some (.ok e), { started := true }, w) := by
  by_cases hc : e.dir = true ∧ o.contentsFirst = true
  · simp [nextE, process, hf, hl, hmin, hfiles, hdirs, hc, doFollow_false, nextLoop]
  · simp [nextE, process, hf, hl, hmin, hfiles, hdirs, hc, doFollow_false]

theorem nextE_done {σ} (snap : Snap) (o : Opts) (preOp : Entry → σ → Outcome Unit × σ)
    (e : Entry) (w : σ) (n : Nat) :
    nextE snap o preOp e (n + 1) { started := true } w = (none, { started := true }, w) := by
  simp [nextE, nextLoop]

theorem runIter_link_root {σ} (snap : Snap) (o : Opts) (preOp : Entry → σ → Outcome Unit × σ)
    (e : Entry) (stepf : Entry → σ → Outcome Unit × σ) (w : σ) (n : Nat)
    (hl : e.link = true) (hf : o.follow = false)
    (hmin : o.minDepth = 0) (hfiles : o.files = false) (hdirs : o.dirs = false) :
    runIter snap o preOp e stepf (n + 2) {} w = stepf e w := by
  rw [runIter, nextE_link_root snap o preOp e w (n + 1) hl hf hmin hfiles hdirs]
  simp only
  rcases hs : stepf e w with ⟨r, w'⟩
  cases r with
  | ok u => cases u; simp only; rw [runIter, nextE_done]
  | err k => rfl
  | panic => rfl
  | hang => rfl

/-! ### `_clone_entries` is total under the invariant -/

theorem cloneLoop_ok (ents : List (FsPath × Entry))
    (hclosed : ∀ k e, alLookup k ents = some e → ∀ fs, e.files = some fs → ∀ n ∈ fs,
      (alLookup (e.path ++ [n]) ents).isSome = true) :
    ∀ (f : Nat) (work : List FsPath) (acc : Snap), (∀ p ∈ work, (alLookup p ents).isSome = true) →
      ∃ snap, cloneLoop ents f work acc = .ok snap := by
  intro f
  induction f with
  | zero => intro work acc _; exact ⟨acc, rfl⟩
  | succ f ih =>
    intro work acc hw
    cases work with
    | nil => exact ⟨acc, rfl⟩
    | cons p work =>
      cases hp : alLookup p ents with
      | none => have := hw p (by simp); simp [hp] at this
      | some e =>
        simp only [cloneLoop, hp]
        apply ih
        have hk : ∀ q ∈ ((match e.files with | some fs => fs.map (fun n => e.path ++ [n]) | none => []).reverse ++ work),
            (alLookup q ents).isSome = true := by
          intro q hq
          rcases List.mem_append.1 hq with hq | hq
          · cases hf : e.files with
            | none => simp [hf] at hq
            | some fs =>
              simp only [hf, List.mem_reverse, List.mem_map] at hq
              obtain ⟨n, hn, rfl⟩ := hq
              exact hclosed p e hp fs hf n hn
          · exact hw q (by simp [hq])
        cases ha : e.alt with
        | none => exact hk
        | some a =>
          simp only
          split
          · rename_i hc
            intro q hq
            rcases List.mem_cons.1 hq with rfl | hq
            · exact hc.2.1
            · exact hk q hq
          · exact hk

/-! ### chown / chmod -/

theorem travFuel_succ2 (snap : Snap) : ∃ n, travFuel snap = n + 2 := by
  refine ⟨travFuel snap - 2, ?_⟩
  unfold travFuel
  have := Nat.mul_le_mul (show 1 ≤ 64 * (snap.length + 2) by omega) (show 2 ≤ snap.length + 2 by omega)
  omega

theorem chownM_link (env : Env) (s : State) (l : Str) (c : ChownOpts) (lk : FsPath) (e : Entry) (snap : Snap)
    (ha : absM env l s = (.ok lk, s)) (he : alLookup lk s.entries = some e) (hl : e.link = true)
    (hp : e.path = lk) (hc : c.follow = false) (hs : cloneEntries s lk = .ok snap) :
    chownM env l c s =
      (.ok (), { s with entries := alInsert lk (e.setOwner c.uid c.gid) s.entries }) := by
  obtain ⟨n, hn⟩ := travFuel_succ2 snap
  simp only [chownM, M_bind_apply, ha, M_get_apply, entriesOf, he, hs, M_liftO_apply, hn]
  rw [runIter_link_root _ _ _ _ _ _ _ hl (by simp [Opts.setMax, hc]) (by simp [Opts.setMax])
    (by simp [Opts.setMax]) (by simp [Opts.setMax])]
  simp [hp, he]

/-- `chmod` without follow started at a link: the traversal yields the link alone and the loop body
    skips links, so all that is left of the call is its outcome -/
theorem chmodM_link_eq (env : Env) (s : State) (l : Str) (c : ChmodOpts) (lk : FsPath) (e : Entry)
    (ha : absM env l s = (.ok lk, s)) (he : alLookup lk s.entries = some e) (hl : e.link = true)
    (hc : c.follow = false) :
    chmodM env l c s = (match cloneEntries s lk with
      | .ok _ =>
        (match (if e.dir then Chmod.mode (ekind e) e.mode c.dirs c.sym
          else if e.file then Chmod.mode (ekind e) e.mode c.files c.sym else .ok 0) with
        | .ok _ => .ok () | .err k => .err k | .panic => .panic | .hang => .hang)
      | .err k => .err k | .panic => .panic | .hang => .hang, s) := by
  simp only [chmodM, M_bind_apply, ha, M_get_apply, entriesOf, he]
  cases hs : cloneEntries s lk with
  | ok snap =>
    obtain ⟨n, hn⟩ := travFuel_succ2 snap
    simp only [M_liftO_apply, hn]
    rw [runIter_link_root _ _ _ _ _ _ _ hl (by simp [Opts.setMax, hc]) (by simp [Opts.setMax])
      (by simp [Opts.setMax]) (by simp [Opts.setMax])]
    simp only [hl, hc, Bool.not_true, Bool.false_eq_true, or_self, false_and, if_false]
    generalize (if e.dir = true then Chmod.mode (ekind e) e.mode c.dirs c.sym
      else if e.file = true then Chmod.mode (ekind e) e.mode c.files c.sym else .ok 0) = m2o
    cases m2o <;> rfl
  | err k => rfl
  | panic => rfl
  | hang => rfl

theorem chmodM_link (env : Env) (s : State) (l : Str) (c : ChmodOpts) (lk : FsPath) (e : Entry)
    (ha : absM env l s = (.ok lk, s)) (he : alLookup lk s.entries = some e) (hl : e.link = true)
    (hc : c.follow = false) : (chmodM env l c s).2 = s := by
  rw [chmodM_link_eq env s l c lk e ha he hl hc]

theorem chmodM_link_octal (env : Env) (s : State) (l : Str) (c : ChmodOpts) (lk : FsPath) (e : Entry)
    (snap : Snap)
    (ha : absM env l s = (.ok lk, s)) (he : alLookup lk s.entries = some e) (hl : e.link = true)
    (hc : c.follow = false) (hsym : c.sym = []) (hs : cloneEntries s lk = .ok snap) :
    chmodM env l c s = (.ok (), s) := by
  have hm : ∀ k cur oct, ∃ m, Chmod.mode k cur oct [] = .ok m := by
    intro k cur oct; unfold Chmod.mode; split <;> exact ⟨_, rfl⟩
  rw [chmodM_link_eq env s l c lk e ha he hl hc, hs, hsym]
  obtain ⟨m1, h1⟩ := hm (ekind e) e.mode c.dirs
  obtain ⟨m2, h2⟩ := hm (ekind e) e.mode c.files
  rw [h1, h2]
  cases e.dir <;> cases e.file <;> rfl

theorem cloneEntries_ok_of_inv {s : State} (hinv : Spec.Inv s) {k : FsPath}
    (hk : (alLookup k s.entries).isSome = true) : ∃ snap, cloneEntries s k = .ok snap := by
  have F := inv_facts hinv
  unfold cloneEntries
  apply cloneLoop_ok
  · intro k e he fs hf n hn
    have hm := alLookup_mem he
    rw [F.path k e hm]
    exact F.listed k e fs hm hf n hn
  · intro p hp
    simp only [List.mem_singleton] at hp
    subst hp; exact hk

/-! ### keys as strings -/

theorem relative_renderP_self (ds : FsPath) : relative (renderP ds) (renderP ds) = renderP ds := by
  simp [relative]

theorem relative_renderP_navigates {ts ds : FsPath} (ht : ∀ n ∈ ts, Wf n) (hd : ∀ n ∈ ds, Wf n) :
    goClean (push (renderP ds) (relative (renderP ts) (renderP ds))) = renderP ts := by
  by_cases hne : ts = ds
  · subst hne
    rw [relative_renderP_self]
    have hr : isRooted (renderP ts) = true := rfl
    simp only [push, hr, if_true]
    rw [renderP_eq_bufOf]
    exact goClean_of_normalForm (normalForm_abs ht)
  · rw [renderP_eq_bufOf, renderP_eq_bufOf, relative_abs ht hd hne,
      push_abs_rel (fun q hq => Wf.bodyPiece (hd q hq))
        (bodyPiece_shape (fun n hn => ht n (List.mem_of_mem_drop hn))) (shape_ne_nil hne)]
    exact goClean_navigate ht hd hne

theorem relative_renderP_isRooted {ts ds : FsPath} (ht : ∀ n ∈ ts, Wf n) (hd : ∀ n ∈ ds, Wf n) :
    isRooted (relative (renderP ts) (renderP ds)) = decide (ts = ds) := by
  by_cases hne : ts = ds
  · subst hne; rw [relative_renderP_self]; simp [renderP, isRooted]
  · rw [renderP_eq_bufOf, renderP_eq_bufOf, relative_abs ht hd hne,
      isRooted_bufOf (bodyPiece_shape (fun n hn => ht n (List.mem_of_mem_drop hn)))]
    simp [hne]

theorem wf_dropLast {ns : FsPath} (h : ∀ n ∈ ns, Wf n) : ∀ n ∈ ns.dropLast, Wf n :=
  fun n hn => h n ((List.dropLast_sublist ns).subset hn)

/-! ### `_abs` produces well-formed keys -/

theorem absWith_wf (env : Env) (cw : List Str) (hc : ∀ n ∈ cw, Wf n) (p a : Str)
    (h : absWith env (bufOf true cw) p = .ok a) : ∃ ns, (∀ n ∈ ns, Wf n) ∧ a = bufOf true ns := by
  obtain ⟨hr, hn⟩ := absWith_shape (normalForm_of_wf hc).1 (normalForm_of_wf hc).2 h
  exact rooted_normalForm hr hn

/-- `_abs` returns keys made of well-formed names, and the key is a faithful parse: rendering it
    gives back the clean absolute string that `abs` computed -/
theorem absM_wf {env : Env} {p : Str} {s s' : State} {k : FsPath} (hc : ∀ n ∈ s.cwd, Wf n)
    (h : absM env p s = (.ok k, s')) :
    (∀ n ∈ k, Wf n) ∧ absWith env (renderP s.cwd) p = .ok (renderP k) := by
  unfold absM at h
  split at h
  · rename_i a ha
    simp only [Prod.mk.injEq, Outcome.ok.injEq] at h
    rw [renderP_eq_bufOf] at ha
    obtain ⟨ns, hns, rfl⟩ := absWith_wf env s.cwd hc p a ha
    rw [← renderP_eq_bufOf, toPath_renderP hns] at h
    rw [← h.1, renderP_eq_bufOf, renderP_eq_bufOf]
    exact ⟨hns, ha⟩
  all_goals simp at h

/-! ### when `_symlink` succeeds -/

theorem addChild_new {d : Entry} {n : Str} (hd : d.dir = true) (hn : ∀ fs, d.files = some fs → n ∉ fs) :
    ∃ d', d.addChild n = .ok (true, d') := by
  unfold Entry.addChild
  rw [if_neg (by simp [hd])]
  cases hf : d.files with
  | none => exact ⟨_, rfl⟩
  | some fs =>
    refine ⟨{ d with files := some (insertName n fs).2 }, ?_⟩
    simp only [← insertName_fst_of_not_mem (hn fs hf)]

theorem symlinkAbs_succeeds {s : State} (hinv : Spec.Inv s) {lk : FsPath} (tk : FsPath) {d : Entry}
    (hfree : alLookup lk s.entries = none) (hd : alLookup lk.dropLast s.entries = some d)
    (hdd : d.dir = true) (hdl : d.link = false) :
    ∃ s', symlinkAbs lk tk s = (.ok lk, s') := by
  have F := inv_facts hinv
  have hnil : lk ≠ [] := by
    intro h; subst h
    obtain ⟨e0, h0, _⟩ := F.root
    rw [hfree] at h0; cases h0
  -- a listed name has an entry, and `lk` has none
  obtain ⟨d', hnew⟩ := addChild_new (n := baseName lk) hdd (fun fs hf hm => by
    have := F.listed lk.dropLast d fs (alLookup_mem hd) hf _ hm
    rw [dropLast_append_baseName hnil, hfree] at this
    cases this)
  obtain ⟨b, d'', hac, ha⟩ := add_link_fresh (e := linkEntry s lk tk) (k := lk) rfl rfl hnil hd hdd hdl hfree
  rw [hnew] at hac; cases hac
  rw [symlinkAbs_eq, if_neg (by simp [hfree]), if_neg hnil, M_bind_apply, ha]
  exact ⟨_, rfl⟩

end Rivia.Lemmas
