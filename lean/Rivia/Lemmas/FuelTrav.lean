/-
  Rivia.Lemmas.FuelTrav — the traversal (`EntriesIter`) never exhausts its fuel when links are not
  followed and the snapshot is well-formed, and it never panics; so for the operations built on it
  (`entries`, the listings, `chmod`, `chown`, `copy`).

  Potential of an iterator state: every open directory iterator counts 1, every pending item `x`
  counts 3 · (number of snapshot entries at/under `x.path`), every deferred entry counts 1.
  Each iteration of `nextLoop` decreases it.
-/
import Rivia.Lemmas.FuelMove
import Rivia.Lemmas.Chmod

namespace Rivia.Lemmas
open Rivia Rivia.Memfs Rivia.Memfs.M Rivia.File

/-! ### sorting does not change sums or membership -/

theorem mem_insertSorted {le : Entry → Entry → Bool} {x y : Entry} {l : List Entry}
    (h : y ∈ insertSorted le x l) : y = x ∨ y ∈ l := by
  induction l with
  | nil => simp only [insertSorted, List.mem_singleton] at h; exact .inl h
  | cons a l ih =>
    simp only [insertSorted] at h
    split at h
    · rcases List.mem_cons.1 h with h | h
      · exact .inl h
      · exact .inr h
    · rcases List.mem_cons.1 h with h | h
      · exact .inr (h ▸ List.mem_cons_self)
      · rcases ih h with h | h
        · exact .inl h
        · exact .inr (List.mem_cons_of_mem _ h)

theorem sum_insertSorted (f : Entry → Nat) (le : Entry → Entry → Bool) (x : Entry) (l : List Entry) :
    ((insertSorted le x l).map f).sum = f x + (l.map f).sum := by
  induction l with
  | nil => simp [insertSorted]
  | cons a l ih =>
    simp only [insertSorted]
    split
    · simp
    · simp only [List.map_cons, List.sum_cons, ih]; omega

theorem mem_sortEntries {le : Entry → Entry → Bool} {y : Entry} {l : List Entry}
    (h : y ∈ sortEntries le l) : y ∈ l := by
  induction l with
  | nil => simp [sortEntries] at h
  | cons a l ih =>
    simp only [sortEntries, List.foldr_cons] at h ih
    rcases mem_insertSorted h with h | h
    · exact h ▸ List.mem_cons_self
    · exact List.mem_cons_of_mem _ (ih h)

theorem sum_sortEntries (f : Entry → Nat) (le : Entry → Entry → Bool) (l : List Entry) :
    ((sortEntries le l).map f).sum = (l.map f).sum := by
  induction l with
  | nil => simp [sortEntries]
  | cons a l ih =>
    simp only [sortEntries, List.foldr_cons] at ih ⊢
    rw [sum_insertSorted, ih]
    simp

theorem sum_filter_partition {α} (f : α → Nat) (p : α → Bool) (l : List α) :
    ((l.filter p).map f).sum + ((l.filter (fun x => !p x)).map f).sum = (l.map f).sum := by
  induction l with
  | nil => rfl
  | cons a l ih =>
    simp only [List.filter_cons]
    cases hp : p a <;> simp [ih] <;> omega

/-! ### cost -/

def cst (snap : Snap) (x : Entry) : Nat := 3 * cnt snap x.path

def itCost (snap : Snap) (it : EIter) : Nat := 1 + (it.items.map (cst snap)).sum

structure SnapWF (snap : Snap) : Prop where
  path : ∀ k e, (k, e) ∈ snap → e.path = k
  namesNodup : ∀ k e, (k, e) ∈ snap → (names e).Nodup

/-- the entries `MemfsEntryIter` yields for the listed names `ns` of `path` -/
def rawItems (snap : Snap) (path : FsPath) (ns : List Str) : List Entry :=
  (((ns.map (fun n => path ++ [n])).map (fun k => alLookup k snap)).takeWhile Option.isSome).filterMap id

theorem rawItems_cons (snap : Snap) (path : FsPath) (n : Str) (ns : List Str) :
    rawItems snap path (n :: ns) =
      match alLookup (path ++ [n]) snap with
      | some y => y :: rawItems snap path ns
      | none => [] := by
  unfold rawItems
  simp only [List.map_cons, List.takeWhile_cons]
  cases alLookup (path ++ [n]) snap <;> simp

theorem rawItems_spec {snap : Snap} (wf : SnapWF snap) (path : FsPath) (ns : List Str) :
    (∀ x ∈ rawItems snap path ns, (x.path, x) ∈ snap) ∧
    ((rawItems snap path ns).map (cst snap)).sum ≤ (ns.map (fun n => 3 * cnt snap (path ++ [n]))).sum := by
  induction ns with
  | nil => simp [rawItems]
  | cons n ns ih =>
    rw [rawItems_cons]
    cases h : alLookup (path ++ [n]) snap with
    | none => simp
    | some y =>
      have hm := alLookup_mem h
      have hp := wf.path _ _ hm
      simp only
      constructor
      · intro x hx
        rcases List.mem_cons.1 hx with rfl | hx
        · rw [hp]; exact hm
        · exact ih.1 x hx
      · simp only [List.map_cons, List.sum_cons]
        have : cst snap y = 3 * cnt snap (path ++ [n]) := by unfold cst; rw [hp]
        have := ih.2
        omega

theorem three_mul_sum {α} (f : α → Nat) (l : List α) :
    (l.map (fun n => 3 * f n)).sum = 3 * (l.map f).sum := by
  induction l with
  | nil => rfl
  | cons a l ih => simp only [List.map_cons, List.sum_cons, ih]; omega

/-- the sort / dirs_first / files_first / cache step of `mkIter` -/
def arrange (o : Opts) (path : FsPath) (items : List Entry) : Outcome EIter :=
  if o.sorted then
    if o.dirsFirst then
      .ok ⟨path, true, sortEntries nameLe (items.filter (·.dir)) ++ sortEntries nameLe (items.filter (fun x => !x.dir))⟩
    else if o.filesFirst then
      .ok ⟨path, true, sortEntries nameLe (items.filter (fun x => !x.dir)) ++ sortEntries nameLe (items.filter (·.dir))⟩
    else .ok ⟨path, true, sortEntries nameLe items⟩
  else .ok ⟨path, false, items⟩

theorem mkIter_eq (snap : Snap) (o : Opts) (path : FsPath) :
    mkIter snap o path = match alLookup path snap with
      | none => .err .doesNotExist
      | some e => arrange o path ((rawItems snap path (names e)).map (fun x => x.doFollow o.follow)) := by
  unfold mkIter
  cases alLookup path snap with
  | none => rfl
  | some e =>
    simp only [arrange, rawItems, names]
    cases e.files <;> rfl

theorem arrange_spec (o : Opts) (path : FsPath) (items : List Entry) :
    ∃ it, arrange o path items = .ok it ∧ (∀ x ∈ it.items, x ∈ items) ∧
      ∀ f : Entry → Nat, (it.items.map f).sum = (items.map f).sum := by
  unfold arrange
  split
  · split
    · refine ⟨_, rfl, ?_, ?_⟩
      · intro x hx
        rcases List.mem_append.1 hx with hx | hx
        · exact (List.mem_filter.1 (mem_sortEntries hx)).1
        · exact (List.mem_filter.1 (mem_sortEntries hx)).1
      · intro f
        simp only
        rw [List.map_append, List.sum_append, sum_sortEntries, sum_sortEntries, sum_filter_partition]
    · split
      · refine ⟨_, rfl, ?_, ?_⟩
        · intro x hx
          rcases List.mem_append.1 hx with hx | hx
          · exact (List.mem_filter.1 (mem_sortEntries hx)).1
          · exact (List.mem_filter.1 (mem_sortEntries hx)).1
        · intro f
          simp only
          rw [List.map_append, List.sum_append, sum_sortEntries, sum_sortEntries, Nat.add_comm,
            sum_filter_partition]
      · exact ⟨_, rfl, fun x hx => mem_sortEntries hx, fun f => sum_sortEntries f _ _⟩
  · exact ⟨_, rfl, fun x hx => hx, fun f => rfl⟩

theorem mkIter_fine (snap : Snap) (o : Opts) (path : FsPath) : Fine (mkIter snap o path) := by
  rw [mkIter_eq]
  cases alLookup path snap with
  | none => exact Outcome.total_err _
  | some e =>
    obtain ⟨it, hit, _⟩ := arrange_spec o path
      ((rawItems snap path (names e)).map (fun x => x.doFollow o.follow))
    simp only [hit]
    exact Outcome.total_ok _

theorem mkIter_spec {snap : Snap} (wf : SnapWF snap) {o : Opts} (hfo : o.follow = false)
    {path : FsPath} {it : EIter} (hit : mkIter snap o path = .ok it) :
    (∀ x ∈ it.items, (x.path, x) ∈ snap) ∧ (it.items.map (cst snap)).sum + 3 ≤ 3 * cnt snap path := by
  rw [mkIter_eq] at hit
  cases h : alLookup path snap with
  | none => rw [h] at hit; cases hit
  | some e =>
    have hm := alLookup_mem h
    simp only [h, hfo] at hit
    have hdf : (rawItems snap path (names e)).map (fun x => x.doFollow false) =
        rawItems snap path (names e) := by
      rw [List.map_congr_left (g := id) (fun x _ => doFollow_false x), List.map_id]
    rw [hdf] at hit
    obtain ⟨hmem, hsum⟩ := rawItems_spec wf path (names e)
    have hlt := kids_count_lt snap path (names e) (wf.namesNodup _ _ hm) hm
    rw [three_mul_sum] at hsum
    obtain ⟨it0, hit0, hmem0, hsum0⟩ := arrange_spec o path (rawItems snap path (names e))
    rw [hit0] at hit
    cases hit
    refine ⟨fun x hx => hmem x (hmem0 x hx), ?_⟩
    rw [hsum0]
    omega

/-! ### `process` -/

def G0 (snap : Snap) (st : ISt) : Nat := (st.iters.map (itCost snap)).sum + st.deferred.length

/-- budget of processing the entry `e` -/
def B (snap : Snap) (e : Entry) : Nat := max (cst snap e) 2

def ItemsOk (snap : Snap) (st : ISt) : Prop := ∀ it ∈ st.iters, ∀ x ∈ it.items, (x.path, x) ∈ snap

/-- the `descend` part of `process` -/
def descendP {σ} (snap : Snap) (o : Opts) (preOp : Entry → σ → Outcome Unit × σ)
    (st : ISt) (e : Entry) (w : σ) : Option (Outcome Entry) × ISt × σ :=
  if e.dir ∧ (!e.link ∨ o.follow) then
    if e.link ∧ st.iters.any (fun x => x.path = e.path) then (some (.err .linkLooping), st, w)
    else if st.iters.length < o.maxDepth then
      match preOp e w with
      | (.ok (), w') =>
        match mkIter snap o e.path with
        | .ok it =>
          if o.sorted ∨ st.openDesc + 1 > o.maxDesc then
            (none, { st with iters := { it with cached := true } :: st.iters }, w')
          else (none, { st with iters := it :: st.iters, openDesc := st.openDesc + 1 }, w')
        | .err k => (some (.err k), st, w')
        | .panic => (some .panic, st, w')
        | .hang => (some .hang, st, w')
      | (.err k, w') => (some (.err k), st, w')
      | (.panic, w') => (some .panic, st, w')
      | (.hang, w') => (some .hang, st, w')
    else (none, st, w)
  else (none, st, w)

/-- the filter / defer part of `process` -/
def finishP {σ} (o : Opts) (depth : Nat) (e : Entry) :
    Option (Outcome Entry) × ISt × σ → Option (Outcome Entry) × ISt × σ
  | (some r, st', w') => (some r, st', w')
  | (none, st', w') =>
    if depth < o.minDepth then (none, st', w')
    else if (o.files ∧ !e.file) ∨ (!o.files ∧ o.dirs ∧ !e.dir) then (none, st', w')
    else if e.dir ∧ o.contentsFirst then (none, { st' with deferred := (depth, e) :: st'.deferred }, w')
    else (some (.ok e), st', w')

theorem process_eq {σ} (snap : Snap) (o : Opts) (preOp : Entry → σ → Outcome Unit × σ)
    (st : ISt) (e : Entry) (w : σ) :
    process snap o preOp st e w = finishP o st.iters.length e (descendP snap o preOp st e w) := by
  unfold process finishP descendP
  rfl

theorem B_ge_two (snap : Snap) (e : Entry) : 2 ≤ B snap e := Nat.le_max_right _ _
theorem B_ge_cst (snap : Snap) (e : Entry) : cst snap e ≤ B snap e := Nat.le_max_left _ _

theorem descend_spec {σ} {snap : Snap} (wf : SnapWF snap) {o : Opts} (hfo : o.follow = false)
    (preOp : Entry → σ → Outcome Unit × σ) (hpre : ∀ e w, (preOp e w).1 ≠ .hang)
    (st : ISt) (e : Entry) (w : σ) (hst : ItemsOk snap st) :
    (descendP snap o preOp st e w).1 ≠ some .hang ∧
    ItemsOk snap (descendP snap o preOp st e w).2.1 ∧
    G0 snap (descendP snap o preOp st e w).2.1 + 2 ≤ G0 snap st + B snap e ∧
    (descendP snap o preOp st e w).2.1.started = st.started ∧
    (descendP snap o preOp st e w).2.1.deferred = st.deferred := by
  have hB := B_ge_two snap e
  have hBc := B_ge_cst snap e
  have same : ∀ (r : Option (Outcome Entry)) (w' : σ), r ≠ some .hang →
      (r, st, w').1 ≠ some .hang ∧ ItemsOk snap (r, st, w').2.1 ∧
      G0 snap (r, st, w').2.1 + 2 ≤ G0 snap st + B snap e ∧
      (r, st, w').2.1.started = st.started ∧ (r, st, w').2.1.deferred = st.deferred :=
    fun r w' hr => ⟨hr, hst, by simp only; omega, rfl, rfl⟩
  have hmkFine := mkIter_fine snap o e.path
  unfold descendP
  split
  · split
    · exact same _ _ (by simp)
    · split
      · have hp := hpre e w
        split
        · rename_i w' hpo
          split
          · rename_i it hit
            obtain ⟨hitems, hcost⟩ := mkIter_spec wf hfo hit
            have hcst : cst snap e = 3 * cnt snap e.path := rfl
            split
            · refine ⟨by simp, ?_, ?_, rfl, rfl⟩
              · intro it' hit' x hx
                rcases List.mem_cons.1 hit' with rfl | hit'
                · exact hitems x hx
                · exact hst it' hit' x hx
              · simp only [G0, List.map_cons, List.sum_cons, itCost]
                omega
            · refine ⟨by simp, ?_, ?_, rfl, rfl⟩
              · intro it' hit' x hx
                rcases List.mem_cons.1 hit' with rfl | hit'
                · exact hitems x hx
                · exact hst it' hit' x hx
              · simp only [G0, List.map_cons, List.sum_cons, itCost]
                omega
          · exact same _ _ (by simp)
          · exact same _ _ (by simp)
          · rename_i hh; exact absurd hh hmkFine.2
        · exact same _ _ (by simp)
        · exact same _ _ (by simp)
        · rename_i hh; rw [hh] at hp; exact absurd rfl hp
      · exact same _ _ (by simp)
  · exact same _ _ (by simp)

theorem process_spec {σ} {snap : Snap} (wf : SnapWF snap) {o : Opts} (hfo : o.follow = false)
    (preOp : Entry → σ → Outcome Unit × σ) (hpre : ∀ e w, (preOp e w).1 ≠ .hang)
    (st : ISt) (e : Entry) (w : σ) (hst : ItemsOk snap st) :
    (process snap o preOp st e w).1 ≠ some .hang ∧
    ItemsOk snap (process snap o preOp st e w).2.1 ∧
    G0 snap (process snap o preOp st e w).2.1 + 1 ≤ G0 snap st + B snap e ∧
    (process snap o preOp st e w).2.1.started = st.started := by
  rw [process_eq]
  obtain ⟨h1, h2, h3, h4, h5⟩ := descend_spec wf hfo preOp hpre st e w hst
  generalize descendP snap o preOp st e w = d at h1 h2 h3 h4 h5
  obtain ⟨r, st', w'⟩ := d
  simp only at h1 h2 h3 h4 h5
  cases r with
  | some r => exact ⟨h1, h2, by simp only [finishP]; omega, h4⟩
  | none =>
    simp only [finishP]
    split
    · exact ⟨by simp, h2, by simp only; omega, h4⟩
    · split
      · exact ⟨by simp, h2, by simp only; omega, h4⟩
      · split
        · refine ⟨by simp, h2, ?_, h4⟩
          simp only [G0, List.length_cons] at h3 ⊢
          omega
        · exact ⟨by simp, h2, by simp only; omega, h4⟩

/-! ### `nextLoop` -/

theorem cst_ge_three {snap : Snap} {x : Entry} (h : (x.path, x) ∈ snap) : 3 ≤ cst snap x := by
  unfold cst cnt
  have : 0 < snap.countP (fun kv => decide (x.path <+: kv.1)) :=
    List.countP_pos_iff.2 ⟨(x.path, x), h, by simp⟩
  omega

theorem B_eq_cst {snap : Snap} {x : Entry} (h : (x.path, x) ∈ snap) : B snap x = cst snap x := by
  have := cst_ge_three h
  unfold B
  omega

/-- result of `nextLoop` / `nextE`: not a hang, and when an entry is yielded the new state is
    again well-formed with a strictly smaller potential -/
def YieldOk (snap : Snap) (bound : Nat) (started : Bool) (r : Option (Outcome Entry) × ISt) : Prop :=
  r.1 ≠ some .hang ∧
  ∀ e, r.1 = some (.ok e) → ItemsOk snap r.2 ∧ G0 snap r.2 < bound ∧ r.2.started = started

theorem nextLoop_spec {σ} {snap : Snap} (wf : SnapWF snap) {o : Opts} (hfo : o.follow = false)
    (preOp : Entry → σ → Outcome Unit × σ) (hpre : ∀ e w, (preOp e w).1 ≠ .hang) :
    ∀ (f : Nat) (st : ISt) (w : σ), ItemsOk snap st → G0 snap st < f →
      YieldOk snap (G0 snap st) st.started
        ((nextLoop snap o preOp f st w).1, (nextLoop snap o preOp f st w).2.1) := by
  intro f
  induction f with
  | zero => intro st w _ h; omega
  | succ f ih =>
    intro st w hst hG
    have hdefer : ∀ (d : Nat × Entry) (ds : List (Nat × Entry)), st.deferred = d :: ds →
        YieldOk snap (G0 snap st) st.started
          (some (.ok d.2), { st with deferred := ds }) := by
      intro d ds hd
      refine ⟨by simp, fun e _ => ⟨hst, ?_, rfl⟩⟩
      simp only [G0, hd, List.length_cons]
      omega
    have hnone : YieldOk snap (G0 snap st) st.started ((none : Option (Outcome Entry)), st) :=
      ⟨by simp, fun e he => by cases he⟩
    rw [nextLoop]
    split
    · -- no open iterator
      split
      · split
        · rename_i d ds hd; exact hdefer d ds hd
        · exact hnone
      · exact hnone
    · rename_i top below hiters
      split
      · split
        · rename_i d ds hd; exact hdefer d ds hd
        · exact hnone
      · split
        · -- an item of the top iterator
          rename_i x xs hitems
          have hxmem : (x.path, x) ∈ snap :=
            hst top (by rw [hiters]; exact List.mem_cons_self) x (by rw [hitems]; exact List.mem_cons_self)
          have hst1 : ItemsOk snap { st with iters := { top with items := xs } :: below } := by
            intro it hit y hy
            rcases List.mem_cons.1 hit with rfl | hit
            · exact hst top (by rw [hiters]; exact List.mem_cons_self) y
                (by rw [hitems]; exact List.mem_cons_of_mem _ hy)
            · exact hst it (by rw [hiters]; exact List.mem_cons_of_mem _ hit) y hy
          have hG1 : G0 snap { st with iters := { top with items := xs } :: below } + cst snap x
              = G0 snap st := by
            simp only [G0, hiters, List.map_cons, List.sum_cons, itCost, hitems]
            omega
          dsimp only
          rw [hfo, doFollow_false]
          obtain ⟨p1, p2, p3, p4⟩ := process_spec wf hfo preOp hpre _ x w hst1
          rw [B_eq_cst hxmem] at p3
          generalize process snap o preOp { st with iters := { top with items := xs } :: below } x w = pr
            at p1 p2 p3 p4 ⊢
          obtain ⟨r, st2, w2⟩ := pr
          simp only at p1 p2 p3 p4
          cases r with
          | some r =>
            refine ⟨p1, fun e _ => ⟨p2, ?_, p4⟩⟩
            show G0 snap st2 < _
            omega
          | none =>
            obtain ⟨q1, q2⟩ := ih st2 w2 p2 (by omega)
            refine ⟨q1, fun e he => ?_⟩
            obtain ⟨a, b, c⟩ := q2 e he
            exact ⟨a, Nat.lt_of_lt_of_le b (by omega), c.trans p4⟩
        · -- the top iterator is exhausted
          rename_i hitems
          have hst1 : ItemsOk snap { st with iters := below, openDesc := (if top.cached then st.openDesc else st.openDesc - 1) } := by
            intro it hit y hy
            exact hst it (by rw [hiters]; exact List.mem_cons_of_mem _ hit) y hy
          have hG1 : G0 snap { st with iters := below, openDesc := (if top.cached then st.openDesc else st.openDesc - 1) } + 1 ≤ G0 snap st := by
            simp only [G0, hiters, List.map_cons, List.sum_cons, itCost]
            omega
          obtain ⟨q1, q2⟩ := ih _ w hst1 (by omega)
          refine ⟨q1, fun e he => ?_⟩
          obtain ⟨a, b, c⟩ := q2 e he
          exact ⟨a, Nat.lt_of_lt_of_le b (by omega), c⟩

/-! ### `nextE` and `runIter` -/

/-- potential including the not-yet-processed root -/
def G (snap : Snap) (rootE : Entry) (st : ISt) : Nat :=
  (if st.started then 0 else B snap rootE + 1) + G0 snap st

structure TInv (snap : Snap) (st : ISt) : Prop where
  items : ItemsOk snap st
  fresh : st.started = false → st.iters = [] ∧ st.deferred = []

theorem nextE_spec {σ} {snap : Snap} (wf : SnapWF snap) {o : Opts} (hfo : o.follow = false)
    (preOp : Entry → σ → Outcome Unit × σ) (hpre : ∀ e w, (preOp e w).1 ≠ .hang) (rootE : Entry)
    (f : Nat) (st : ISt) (w : σ) (inv : TInv snap st) (hG : G snap rootE st < f) :
    (nextE snap o preOp rootE f st w).1 ≠ some .hang ∧
    ∀ e, (nextE snap o preOp rootE f st w).1 = some (.ok e) →
      TInv snap (nextE snap o preOp rootE f st w).2.1 ∧
      G snap rootE (nextE snap o preOp rootE f st w).2.1 < G snap rootE st := by
  unfold nextE
  cases hs : st.started with
  | true =>
    simp only [Bool.not_true, Bool.false_eq_true, if_false]
    have hG' : G snap rootE st = G0 snap st := by unfold G; rw [hs]; simp
    obtain ⟨q1, q2⟩ := nextLoop_spec wf hfo preOp hpre f st w inv.items (by omega)
    refine ⟨q1, fun e he => ?_⟩
    obtain ⟨a, b, c⟩ := q2 e he
    have c' : (nextLoop snap o preOp f st w).2.1.started = true := c.trans hs
    refine ⟨⟨a, fun h => by rw [c'] at h; cases h⟩, ?_⟩
    unfold G
    rw [c', hs]
    simp only [if_true, Nat.zero_add]
    exact b
  | false =>
    simp only [Bool.not_false, if_true]
    obtain ⟨hi, hd⟩ := inv.fresh hs
    have hG' : G snap rootE st = B snap rootE + 1 := by
      unfold G G0; rw [hs, hi, hd]; simp
    have hst0 : ItemsOk snap { st with started := true } := by
      intro it hit; rw [hi] at hit; cases hit
    have hG0 : G0 snap { st with started := true } = 0 := by
      unfold G0; simp only [hi, hd]; rfl
    rw [hfo, doFollow_false]
    obtain ⟨p1, p2, p3, p4⟩ := process_spec wf hfo preOp hpre _ rootE w hst0
    generalize process snap o preOp { st with started := true } rootE w = pr at p1 p2 p3 p4 ⊢
    obtain ⟨r, st2, w2⟩ := pr
    simp only at p1 p2 p3 p4
    have hGst2 : G snap rootE st2 = G0 snap st2 := by unfold G; rw [p4]; simp
    cases r with
    | some r =>
      refine ⟨p1, fun e _ => ⟨⟨p2, fun h => ?_⟩, ?_⟩⟩
      · have : st2.started = false := h
        rw [p4] at this; cases this
      · show G snap rootE st2 < _
        omega
    | none =>
      obtain ⟨q1, q2⟩ := nextLoop_spec wf hfo preOp hpre f st2 w2 p2 (by omega)
      refine ⟨q1, fun e he => ?_⟩
      obtain ⟨a, b, c⟩ := q2 e he
      have c' : (nextLoop snap o preOp f st2 w2).2.1.started = true := c.trans p4
      refine ⟨⟨a, fun h => ?_⟩, ?_⟩
      · have h' : (nextLoop snap o preOp f st2 w2).2.1.started = false := h
        rw [c'] at h'; cases h'
      · show G snap rootE (nextLoop snap o preOp f st2 w2).2.1 < _
        have : G snap rootE (nextLoop snap o preOp f st2 w2).2.1 =
            G0 snap (nextLoop snap o preOp f st2 w2).2.1 := by unfold G; rw [c']; simp
        have b' : G0 snap (nextLoop snap o preOp f st2 w2).2.1 < G0 snap st2 := b
        omega

theorem runIter_no_hang {σ} {snap : Snap} (wf : SnapWF snap) {o : Opts} (hfo : o.follow = false)
    (preOp : Entry → σ → Outcome Unit × σ) (hpre : ∀ e w, (preOp e w).1 ≠ .hang) (rootE : Entry)
    (step : Entry → σ → Outcome Unit × σ) (hstep : ∀ e w, (step e w).1 ≠ .hang) :
    ∀ (f : Nat) (st : ISt) (w : σ), TInv snap st → G snap rootE st < f →
      (runIter snap o preOp rootE step f st w).1 ≠ .hang := by
  intro f
  induction f with
  | zero => intro st w _ h; omega
  | succ f ih =>
    intro st w inv hG
    obtain ⟨q1, q2⟩ := nextE_spec wf hfo preOp hpre rootE (f + 1) st w inv hG
    rw [runIter]
    generalize nextE snap o preOp rootE (f + 1) st w = nx at q1 q2 ⊢
    obtain ⟨r, st', w'⟩ := nx
    simp only at q1 q2
    split
    · simp
    · rename_i e st'' w'' heq
      cases heq
      obtain ⟨inv', hlt⟩ := q2 e rfl
      have hs := hstep e w'
      split
      · exact ih _ _ inv' (by omega)
      · rename_i r hr; exact hs
    · simp
    · simp
    · rename_i heq; cases heq; exact absurd rfl q1

/-! ### the snapshot -/

theorem cloneLoop_fine (ents : Ents) (f : Nat) (W : List FsPath) (acc : Snap) :
    Fine (cloneLoop ents f W acc) := by
  induction f generalizing W acc with
  | zero => unfold cloneLoop; exact Outcome.total_ok _
  | succ f ih =>
    cases W with
    | nil => unfold cloneLoop; exact Outcome.total_ok _
    | cons p W =>
      unfold cloneLoop
      split
      · exact Outcome.total_err _
      · exact ih _ _

theorem cloneLoop_wf {ents : Ents}
    (hents : ∀ k e, (k, e) ∈ ents → e.path = k ∧ (names e).Nodup) :
    ∀ (f : Nat) (W : List FsPath) (acc snap : Snap),
      (∀ k e, (k, e) ∈ acc → e.path = k ∧ (names e).Nodup) →
      cloneLoop ents f W acc = .ok snap → SnapWF snap := by
  intro f
  induction f with
  | zero =>
    intro W acc snap hacc h
    unfold cloneLoop at h
    cases h
    exact ⟨fun k e hm => (hacc k e hm).1, fun k e hm => (hacc k e hm).2⟩
  | succ f ih =>
    intro W acc snap hacc h
    cases W with
    | nil =>
      unfold cloneLoop at h
      cases h
      exact ⟨fun k e hm => (hacc k e hm).1, fun k e hm => (hacc k e hm).2⟩
    | cons p W =>
      unfold cloneLoop at h
      split at h
      · cases h
      · rename_i e he
        refine ih _ _ snap ?_ h
        intro k e' hm
        rcases mem_alInsert hm with heq | hm
        · cases heq
          have := hents p e (alLookup_mem he)
          exact ⟨rfl, this.2⟩
        · exact hacc k e' hm

theorem entriesOf_fine (s : State) (abs : FsPath) : Fine (entriesOf s abs) := by
  unfold entriesOf
  cases alLookup abs s.entries with
  | none => exact Outcome.total_err _
  | some e =>
    simp only
    unfold cloneEntries
    rcases Outcome.Total.cases (cloneLoop_fine s.entries
      (4 * (s.entries.length + 1) * (s.entries.length + 1)) [abs] []) with ⟨snap, h⟩ | ⟨k, h⟩
    · rw [h]; exact Outcome.total_ok _
    · rw [h]; exact Outcome.total_err _

theorem entriesOf_wf {s : State} (hf : InvFacts s) {abs : FsPath} {rootE : Entry} {snap : Snap}
    (h : entriesOf s abs = .ok (rootE, snap)) : SnapWF snap := by
  unfold entriesOf at h
  split at h
  · cases h
  · unfold cloneEntries at h
    split at h
    · rename_i hc
      cases h
      exact cloneLoop_wf (fun k e hm => ⟨hf.pathField k e hm, hf.namesNodup k e hm⟩) _ _ _ _
        (fun k e hm => by cases hm) hc
    all_goals cases h

theorem G_init_lt (snap : Snap) (rootE : Entry) : G snap rootE {} < travFuel snap := by
  unfold G G0 B cst cnt travFuel
  have := List.countP_le_length (p := fun kv : FsPath × Entry => decide (rootE.path <+: kv.1)) (l := snap)
  simp only [Bool.false_eq_true, if_false, List.map_nil, List.sum_nil, List.length_nil]
  have h2 : (snap.length + 2) ≤ 64 * (snap.length + 2) * (snap.length + 2) := by
    have : 1 ≤ 64 * (snap.length + 2) := by omega
    calc snap.length + 2 = 1 * (snap.length + 2) := by omega
      _ ≤ 64 * (snap.length + 2) * (snap.length + 2) := Nat.mul_le_mul_right _ this
  have h3 : 64 * (snap.length + 2) ≤ 64 * (snap.length + 2) * (snap.length + 2) := by
    calc 64 * (snap.length + 2) = 64 * (snap.length + 2) * 1 := by omega
      _ ≤ 64 * (snap.length + 2) * (snap.length + 2) := Nat.mul_le_mul_left _ (by omega)
  omega

theorem TInv_init (snap : Snap) : TInv snap {} :=
  ⟨fun it hit => (by cases hit), fun _ => ⟨rfl, rfl⟩⟩

theorem runIter_init_no_hang {σ} {snap : Snap} (wf : SnapWF snap) {o : Opts} (hfo : o.follow = false)
    (preOp : Entry → σ → Outcome Unit × σ) (hpre : ∀ e w, (preOp e w).1 ≠ .hang) (rootE : Entry)
    (step : Entry → σ → Outcome Unit × σ) (hstep : ∀ e w, (step e w).1 ≠ .hang) (w : σ) :
    (runIter snap o preOp rootE step (travFuel snap) {} w).1 ≠ .hang :=
  runIter_no_hang wf hfo preOp hpre rootE step hstep _ _ w (TInv_init snap) (G_init_lt snap rootE)

/-! ### the traversal never panics -/

theorem process_np {σ} (snap : Snap) (o : Opts) (preOp : Entry → σ → Outcome Unit × σ)
    (hpre : ∀ e w, (preOp e w).1 ≠ .panic) (st : ISt) (e : Entry) (w : σ) :
    (process snap o preOp st e w).1 ≠ some .panic := by
  rw [process_eq]
  have hd : (descendP snap o preOp st e w).1 ≠ some .panic := by
    have hmk := mkIter_fine snap o e.path
    have hp := hpre e w
    unfold descendP
    repeat' split
    all_goals first
      | (simp; done)
      | (rename_i h; rw [h] at hmk; exact absurd rfl hmk.1)
      | (rename_i h; rw [h] at hp; exact absurd rfl hp)
  generalize descendP snap o preOp st e w = d at hd
  obtain ⟨r, st', w'⟩ := d
  cases r with
  | some r => simpa [finishP] using hd
  | none =>
    simp only [finishP]
    repeat' split
    all_goals simp

theorem nextLoop_np {σ} (snap : Snap) (o : Opts) (preOp : Entry → σ → Outcome Unit × σ)
    (hpre : ∀ e w, (preOp e w).1 ≠ .panic) :
    ∀ (f : Nat) (st : ISt) (w : σ), (nextLoop snap o preOp f st w).1 ≠ some .panic := by
  intro f
  induction f with
  | zero => intro st w; simp [nextLoop]
  | succ f ih =>
    intro st w
    rw [nextLoop]
    split
    · repeat' split
      all_goals simp
    · split
      · repeat' split
        all_goals simp
      · split
        · dsimp only
          have hp := process_np snap o preOp hpre
          split
          · rename_i r st2 w2 heq
            have := congrArg (·.1) heq
            simp only at this
            show some r ≠ some .panic
            rw [← this]
            exact hp _ _ _
          · exact ih _ _
        · exact ih _ _

theorem nextE_np {σ} (snap : Snap) (o : Opts) (preOp : Entry → σ → Outcome Unit × σ)
    (hpre : ∀ e w, (preOp e w).1 ≠ .panic) (rootE : Entry) (f : Nat) (st : ISt) (w : σ) :
    (nextE snap o preOp rootE f st w).1 ≠ some .panic := by
  unfold nextE
  split
  · split
    · rename_i r st2 w2 heq
      have := process_np snap o preOp hpre { st with started := true } (rootE.doFollow o.follow) w
      rw [heq] at this
      exact this
    · exact nextLoop_np snap o preOp hpre _ _ _
  · exact nextLoop_np snap o preOp hpre _ _ _

theorem runIter_np {σ} (snap : Snap) (o : Opts) (preOp : Entry → σ → Outcome Unit × σ)
    (hpre : ∀ e w, (preOp e w).1 ≠ .panic) (rootE : Entry)
    (step : Entry → σ → Outcome Unit × σ) (hstep : ∀ e w, (step e w).1 ≠ .panic) :
    ∀ (f : Nat) (st : ISt) (w : σ), (runIter snap o preOp rootE step f st w).1 ≠ .panic := by
  intro f
  induction f with
  | zero => intro st w; simp [runIter]
  | succ f ih =>
    intro st w
    rw [runIter]
    have hn := nextE_np snap o preOp hpre rootE (f + 1) st w
    split
    · simp
    · split
      · exact ih _ _
      · exact hstep _ _
    · simp
    · rename_i heq; rw [heq] at hn; exact absurd rfl hn
    · simp

theorem runIter_init_fine {hg : Prop} {σ} (snap : Snap) (o : Opts)
    (preOp : Entry → σ → Outcome Unit × σ) (hpre : ∀ e w, Fine (preOp e w).1) (rootE : Entry)
    (step : Entry → σ → Outcome Unit × σ) (hstep : ∀ e w, Fine (step e w).1)
    (h : ¬ hg → SnapWF snap ∧ o.follow = false) (w : σ) :
    (runIter snap o preOp rootE step (travFuel snap) {} w).1 ≠ .panic ∧
    (¬ hg → (runIter snap o preOp rootE step (travFuel snap) {} w).1 ≠ .hang) :=
  ⟨runIter_np snap o preOp (fun e w => (hpre e w).1) rootE step (fun e w => (hstep e w).1) _ _ _,
   fun hn => runIter_init_no_hang (h hn).1 (h hn).2 preOp (fun e w => (hpre e w).2) rootE step
    (fun e w => (hstep e w).2) w⟩

theorem wpAllow_runIter {hg : Prop} (snap : Snap) (o : Opts)
    (preOp : Entry → State → Outcome Unit × State) (hpre : ∀ e w, Fine (preOp e w).1) (rootE : Entry)
    (step : Entry → State → Outcome Unit × State) (hstep : ∀ e w, Fine (step e w).1)
    (h : ¬ hg → SnapWF snap ∧ o.follow = false) (s : State) :
    wpAllow False hg (fun st => runIter snap o preOp rootE step (travFuel snap) {} st) s
      (fun _ _ => True) :=
  have := runIter_init_fine snap o preOp hpre rootE step hstep h s
  wpAllow_top this.1 this.2

/-! ### the operations -/

theorem follow_ite {c : Prop} [Decidable c] {a b : Opts} {x : Bool} (ha : a.follow = x)
    (hb : b.follow = x) : (if c then a else b).follow = x := by
  split
  · exact ha
  · exact hb

/-- only the stages after the one that sets `follow` matter -/
theorem travOpts_follow (r : TravReq) : r.opts.follow = r.follow := by
  unfold TravReq.opts
  cases r.maxDesc <;> exact follow_ite rfl (follow_ite rfl (follow_ite rfl rfl))

/-- the common beginning of the traversing operations: resolve the path, take the snapshot -/
theorem wpAllow_snapshot {hg : Prop} {α} {env : Env} {path : Str} {s : State}
    {k : Entry × Snap → M α} {Q : α → State → Prop}
    (h : ∀ p rootE snap, entriesOf s p = .ok (rootE, snap) → wpAllow False hg (k (rootE, snap)) s Q) :
    wpAllow False hg (absM env path >>= fun p => get >>= fun s' => liftO (entriesOf s' p) >>= k) s Q :=
  wpAllow_bind.2 (wpAllow_absM fun p _ => wpAllow_bind.2 (wpAllow_get.2 (wpAllow_bind.2
    ((wpAllow_liftO (entriesOf_fine s p)).2 fun ⟨rootE, snap⟩ heq => h p rootE snap heq))))

theorem travM_runs {hg : Prop} (env : Env) (p : Str) (r : TravReq) (s : State)
    (h : ¬ hg → Spec.Inv s ∧ r.follow = false) :
    wpAllow False hg (travM env p r) s (fun _ _ => True) := by
  unfold travM
  refine wpAllow_snapshot fun k rootE snap heq => ?_
  have hrun := runIter_init_fine (hg := hg) snap r.opts (noPre (σ := List FsPath))
    (fun _ _ => Outcome.total_ok _) rootE (fun e acc => (.ok (), e.path :: acc)) (fun _ _ => Outcome.total_ok _)
    (fun hn => ⟨entriesOf_wf (inv_facts (h hn).1) heq, (travOpts_follow r).trans (h hn).2⟩) []
  dsimp only
  split
  · trivial
  · trivial
  · rename_i hp; rw [hp] at hrun; exact absurd rfl hrun.1
  · rename_i hh; rw [hh] at hrun
    exact Classical.byContradiction fun hn => hrun.2 hn rfl

theorem collectEntries_fine {hg : Prop} (snap : Snap) (o : Opts) (rootE : Entry)
    (h : ¬ hg → SnapWF snap ∧ o.follow = false) :
    collectEntries snap o rootE ≠ .panic ∧ (¬ hg → collectEntries snap o rootE ≠ .hang) := by
  unfold collectEntries
  have hrun := runIter_init_fine snap o (noPre (σ := List Entry)) (fun _ _ => Outcome.total_ok _) rootE
    (fun e acc => (.ok (), e :: acc)) (fun _ _ => Outcome.total_ok _) h []
  split
  · exact ⟨by simp, fun _ => by simp⟩
  · exact ⟨by simp, fun _ => by simp⟩
  · rename_i hp; rw [hp] at hrun; exact absurd rfl hrun.1
  · rename_i hh; rw [hh] at hrun; exact ⟨by simp, fun hn => absurd rfl (hrun.2 hn)⟩

theorem listing_runs {hg : Prop} (env : Env) (path : Str) (maxDepth : Option Nat) (dirs files : Bool)
    (s : State) (h : ¬ hg → Spec.Inv s) :
    wpAllow False hg (listing env path maxDepth dirs files) s (fun _ _ => True) := by
  unfold listing
  refine wpAllow_bind.2 (wpAllow_get.2 (wpAllow_ite (fun _ => trivial) fun _ => ?_))
  refine wpAllow_bind.2 (wpAllow_absM fun k _ => wpAllow_bind.2 ?_)
  refine (wpAllow_liftO (entriesOf_fine s k)).2 fun ⟨rootE, snap⟩ heq => wpAllow_bind.2 ?_
  have hc := fun o => collectEntries_fine (hg := hg) snap o rootE
  refine wpAllow_liftO_of (hc _ ?_).1 (hc _ ?_).2 fun _ _ => trivial
  all_goals exact fun hn => ⟨entriesOf_wf (inv_facts (h hn)) heq, by cases maxDepth <;> rfl⟩

/-! ### chmod / chown / copy -/

theorem symLoop_fine (k : Chmod.EKind) (f mode : Nat) (cs : List Char) :
    Fine (Chmod.symLoop k f mode cs) := by
  induction f generalizing mode cs with
  | zero => unfold Chmod.symLoop; exact Outcome.total_ok _
  | succ f ih =>
    by_cases hcs : cs = []
    · subst hcs; unfold Chmod.symLoop; exact Outcome.total_ok _
    · rcases symLoop_succ_cases k f mode cs hcs with ⟨e, he⟩ | he |
        ⟨_, _, _, _, _, _, _, _, _, _, _, _, he⟩ | ⟨_, he⟩
      · rw [he]; exact Outcome.total_err _
      · rw [he]; exact Outcome.total_ok _
      · rw [he]; exact ih _ _
      · rw [he]; exact ih _ _

theorem chmodMode_fine (k : Chmod.EKind) (cur octal : Nat) (sym : List Char) :
    Fine (Chmod.mode k cur octal sym) := by
  unfold Chmod.mode
  split
  · exact Outcome.total_ok _
  · split
    · exact Outcome.total_ok _
    · exact symLoop_fine _ _ _ _

theorem chmodM_runs {hg : Prop} (env : Env) (path : Str) (c : ChmodOpts) (s : State)
    (h : ¬ hg → Spec.Inv s ∧ c.follow = false) :
    wpAllow False hg (chmodM env path c) s (fun _ _ => True) := by
  unfold chmodM
  refine wpAllow_snapshot fun k rootE snap heq => wpAllow_runIter snap _ _ ?_ rootE _ ?_
    (fun hn => ⟨entriesOf_wf (inv_facts (h hn).1) heq, (h hn).2⟩) s
  · intro e w
    rcases Outcome.Total.cases (chmodMode_fine (ekind e) e.mode c.dirs c.sym) with ⟨a, hm⟩ | ⟨kk, hm⟩
    · simp only [hm]
      repeat' split
      all_goals exact Outcome.total_ok _
    · simp only [hm]
      exact Outcome.total_err _
  · intro e w
    have hm : Fine (if e.dir = true then Chmod.mode (ekind e) e.mode c.dirs c.sym
        else if e.file = true then Chmod.mode (ekind e) e.mode c.files c.sym else .ok 0) := by
      split
      · exact chmodMode_fine _ _ _ _
      · split
        · exact chmodMode_fine _ _ _ _
        · exact Outcome.total_ok _
    dsimp only
    rcases Outcome.Total.cases hm with ⟨a, hm⟩ | ⟨kk, hm⟩
    · simp only [hm]
      repeat' split
      all_goals exact Outcome.total_ok _
    · simp only [hm]
      exact Outcome.total_err _

theorem chownM_runs {hg : Prop} (env : Env) (path : Str) (c : ChownOpts) (s : State)
    (h : ¬ hg → Spec.Inv s ∧ c.follow = false) :
    wpAllow False hg (chownM env path c) s (fun _ _ => True) := by
  unfold chownM
  refine wpAllow_snapshot fun k rootE snap heq => wpAllow_runIter snap _ _
    (fun _ _ => fine_iff_total.2 (Outcome.total_ok _))
    rootE _ ?_ (fun hn => ⟨entriesOf_wf (inv_facts (h hn).1) heq, (h hn).2⟩) s
  intro e w
  split <;> exact Outcome.total_ok _

theorem Safe.symlinkAbs (l t : FsPath) : Safe (symlinkAbs l t) :=
  .bind (.getEntry _) fun _ => .ite (fun _ => .fail _) fun _ => .bind (.dirOf _) fun _ =>
    .bind (.getEntry _) fun _ => .bind (.add _) fun _ => .pure _

theorem copyM_runs {hg : Prop} (env : Env) (src dst : Str) (c : CopyOpts) (s : State)
    (h : ¬ hg → Spec.Inv s ∧ c.follow = false) :
    wpAllow False hg (copyM env src dst c) s (fun _ _ => True) := by
  unfold copyM
  refine wpAllow_bind.2 (wpAllow_absM fun sk _ => wpAllow_bind.2 (wpAllow_absM fun dk _ => ?_))
  refine wpAllow_ite (fun _ => trivial) fun _ => wpAllow_bind.2 (wpAllow_get.2 ?_)
  cases alLookup sk s.entries with
  | none => trivial
  | some rootE0 =>
    refine wpAllow_bind.2 (wpAllow_pure.2 (wpAllow_bind.2 ?_))
    refine (wpAllow_liftO (entriesOf_fine s _)).2 fun ⟨rootE, snap⟩ heq => ?_
    refine wpAllow_runIter snap _ _ (fun _ _ => fine_iff_total.2 (Outcome.total_ok _)) rootE _
      (fun e w => ?_)
      (fun hn => ⟨entriesOf_wf (inv_facts (h hn).1) heq, (h hn).2⟩) s
    extract_lets main body
    refine Safe.out (m := body) ?_ w
    have hmain : ∀ pre, Safe (main pre) := by
      refine fun pre => .ite (fun _ => .bind (.symlinkAbs _ _) fun _ => .pure _) fun _ =>
        .bind (.getEntry _) fun srcE => ?_
      extract_lets copyOne
      have hcopyOne : ∀ srcE, Safe (copyOne srcE) := by
        refine fun srcE => .ite (fun _ => .mkdirM _ _) fun _ => .bind (.dirOf _) fun dd =>
          .bind (.getEntry _) fun pe => ?_
        extract_lets dstE copyData checkFile addEntry mkParent
        have hcopyData : ∀ u, Safe (copyData u) := by
          refine fun _ => .bind (.getFile _) fun b => ?_
          cases b with
          | none => exact .fail _
          | some b => exact .setFile _ _
        have hcheckFile : ∀ u, Safe (checkFile u) := fun _ =>
          .ite (fun _ => .bind (.fail _) hcopyData) fun _ => hcopyData ()
        have haddEntry : ∀ u, Safe (addEntry u) := fun _ =>
          .bind (.add _) fun _ => .ite (fun _ => .bind (.getFile _) fun _ =>
            .ite (fun _ => .bind (.fail _) hcheckFile) fun _ => hcheckFile ()) fun _ => .pure _
        have hmkParent : ∀ pm, Safe (mkParent pm) := fun _ => .bind (.mkdirM _ _) haddEntry
        refine .ite (fun _ => ?_) fun _ => haddEntry ()
        split
        · exact .bind (.pure _) hmkParent
        · refine .bind (.dirOf _) fun _ => .bind (.getEntry _) fun x => ?_
          cases x with
          | none => exact .bind (.fail _) hmkParent
          | some x => exact .bind (.pure _) hmkParent
      cases srcE with
      | none => exact .bind (.fail _) hcopyOne
      | some x => exact .bind (.pure _) hcopyOne
    exact .ite (fun _ => .bind (.dirOf _) hmain) fun _ => .bind (.pure _) hmain

end Rivia.Lemmas
