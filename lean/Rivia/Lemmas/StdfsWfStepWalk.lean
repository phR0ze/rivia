/-
  Rivia.Lemmas.StdfsWfStepWalk — the traversals of the Stdfs model (`_chmod`, `_chown`, `_copy`) keep the
  tree well-formed, and with them EVERY operation: `stdfs_step_wf`.
-/
import Rivia.Lemmas.StdfsWfStepOps

namespace Rivia.Lemmas.StdfsWf
open Rivia Rivia.Memfs Rivia.File Rivia.Spec Rivia.Spec.TreeFs Rivia.Posix Rivia.Stdfs
open Rivia.Lemmas.StdfsL
open Rivia.Stdfs.SM

theorem wf_foldl {β} (step : Outcome Unit × T → β → Outcome Unit × T)
    (hs : ∀ acc b, StdfsL.Wf acc.2 → StdfsL.Wf (step acc b).2) :
    ∀ (l : List β) (acc : Outcome Unit × T), StdfsL.Wf acc.2 → StdfsL.Wf (l.foldl step acc).2
  | [], _, h => h
  | b :: l, acc, h => wf_foldl step hs l _ (hs acc b h)

/-! ### `_chmod` -/

instance (k : FsPath) (m : Nat) : Pres (fun t => setPerm t k m) := by
  refine ⟨fun t hw => ?_⟩
  unfold setPerm
  split
  · rename_i t' e; exact wf_of_facts (wf_chmod (wf_facts hw) e)
  · exact hw

instance (c : ChmodOpts) (x : SEntry) : Pres (chmodPre c x) := by
  refine ⟨fun t hw => ?_⟩
  unfold chmodPre
  split
  · split
    · exact Pres.out (m := fun t => setPerm t _ _) t hw
    · exact hw
  all_goals exact hw

instance (c : ChmodOpts) (x : SEntry) : Pres (chmodPost c x) := by
  refine ⟨fun t hw => ?_⟩
  unfold chmodPost
  dsimp only
  split
  · split
    · exact Pres.out (m := fun t => setPerm t _ _) t hw
    · exact hw
  all_goals exact hw

theorem pres_chmodVisit (env : Env) (c : ChmodOpts) (md : Option Nat) :
    ∀ (f depth : Nat) (e : SEntry), Pres (chmodVisit env c md f depth e)
  | 0, _, _ => pres_same fun _ => rfl
  | f + 1, depth, e => by
    refine ⟨fun t hw => ?_⟩
    simp only [chmodVisit]
    split
    · have h1 := Pres.out (m := chmodPre c e) t hw
      split
      · rename_i t1 heq
        rw [heq] at h1
        split
        · rename_i kids _
          have h2 := wf_foldl (visitStep (chmodVisit env c md f (depth + 1)))
            (fun acc k h => by
              unfold visitStep
              split
              · exact (pres_chmodVisit env c md f (depth + 1) k).out _ h
              · exact h)
            (sortByName (kids.filter (·.dir)) ++ sortByName (kids.filter (fun x => !x.dir))) (.ok (), t1) h1
          split
          · rename_i t2 heq2
            rw [heq2] at h2
            exact Pres.out (m := chmodPost c e) _ h2
          · exact h2
        all_goals exact h1
      · exact h1
    · exact Pres.out (m := chmodPost c e) t hw

instance (env : Env) (p : Str) (c : ChmodOpts) : Pres (Stdfs.chmod env p c) := by
  refine ⟨fun t hw => ?_⟩
  unfold Stdfs.chmod
  split
  · exact hw
  · split
    · split
      · exact (pres_chmodVisit ..).out t hw
      all_goals exact hw
    all_goals exact hw

/-! ### `_chown` -/

theorem pres_walkPre (env : Env) (stepf : SEntry → SM Unit) [hs : ∀ x, Pres (stepf x)] (md : Option Nat) :
    ∀ (f depth : Nat) (e : SEntry), Pres (walkPre env stepf md f depth e)
  | 0, _, _ => pres_same fun _ => rfl
  | f + 1, depth, e => by
    refine ⟨fun t hw => ?_⟩
    simp only [walkPre]
    split
    · split
      · exact hw
      · have h1 := (hs e).out t hw
        split
        · rename_i t1 heq
          rw [heq] at h1
          refine wf_foldl _ (fun acc n h => ?_) _ _ h1
          unfold walkStep
          split
          · split
            · exact (pres_walkPre env stepf md f (depth + 1) _).out _ h
            all_goals exact h
          · exact h
        · exact h1
    · exact (hs e).out t hw

instance (env : Env) (p : Str) (c : ChownOpts) : Pres (Stdfs.chown env p c) := by
  refine ⟨fun t hw => ?_⟩
  unfold Stdfs.chown
  split
  · exact hw
  · split
    · split
      · exact (pres_walkPre ..).out t hw
      all_goals exact hw
    all_goals exact hw

/-! ### `_copy` -/

instance (env : Env) (srcRoot dstRoot : FsPath) (copyInto : Bool) (dm fm : Option Nat) (src : SEntry) :
    Pres (Stdfs.copyStep env srcRoot dstRoot copyInto dm fm src) := by
  unfold Stdfs.copyStep
  pres_auto

instance (env : Env) (a b : Str) (c : CopyOpts) : Pres (Stdfs.copy env a b c) := by
  unfold Stdfs.copy
  pres_auto

/-! ### every operation -/

/-- **one step of the Stdfs model keeps the tree well-formed** — every operation, every argument, no
    domain hypothesis -/
theorem stdfs_step_wf (env : Env) (t : T) (op : Op) (hw : StdfsL.Wf t) : StdfsL.Wf (Stdfs.step env t op).2 := by
  cases op <;> first | exact Pres.out _ hw | exact hw

theorem stdfs_run_wf (env : Env) : ∀ (ops : List Op) (t : T), StdfsL.Wf t → StdfsL.Wf (Stdfs.run env t ops)
  | [], _, h => h
  | op :: ops, t, h => stdfs_run_wf env ops _ (stdfs_step_wf env t op h)

end Rivia.Lemmas.StdfsWf
