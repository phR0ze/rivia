/-
  Rivia.Lemmas.AbsMemfs — every Memfs operation reads its path arguments through `absM`;
  consequently a call with any spelling `raw` of a path behaves like the call with `abs raw`.
-/
import Rivia.Lemmas.MemfsBase
import Rivia.Lemmas.Abs

namespace Rivia.Lemmas
open Rivia Rivia.Str Rivia.Spec Rivia.Memfs Rivia.Memfs.M

theorem bind_congr_at {α β} {m1 m2 : M α} (f : α → M β) {st : State} (h : m1 st = m2 st) :
    (m1 >>= f) st = (m2 >>= f) st := by
  show M.bind m1 f st = M.bind m2 f st
  unfold M.bind
  rw [h]

theorem mapVal_congr_at {α} (g : α → Val) {m1 m2 : M α} {st : State} (h : m1 st = m2 st) :
    mapVal g m1 st = mapVal g m2 st := by
  unfold mapVal
  rw [h]

theorem ite_congr_at {β} (c : Prop) [Decidable c] (m : M β) {m1 m2 : M β} {st : State}
    (h : m1 st = m2 st) : (if c then m else m1) st = (if c then m else m2) st := by
  split
  · rfl
  · exact h

theorem get_bind_at {β} (f : State → M β) (st : State) : (M.get >>= f) st = f st st := rfl

/-! ### spellings -/

theorem isRooted_renderP (p : FsPath) : isRooted (renderP p) = true := rfl

/-- the hypotheses of spelling independence at a state: `a` is what `abs raw` returns there, it
    contains no `~` / `$`, and the current directory renders to a clean path -/
structure Spelling (env : Env) (st : State) (raw a : Str) : Prop where
  abs : absWith env (renderP st.cwd) raw = .ok a
  noSpecial : NoSpecial a
  cwdClean : NormalForm (renderP st.cwd)

theorem renderP_normalForm {p : FsPath} (h : ∀ n ∈ p, Wf n) : NormalForm (renderP p) := by
  rw [renderP_eq_bufOf]; exact normalForm_abs h

theorem absM_spelling {env : Env} {st : State} {raw a : Str} (h : Spelling env st raw a) :
    absM env raw st = absM env a st := by
  unfold absM
  rw [h.abs, absWith_idem (isRooted_renderP _) h.cwdClean h.abs h.noSpecial]

/-! ### an operation depends on a path argument only through `absM`

  `e` says that two spellings resolve alike at `st`; every reader of a path then behaves alike. -/

section
variable {env : Env} {st : State} {raw a : Str} (e : absM env raw st = absM env a st)
include e

theorem writeLinesM_congr (ls : List Str) : writeLinesM env raw ls st = writeLinesM env a ls st := by
  unfold writeLinesM
  cases joinLines ls with
  | none => rfl
  | some b => exact bind_congr_at _ e

theorem appendLinesM_congr (ls : List Str) :
    appendLinesM env raw ls st = appendLinesM env a ls st := by
  unfold appendLinesM
  cases joinLines ls with
  | none => rfl
  | some b => exact bind_congr_at _ e

theorem appendLineM_congr (l : Str) : appendLineM env raw l st = appendLineM env a l st := by
  unfold appendLineM
  split
  · rfl
  · exact bind_congr_at _ e

theorem boolQuery_congr (f : Entry → Bool) : boolQuery env raw f st = boolQuery env a f st := by
  unfold boolQuery
  rw [e]

theorem entryQuery_congr {α} (f : Entry → α) : entryQuery env raw f st = entryQuery env a f st :=
  bind_congr_at _ e

theorem listing_congr (md : Option Nat) (d f : Bool) :
    listing env raw md d f st = listing env a md d f st := by
  unfold listing
  rw [get_bind_at, get_bind_at]
  simp only
  rw [e]
  exact ite_congr_at _ _ (bind_congr_at _ e)

end

/-- two path arguments: `absM` leaves the state alone, so the second is resolved at `st` too -/
theorem bind2_congr_at {β} {env : Env} {st : State} {r1 a1 r2 a2 : Str}
    (e1 : absM env r1 st = absM env a1 st) (e2 : absM env r2 st = absM env a2 st)
    (f : FsPath → FsPath → M β) :
    (absM env r1 >>= fun x => absM env r2 >>= f x) st =
      (absM env a1 >>= fun x => absM env a2 >>= f x) st := by
  rw [bind_congr_at _ e1]
  show M.bind (absM env a1) _ st = M.bind (absM env a1) _ st
  unfold M.bind
  have hst := absM_state env a1 st
  cases hm : absM env a1 st with
  | mk o st' =>
    rw [hm] at hst
    simp only at hst
    subst hst
    cases o with
    | ok x => exact bind_congr_at _ e2
    | err k => rfl
    | panic => rfl
    | hang => rfl

end Rivia.Lemmas
