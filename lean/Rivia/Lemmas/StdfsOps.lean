/-
  Rivia.Lemmas.StdfsOps — C02: the simulation lemmas of the queries and reads
  (`Stdfs.step env t op` against `Spec.specStep env t op` on a well-formed tree with disciplined links).
-/
import Rivia.Lemmas.Stdfs

namespace Rivia.Lemmas.StdfsL
open Rivia Rivia.Memfs Rivia.File Rivia.Spec Rivia.Spec.TreeFs Rivia.Posix Rivia.Stdfs
open Rivia.Lemmas.RefineA (TEquiv)
open Rivia.Stdfs.SM

variable {env : Env} {t : T}

/-! ### queries -/

theorem sim_cwd (h : Ctx env t) : Sim (Stdfs.step env t .cwd) (.ok (.path t.cwd), t) := by
  show Sim (match getcwd t with | .ok k => .ok (.path k) | .error e => .err (ioErr e), t) _
  rw [getcwd, if_pos h.cwd]
  exact sim_ok _ (TEquiv.refl _)

theorem sim_root : Sim (Stdfs.step env t .root) (.ok (.path []), t) := sim_ok _ (TEquiv.refl _)

theorem sim_abs (h : Ctx env t) (p : Str) :
    Sim (Stdfs.step env t (.abs p)) (withPath env t p fun a => (.ok (.path a), t)) := by
  show Sim (Stdfs.mapVal .path (Stdfs.absM env p) t) _
  simp only [withPath, Stdfs.mapVal, Stdfs.absM, absK_eq h.cwd]
  cases resolve env t p with
  | ok a => exact sim_ok _ (TEquiv.refl _)
  | err e => exact sim_err _ _ (TEquiv.refl _)
  | panic => exact sim_unspec _ _
  | hang => exact sim_unspec _ _

/-- the `match Stdfs::abs(p) { Ok(k) => F(k), Err(_) => false }` queries -/
theorem sim_boolK (h : Ctx env t) (p : Str) (F G : FsPath → Bool)
    (hFG : ∀ a, resolve env t p = .ok a → F a = G a) :
    Sim ((match absK env t p with
          | .ok k => .ok (.bool (F k)) | .panic => .panic | _ => .ok (.bool false)), t)
        (boolQ env t p G) := by
  unfold boolQ
  rw [absK_eq h.cwd]
  cases hr : resolve env t p with
  | ok a => dsimp only; rw [hFG a hr]; exact sim_ok _ (TEquiv.refl _)
  | err e => exact sim_ok _ (TEquiv.refl _)
  | panic => exact sim_unspec _ _
  | hang => exact sim_unspec _ _

theorem sim_exists (h : Ctx env t) (p : Str) :
    Sim (Stdfs.step env t (.exists p)) (boolQ env t p fun a => (get t a).isSome) :=
  sim_boolK h p (Posix.exists t) _ (fun a _ => exists_eq_isSome h.wf h.links a)

theorem sim_isDir (h : Ctx env t) (p : Str) :
    Sim (Stdfs.step env t (.isDir p)) (boolQ env t p (isDir t)) :=
  sim_boolK h p (isDirK t) _ (fun a _ => isDirK_eq h.wf a)

theorem sim_isFile (h : Ctx env t) (p : Str) :
    Sim (Stdfs.step env t (.isFile p)) (boolQ env t p (isFile t)) :=
  sim_boolK h p (isFileK t) _ (fun a _ => isFileK_eq h.wf a)

/-- `is_exec` / `is_readonly` go through `fs::metadata`, which follows links: they agree with the
    reference on everything that is not a link -/
theorem sim_statBool (h : Ctx env t) (p : Str) (f : Node → Bool)
    (hnl : ∀ a, resolve env t p = .ok a → isLink t a = false) :
    Sim (statBool env t p f, t) (boolQ env t p fun a => match get t a with | some n => f n | none => false) := by
  refine sim_boolK h p _ _ fun a ha => ?_
  obtain ⟨e, he⟩ := stat_eq_of_not_link h.wf (hnl a ha)
  rw [he]
  cases get t a <;> rfl

theorem sim_isExec (h : Ctx env t) (p : Str) (hnl : ∀ a, resolve env t p = .ok a → isLink t a = false) :
    Sim (Stdfs.step env t (.isExec p))
      (boolQ env t p fun a => match get t a with | some n => n.mode &&& 0o111 != 0 | none => false) :=
  sim_statBool h p _ hnl

theorem sim_isReadonly (h : Ctx env t) (p : Str) (hnl : ∀ a, resolve env t p = .ok a → isLink t a = false) :
    Sim (Stdfs.step env t (.isReadonly p))
      (boolQ env t p fun a => match get t a with | some n => n.mode &&& 0o222 == 0 | none => false) :=
  sim_statBool h p _ hnl

/-- the `Stdfs::abs(p)? … fs::…metadata(k)? …` value queries, for a syscall that returns the node at a key -/
theorem sim_nodeK {α} (h : Ctx env t) (p : Str) (sys : T → FsPath → Except Errno Node) (f : Node → α)
    (v : α → Val)
    (hsys : ∀ a, resolve env t p = .ok a →
      ∃ e, sys t a = match get t a with | some n => .ok n | none => .error e) :
    Sim (Stdfs.mapVal v (do let k ← Stdfs.absM env p; let n ← SM.qry (sys · k); return f n) t)
        (nodeQ env t p fun n => v (f n)) := by
  unfold nodeQ
  refine sim_withPath h.cwd p v _ _ fun a ha => ?_
  obtain ⟨e, he⟩ := hsys a ha
  ssimp [he]
  cases get t a with
  | none => exact sim_err _ _ (TEquiv.refl _)
  | some n => exact sim_ok _ (TEquiv.refl _)

theorem sim_mode (h : Ctx env t) (p : Str) :
    Sim (Stdfs.step env t (.mode p)) (nodeQ env t p fun n => .nat n.mode) :=
  sim_nodeK h p lstat (·.mode) .nat fun a _ => ⟨_, lstat_eq h.wf a⟩

theorem sim_uid (h : Ctx env t) (p : Str) (hnl : ∀ a, resolve env t p = .ok a → isLink t a = false) :
    Sim (Stdfs.step env t (.uid p)) (nodeQ env t p fun n => .nat n.uid) :=
  sim_nodeK h p stat (·.uid) .nat fun a ha => stat_eq_of_not_link h.wf (hnl a ha)

theorem sim_gid (h : Ctx env t) (p : Str) (hnl : ∀ a, resolve env t p = .ok a → isLink t a = false) :
    Sim (Stdfs.step env t (.gid p)) (nodeQ env t p fun n => .nat n.gid) :=
  sim_nodeK h p stat (·.gid) .nat fun a ha => stat_eq_of_not_link h.wf (hnl a ha)

theorem sim_owner (h : Ctx env t) (p : Str) (hnl : ∀ a, resolve env t p = .ok a → isLink t a = false) :
    Sim (Stdfs.step env t (.owner p)) (nodeQ env t p fun n => .pair n.uid n.gid) :=
  sim_nodeK h p stat (fun n => (n.uid, n.gid)) (fun x => .pair x.1 x.2) fun a ha =>
    stat_eq_of_not_link h.wf (hnl a ha)

/-! ### `StdfsEntry::from` -/

theorem root_not_link (h : Ctx env t) {n : Node} (hg : get t [] = some n) : n.kind = .dir := by
  obtain ⟨m, hm, hk⟩ := isDir_iff.1 h.wf.root
  rw [hg] at hm; cases hm; exact hk

theorem ne_nil_of_not_dir (h : Ctx env t) {k : FsPath} {n : Node} (hg : get t k = some n)
    (hk : n.kind ≠ .dir) : k ≠ [] := by
  intro h0; subst h0; exact hk (root_not_link h hg)

/-- the recorded text of a link leads `abs` back to its target -/
theorem linkText_lookup (h : Ctx env t) {k : FsPath} {n : Node} {b : Bool} {tg : FsPath}
    (hg : get t k = some n) (hk : n.kind = .link b) (ht : n.target = some tg) :
    ∃ alt, absP env t (if isAbsolute (linkText k tg) then linkText k tg
                else mash (renderP k.dropLast) (linkText k tg)) = .ok alt ∧ toPath alt = tg := by
  have := h.text
  unfold linkTextOkB at this
  rw [List.all_eq_true] at this
  have := this _ (alLookup_mem hg)
  simp only [hk, ht, absK] at this
  split at this
  · rename_i a ha
    split at ha
    · rename_i alt halt; cases ha; exact ⟨alt, halt, of_decide_eq_true this⟩
    all_goals cases ha
  · cases this

theorem entryFrom_err (h : Ctx env t) {p : Str} {e : ErrKind} (hr : resolve env t p = .err e) :
    entryFrom env t p = .err e := by
  unfold entryFrom; rw [absK_eq h.cwd, hr]

theorem entryFrom_missing (h : Ctx env t) {p : Str} {a : FsPath} (ha : resolve env t p = .ok a)
    (hg : get t a = none) : entryFrom env t p = .err .doesNotExist := by
  unfold entryFrom
  rw [absK_eq h.cwd, ha]
  simp only [exists_eq_isSome h.wf h.links, hg, Option.isSome_none, Bool.not_false, if_true]

theorem entryFrom_nonlink (h : Ctx env t) {p : Str} {a : FsPath} {n : Node} (ha : resolve env t p = .ok a)
    (hg : get t a = some n) (hk : isLinkKind n.kind = false) :
    entryFrom env t p = .ok ⟨a, [], n.kind = .dir, n.kind = .file, false, n.mode⟩ := by
  unfold entryFrom
  rw [absK_eq h.cwd, ha]
  simp only [exists_eq_isSome h.wf h.links, hg, Option.isSome_some, Bool.not_true, Bool.false_eq_true,
    if_false, lstat_of_get h.wf hg]
  cases hkk : n.kind with
  | link b => rw [hkk] at hk; cases hk
  | dir => rfl
  | file => rfl

theorem entryFrom_link (h : Ctx env t) {p : Str} {a : FsPath} {n : Node} {b : Bool}
    (ha : resolve env t p = .ok a) (hg : get t a = some n) (hk : n.kind = .link b) :
    ∃ alt m tg, n.target = some tg ∧ toPath alt = tg ∧ get t tg = some m ∧
      entryFrom env t p = .ok ⟨a, alt, b, !b, true, m.mode⟩ := by
  obtain ⟨tg, m, h1, h2, h3, h4⟩ := linksOk_lookup h.links hg hk
  have h5 := stat_link h.wf hg hk h1 h2 h3
  have hne : a ≠ [] := ne_nil_of_not_dir h hg (by rw [hk]; nofun)
  obtain ⟨alt, hp, halt⟩ := linkText_lookup h hg hk h1
  refine ⟨alt, m, tg, h1, halt, h2, ?_⟩
  unfold entryFrom
  rw [absK_eq h.cwd, ha]
  simp only [exists_eq_isSome h.wf h.links, hg, Option.isSome_some, Bool.not_true, Bool.false_eq_true,
    if_false, lstat_of_get h.wf hg, hk, readlink, h1, hne, hp, h5]
  have hfile : decide (m.kind = Kind.file) = !b := by
    rw [h4]
    rcases kind_of_not_link h3 with hm | hm <;> rw [hm] <;> rfl
  rw [hfile, ← h4]

/-- what `StdfsEntry::from` records about the node `n` stored at `k` (as far as traversals care) -/
structure EntryFor (k : FsPath) (n : Node) (e : SEntry) : Prop where
  path : e.path = k
  link : e.link = isLinkKind n.kind
  dir : e.dir = (decide (n.kind = .dir) || decide (n.kind = .link true))
  file : e.file = (decide (n.kind = .file) || decide (n.kind = .link false))

theorem entryFor_nonlink {a : FsPath} {n : Node} (hk : isLinkKind n.kind = false) :
    EntryFor a n ⟨a, [], n.kind = .dir, n.kind = .file, false, n.mode⟩ := by
  refine ⟨rfl, hk.symm, ?_, ?_⟩ <;> cases hkk : n.kind <;> first | rfl | (rw [hkk] at hk; cases hk)

theorem entryFrom_of_get (h : Ctx env t) {p : Str} {a : FsPath} {n : Node} (ha : resolve env t p = .ok a)
    (hg : get t a = some n) : ∃ e, entryFrom env t p = .ok e ∧ EntryFor a n e := by
  cases hk : n.kind with
  | dir => exact ⟨_, entryFrom_nonlink h ha hg (isLinkKind_dir hk), entryFor_nonlink (isLinkKind_dir hk)⟩
  | file => exact ⟨_, entryFrom_nonlink h ha hg (isLinkKind_file hk), entryFor_nonlink (isLinkKind_file hk)⟩
  | link b =>
    obtain ⟨alt, m, tg, _, _, _, he⟩ := entryFrom_link h ha hg hk
    refine ⟨_, he, rfl, by rw [hk]; rfl, ?_, ?_⟩ <;> rw [hk] <;> cases b <;> rfl

/-- the `match StdfsEntry::from(p) { Ok(x) => f(x), _ => false }` queries -/
theorem sim_entryBool (h : Ctx env t) (p : Str) (f : SEntry → Bool) (g : FsPath → Bool)
    (hf : ∀ a n e, get t a = some n → EntryFor a n e → f e = g a)
    (hno : ∀ a, get t a = none → g a = false) :
    Sim (entryBool env t p f, t) (boolQ env t p g) := by
  unfold entryBool boolQ
  cases hr : resolve env t p with
  | ok a =>
    cases hg : get t a with
    | none => rw [entryFrom_missing h hr hg]; dsimp only; rw [hno a hg]; exact sim_ok _ (TEquiv.refl _)
    | some n =>
      obtain ⟨e, he, hef⟩ := entryFrom_of_get h hr hg
      rw [he]; dsimp only; rw [hf a n e hg hef]; exact sim_ok _ (TEquiv.refl _)
  | err e => rw [entryFrom_err h hr]; exact sim_ok _ (TEquiv.refl _)
  | panic => exact sim_unspec _ _
  | hang => exact sim_unspec _ _

theorem sim_isSymlink (h : Ctx env t) (p : Str) :
    Sim (Stdfs.step env t (.isSymlink p)) (boolQ env t p (isLink t)) := by
  refine sim_entryBool h p (·.link) _ ?_ ?_
  · intro a n e hg he; rw [isLink_of_get hg]; exact he.link
  · intro a hg; unfold isLink; rw [hg]

theorem entryFor_link_flags {k : FsPath} {n : Node} {e : SEntry} (he : EntryFor k n e) :
    (e.link && e.dir) = decide (n.kind = .link true) ∧ (e.link && e.file) = decide (n.kind = .link false) := by
  rw [he.link, he.dir, he.file]
  cases n.kind with
  | link b => cases b <;> exact ⟨rfl, rfl⟩
  | dir => exact ⟨rfl, rfl⟩
  | file => exact ⟨rfl, rfl⟩

theorem sim_isSymlinkDir (h : Ctx env t) (p : Str) :
    Sim (Stdfs.step env t (.isSymlinkDir p))
      (boolQ env t p fun a => match get t a with | some n => n.kind = .link true | none => false) :=
  sim_entryBool h p (fun e => e.link && e.dir) _
    (fun a n e hg he => by simp only [hg]; exact (entryFor_link_flags he).1) (fun a hg => by simp only [hg])

theorem sim_isSymlinkFile (h : Ctx env t) (p : Str) :
    Sim (Stdfs.step env t (.isSymlinkFile p))
      (boolQ env t p fun a => match get t a with | some n => n.kind = .link false | none => false) :=
  sim_entryBool h p (fun e => e.link && e.file) _
    (fun a n e hg he => by simp only [hg]; exact (entryFor_link_flags he).2) (fun a hg => by simp only [hg])

/-! ### links -/

theorem sim_readlink (h : Ctx env t) (p : Str) :
    Sim (Stdfs.step env t (.readlink p)) (withPath env t p fun a =>
      match get t a with
      | some n => (match n.kind, n.target with
        | .link _, some tg => (.ok (.str (relative (renderP tg) (renderP a.dropLast))), t)
        | _, _ => (.err none, t))
      | none => (.err none, t)) := by
  refine sim_withPath h.cwd p .str (fun k => qry (readlink · k)) _ fun a _ => ?_
  ssimp [readlink, lstat_eq h.wf]
  cases get t a with
  | none => exact sim_err _ _ (TEquiv.refl _)
  | some n =>
    dsimp only
    cases n.kind with
    | link b =>
      cases n.target with
      | none => exact sim_err _ _ (TEquiv.refl _)
      | some tg => exact sim_ok _ (TEquiv.refl _)
    | dir => exact sim_err _ _ (TEquiv.refl _)
    | file => exact sim_err _ _ (TEquiv.refl _)

theorem sim_readlinkAbs (h : Ctx env t) (p : Str) :
    Sim (Stdfs.step env t (.readlinkAbs p)) (withPath env t p fun a =>
      match get t a with
      | some n => (match n.kind, n.target with
        | .link _, some tg => (.ok (.path tg), t)
        | _, _ => (.err none, t))
      | none => (.err none, t)) := by
  show Sim (Stdfs.readlinkAbs env p t) _
  unfold withPath Stdfs.readlinkAbs
  cases hr : resolve env t p with
  | ok a =>
    dsimp only
    cases hg : get t a with
    | none => rw [entryFrom_missing h hr hg]; exact sim_err _ _ (TEquiv.refl _)
    | some n =>
      dsimp only
      cases hk : n.kind with
      | link b =>
        obtain ⟨alt, m, tg, h1, h2, _, he⟩ := entryFrom_link h hr hg hk
        rw [he, h1, ← h2]; exact sim_ok _ (TEquiv.refl _)
      | dir => rw [entryFrom_nonlink h hr hg (isLinkKind_dir hk)]; exact sim_err _ _ (TEquiv.refl _)
      | file => rw [entryFrom_nonlink h hr hg (isLinkKind_file hk)]; exact sim_err _ _ (TEquiv.refl _)
  | err e => rw [entryFrom_err h hr]; exact sim_err _ _ (TEquiv.refl _)
  | panic => exact sim_unspec _ _
  | hang => exact sim_unspec _ _

/-! ### content -/

theorem readFile_of_file (h : Ctx env t) {a : FsPath} {n : Node} (hg : get t a = some n)
    (hk : n.kind = .file) : readFile t a = .ok n.data := by
  unfold readFile
  rw [stat_nonlink h.wf hg (isLinkKind_file hk)]
  exact if_pos hk

theorem sim_readAll (h : Ctx env t) (p : Str) :
    Sim (Stdfs.step env t (.readAll p)) (withPath env t p fun a =>
      match get t a with
      | none => (.err (some .doesNotExist), t)
      | some n => if n.kind = .file then
          (match decodeUtf8 n.data with | some s => (.ok (.str s), t) | none => (.err none, t))
        else if n.kind = .dir then (.err (some .isNotFile), t) else (.err none, t)) := by
  show Sim (Stdfs.mapVal .str (Stdfs.readAll env p) t) _
  unfold Stdfs.readAll
  refine sim_withPath h.cwd p _ _ _ fun a _ => ?_
  ssimp [lstat_eq h.wf]
  cases hg : get t a with
  | none => exact sim_err _ _ (TEquiv.refl _)
  | some n =>
    by_cases hk : n.kind = .file
    · ssimp [hk, readFile_of_file h hg hk, ne_eq, not_true_eq_false]
      cases decodeUtf8 n.data with
      | some s => exact sim_ok _ (TEquiv.refl _)
      | none => exact sim_err _ _ (TEquiv.refl _)
    · ssimp [hk, ne_eq, not_false_eq_true]
      split <;> exact sim_err _ _ (TEquiv.refl _)

/-- `Stdfs::read` after `abs` -/
def readK (k : FsPath) : SM Bytes := do
  let t ← getT
  if Posix.exists t k then (if !(isFileK t k) then SM.fail .isNotFile else SM.pure ())
  else SM.fail .doesNotExist
  qry (readFile · k)

theorem read_eq (p : Str) : Stdfs.read env p = Stdfs.absM env p >>= readK := rfl

theorem readK_eq (h : Ctx env t) (a : FsPath) :
    readK a t = (match get t a with
      | some n => if n.kind = .file then .ok n.data else .err .isNotFile
      | none => .err .doesNotExist, t) := by
  unfold readK
  ssimp [exists_eq_isSome h.wf h.links, isFileK_eq h.wf]
  cases hg : get t a with
  | none => rfl
  | some n =>
    by_cases hk : n.kind = .file
    · have hf : isFile t a = true := by unfold isFile; rw [hg]; exact decide_eq_true hk
      ssimp [Option.isSome_some, hf, hk, readFile_of_file h hg hk]
    · have hf : isFile t a = false := by unfold isFile; rw [hg]; exact decide_eq_false hk
      ssimp [Option.isSome_some, hf, hk]

theorem sim_read (h : Ctx env t) (p : Str) :
    Sim (Stdfs.step env t (.read p)) (withPath env t p fun a =>
      match get t a with
      | none => (.err (some .doesNotExist), t)
      | some n => if n.kind = .file then (.ok (.bytes n.data), t)
        else if n.kind = .dir then (.err (some .isNotFile), t) else (.err none, t)) := by
  refine sim_withPath h.cwd p .bytes readK _ fun a _ => ?_
  rw [Stdfs.mapVal, readK_eq h]
  cases get t a with
  | none => exact sim_err _ _ (TEquiv.refl _)
  | some n =>
    by_cases hk : n.kind = .file
    · simp only [if_pos hk]; exact sim_ok _ (TEquiv.refl _)
    · simp only [if_neg hk]; split <;> exact sim_err _ _ (TEquiv.refl _)

end Rivia.Lemmas.StdfsL
