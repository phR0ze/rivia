/-
  Rivia.Lemmas.Abs — `absWith` (Memfs::_abs) and `absStdWith` (Stdfs::abs) are the same function,
  and against a clean absolute `cwd` its result is the lexical join `goClean (push cwd x)`.
-/
import Rivia.Model.Path
import Rivia.Spec.GoClean
import Rivia.Spec.PathLaws
import Rivia.Lemmas.PathBasics
import Rivia.Lemmas.Components
import Rivia.Lemmas.Clean
import Rivia.Lemmas.Protocol
import Rivia.Lemmas.Relative
import Rivia.Lemmas.PathLaws
import Rivia.Lemmas.Expand

namespace Rivia.Lemmas
open Rivia Rivia.Str Rivia.Spec

/-! ### the two transcriptions agree -/

theorem absLoopStd_eq (f : Nat) : ∀ curr p : Str, absLoopStd f curr p = absLoop f curr p := by
  induction f with
  | zero => intro curr p; rfl
  | succ f ih =>
    intro curr p
    unfold absLoopStd absLoop
    cases h : (components p).head? with
    | none => rfl
    | some c =>
      cases c with
      | root => rfl
      | normal n => rfl
      | cur => simp only [ih]
      | parent =>
        simp only
        split
        · rfl
        · cases dir curr <;> simp only [ih]

theorem absStdWith_eq (env : Env) (cwd s : Str) : absStdWith env cwd s = absWith env cwd s := by
  unfold absStdWith absWith
  have he : (isEmpty s = true) ↔ s = [] := by simp [isEmpty]
  by_cases hs : s = []
  · rw [if_pos (he.2 hs), if_pos hs]
  · rw [if_neg (fun h => hs (he.1 h)), if_neg hs]
    cases expand env s with
    | ok p =>
      simp only
      cases cleanO (trimProtocol p) with
      | none => rfl
      | some c => simp only [absLoopStd_eq]
    | err k => rfl
    | panic => rfl
    | hang => rfl

/-! ### totality: `abs` never panics or hangs; its error kinds -/

/-- An outcome that is `ok` or `err`. -/
def Outcome.Total {α} (o : Outcome α) : Prop := o ≠ .panic ∧ o ≠ .hang

theorem Outcome.total_ok {α} (a : α) : Outcome.Total (Outcome.ok a) := ⟨nofun, nofun⟩
theorem Outcome.total_err {α} (k : ErrKind) : Outcome.Total (Outcome.err k : Outcome α) :=
  ⟨nofun, nofun⟩

theorem Outcome.Total.cases {α} {o : Outcome α} (h : Outcome.Total o) :
    (∃ a, o = .ok a) ∨ ∃ k, o = .err k := by
  cases o with
  | ok a => exact .inl ⟨a, rfl⟩
  | err k => exact .inr ⟨k, rfl⟩
  | panic => exact absurd rfl h.1
  | hang => exact absurd rfl h.2

theorem expand_total (env : Env) (s : Str) : Outcome.Total (expand env s) := by
  rcases (Expand.expand_out env s).cases with ⟨a, h⟩ | ⟨k, h⟩ <;> rw [h]
  · exact Outcome.total_ok a
  · exact Outcome.total_err k

theorem expand_err_kind {env : Env} {s : Str} {k : ErrKind} (h : expand env s = .err k) :
    k = .multipleHomeSymbols ∨ k = .invalidExpansion ∨ k = .var := by
  have := Expand.expand_out env s
  rwa [h] at this

theorem expand_ne_parentNotFound (env : Env) (s : Str) : expand env s ≠ .err .parentNotFound := by
  intro h
  rcases expand_err_kind h with h | h | h <;> cases h

theorem dir_cases (s : Str) : (∃ d, dir s = .ok d) ∨ dir s = .err .parentNotFound := by
  unfold dir
  cases parentStr s
  · exact Or.inr rfl
  · exact Or.inl ⟨_, rfl⟩

theorem absLoop_cases (f : Nat) : ∀ curr p : Str,
    (∃ a, absLoop f curr p = .ok a) ∨ absLoop f curr p = .err .parentNotFound := by
  induction f with
  | zero => intro curr p; exact Or.inl ⟨curr, rfl⟩
  | succ f ih =>
    intro curr p
    unfold absLoop
    cases (components p).head? with
    | none => exact Or.inl ⟨_, rfl⟩
    | some c =>
      cases c with
      | root => exact Or.inl ⟨_, rfl⟩
      | normal n => exact Or.inl ⟨_, rfl⟩
      | cur => exact ih _ _
      | parent =>
        simp only
        split
        · exact Or.inr rfl
        · rcases dir_cases curr with ⟨d, hd⟩ | hd <;> rw [hd]
          · exact ih _ _
          · exact Or.inr rfl

/-- `abs` after expansion and protocol trimming: clean, then walk the leading `.`/`..` against
    the current directory. -/
def absCore (cwd x : Str) : Outcome Str :=
  if isRooted (goClean x) = true then .ok (goClean x)
  else absLoop ((components (goClean x)).length + 1) cwd (goClean x)

theorem absWith_eq (env : Env) (cwd s : Str) :
    absWith env cwd s =
      if s = [] then .err .empty
      else (expand env s).bind fun p => absCore cwd (trimProtocol p) := by
  unfold absWith
  split
  · rfl
  · cases expand env s with
    | ok p => simp only [cleanO_eq_goClean]; rfl
    | err k => rfl
    | panic => rfl
    | hang => rfl

theorem absWith_of_expand {env : Env} {cwd s e : Str} (hs : s ≠ []) (he : expand env s = .ok e) :
    absWith env cwd s = absCore cwd (trimProtocol e) := by
  rw [absWith_eq, if_neg hs, he]; rfl

theorem absCore_cases (cwd x : Str) :
    (∃ a, absCore cwd x = .ok a) ∨ absCore cwd x = .err .parentNotFound := by
  unfold absCore
  split
  · exact Or.inl ⟨_, rfl⟩
  · exact absLoop_cases _ _ _

theorem absWith_cases (env : Env) (cwd s : Str) :
    (s = [] ∧ absWith env cwd s = .err .empty) ∨
    (s ≠ [] ∧ ∃ k, expand env s = .err k ∧ absWith env cwd s = .err k) ∨
    (s ≠ [] ∧ ∃ e, expand env s = .ok e ∧ absWith env cwd s = absCore cwd (trimProtocol e)) := by
  by_cases hs : s = []
  · exact Or.inl ⟨hs, by rw [absWith_eq, if_pos hs]⟩
  · rcases (Expand.expand_out env s).cases with ⟨e, h⟩ | ⟨k, h⟩
    · exact Or.inr (Or.inr ⟨hs, e, h, absWith_of_expand hs h⟩)
    · exact Or.inr (Or.inl ⟨hs, k, h, by rw [absWith_eq, if_neg hs, h]; rfl⟩)

theorem absWith_total (env : Env) (cwd s : Str) : Outcome.Total (absWith env cwd s) := by
  rcases absWith_cases env cwd s with ⟨_, h⟩ | ⟨_, k, _, h⟩ | ⟨_, e, _, h⟩ <;> rw [h]
  · exact Outcome.total_err _
  · exact Outcome.total_err _
  · rcases absCore_cases cwd (trimProtocol e) with ⟨a, h⟩ | h <;> rw [h]
    · exact Outcome.total_ok _
    · exact Outcome.total_err _

theorem absWith_err_cases {env : Env} {cwd s : Str} {k : ErrKind} (h : absWith env cwd s = .err k) :
    (s = [] ∧ k = .empty) ∨ expand env s = .err k ∨
      (k = .parentNotFound ∧ s ≠ [] ∧ ∃ e, expand env s = .ok e ∧
        absCore cwd (trimProtocol e) = .err .parentNotFound) := by
  rcases absWith_cases env cwd s with ⟨hs, h'⟩ | ⟨_, k', he, h'⟩ | ⟨hs, e, he, h'⟩ <;> rw [h'] at h
  · exact Or.inl ⟨hs, (Outcome.err.inj h).symm⟩
  · exact Or.inr (Or.inl (Outcome.err.inj h ▸ he))
  · rcases absCore_cases cwd (trimProtocol e) with ⟨a, ha⟩ | ha
    · rw [ha] at h; cases h
    · have hk := ha.symm.trans h
      exact Or.inr (Or.inr ⟨(Outcome.err.inj hk).symm, hs, e, he, ha⟩)

theorem absWith_ok_cases {env : Env} {cwd s p : Str} (h : absWith env cwd s = .ok p) :
    s ≠ [] ∧ ∃ e, expand env s = .ok e ∧ absCore cwd (trimProtocol e) = .ok p := by
  rcases absWith_cases env cwd s with ⟨_, h'⟩ | ⟨_, k', _, h'⟩ | ⟨hs, e, he, h'⟩ <;> rw [h'] at h
  · cases h
  · cases h
  · exact ⟨hs, e, he, h⟩

/-! ### clean absolute directories: `bufOf true ns` with well-formed names -/

theorem wf_isBody {n : Str} (h : Wf n) : isBody n = true := isBody_eq_true h.1 h.2.2.1

theorem bufOf_true_ne_nil (ns : List Str) : bufOf true ns ≠ [] := by simp [bufOf]

theorem bufOf_true_eq_root_iff {ns : List Str} (h : ∀ n ∈ ns, Wf n) :
    bufOf true ns = ['/'] ↔ ns = [] := by
  constructor
  · intro he
    cases ns with
    | nil => rfl
    | cons a as =>
      exfalso
      obtain ⟨X, hX⟩ := joinWith_cons_eq_append '/' a as
      have ha := (h a List.mem_cons_self).1
      simp only [bufOf, if_true, hX, List.cons_append, List.nil_append, List.cons.injEq, true_and,
        List.append_eq_nil_iff] at he
      exact ha he.1
  · rintro rfl; rfl

theorem dir_bufOf_snoc {ns : List Str} {t : Str} (h : ∀ n ∈ ns ++ [t], Wf n) :
    dir (bufOf true (ns ++ [t])) = .ok (bufOf true ns) := by
  have hb : ∀ q ∈ ns ++ [t], BodyPiece q := fun q hq => (h q hq).bodyPiece
  have hsplit := splitSlash_bufOf (rooted := true) (ps := ns ++ [t]) (by simp) hb
  have hroot : isRooted (bufOf true (ns ++ [t])) = true := isRooted_abs _
  have := parentStr_of_split (s := bufOf true (ns ++ [t])) (p0 := []) (mid := ns) (top := t)
    (by simpa using hsplit) (fun x hx => wf_isBody (h x (by simp [hx]))) (wf_isBody (h t (by simp)))
  unfold dir
  rw [this, hroot]
  by_cases hns : ns = []
  · subst hns; simp [bufOf, joinWith]
  · simp [hns, bufOf, joinWith_cons_of_ne_nil '/' [] hns]

theorem bodyComps_stripSlashes (p : Str) : bodyComps (stripSlashes p) = bodyComps p := by
  induction p with
  | nil => rfl
  | cons c cs ih =>
    by_cases hc : c = '/'
    · subst hc
      have h1 : stripSlashes ('/' :: cs) = stripSlashes cs := by simp [stripSlashes]
      rw [h1, ih]
      unfold bodyComps splitSlash
      rw [splitOn_cons_sep]
      simp [bodyComp]
    · have h1 : stripSlashes (c :: cs) = c :: cs := by
        unfold stripSlashes
        split
        · next heq => simp only [List.cons.injEq] at heq; exact absurd heq.1 hc
        · rfl
      rw [h1]

theorem components_eq_bodyComps_of_head {p : Str} {c : Comp} (h : (components p).head? = some c)
    (h1 : c ≠ .root) (h2 : c ≠ .cur) : components p = bodyComps p := by
  unfold components at h ⊢
  unfold bodyComps
  split
  · next hr => rw [if_pos hr] at h; simp at h; exact absurd h.symm h1
  · next hr =>
    rw [if_neg hr] at h
    split
    · next hd => rw [if_pos hd] at h; simp at h; exact absurd h.symm h2
    · rfl

theorem mash_eq_render (d p : Str) (hd : d ≠ []) :
    mash d p = render (components d ++ bodyComps p) := by
  rw [← mash_canonical, mash_components]
  unfold mashComps
  rw [if_neg hd, bodyComps_stripSlashes]

theorem mash_bufOf {ns qs : List Str} {p : Str} (hns : ∀ n ∈ ns, Wf n) (hqs : ∀ q ∈ qs, Wf q)
    (hp : bodyComps p = qs.map Comp.normal) :
    mash (bufOf true ns) p = bufOf true (ns ++ qs) := by
  rw [mash_eq_render _ _ (bufOf_true_ne_nil ns), hp, components_abs hns, List.cons_append,
    ← List.map_append]
  apply render_root_normals
  intro n hn
  rcases List.mem_append.1 hn with h | h
  · exact hns n h
  · exact hqs n h

/-- **The walk**: against a clean absolute directory given by its reversed names `st`, a path whose
    components are `m` parents followed by the normal names `qs` resolves to the directory `m`
    levels up extended by `qs`; it fails (ParentNotFound) exactly when `m` exceeds the depth. -/
theorem absLoop_stack {qs : List Str} (hqs : ∀ q ∈ qs, Wf q) :
    ∀ (m : Nat) (st : List Str) (fuel : Nat) (p : Str), (∀ n ∈ st, Wf n) →
      components p = List.replicate m Comp.parent ++ qs.map Comp.normal → m < fuel →
      absLoop fuel (bufOf true st.reverse) p =
        if st.length < m then .err .parentNotFound
        else .ok (bufOf true ((st.drop m).reverse ++ qs)) := by
  intro m
  induction m with
  | zero =>
    intro st fuel p hst hp hf
    cases fuel with
    | zero => exact absurd hf (Nat.not_lt_zero _)
    | succ f =>
    have hns : ∀ n ∈ st.reverse, Wf n := fun n hn => hst n (List.mem_reverse.1 hn)
    rw [if_neg (Nat.not_lt_zero _), List.drop_zero]
    unfold absLoop
    cases qs with
    | nil => rw [hp, List.append_nil]; rfl
    | cons q qs' =>
      have hh : (components p).head? = some (.normal q) := by rw [hp]; rfl
      rw [hh]
      exact congrArg Outcome.ok (mash_bufOf hns hqs
        (by rw [← components_eq_bodyComps_of_head hh (by simp) (by simp), hp]; rfl))
  | succ m ih =>
    intro st fuel p hst hp hf
    cases fuel with
    | zero => exact absurd hf (Nat.not_lt_zero _)
    | succ f =>
    have hh : (components p).head? = some .parent := by rw [hp]; rfl
    unfold absLoop
    rw [hh]
    cases st with
    | nil => exact if_pos rfl
    | cons t st =>
      have hns : ∀ n ∈ st.reverse ++ [t], Wf n := fun n hn => hst n (by
        rw [← List.reverse_cons] at hn; exact List.mem_reverse.1 hn)
      have hne : bufOf true (st.reverse ++ [t]) ≠ ['/'] := fun he => by
        have := (bufOf_true_eq_root_iff hns).1 he
        simp at this
      simp only [List.reverse_cons, if_neg hne, dir_bufOf_snoc hns, List.length_cons,
        Nat.succ_lt_succ_iff, List.drop_succ_cons]
      exact ih st f (trimFirst p) (fun n hn => hst n (List.mem_cons_of_mem _ hn))
        (by rw [trimFirst_is_tail, hp]; rfl) (Nat.lt_of_succ_lt_succ hf)

/-! ### Go's stack of a relative path, replayed on top of a directory -/

/-- the non-`..` elements of a (reversed) stack -/
def stackNames (stk : List Str) : List Str := stk.filter (· ≠ dotdot)

/-- the number of `..` elements of a stack -/
def ups (stk : List Str) : Nat := stk.count dotdot

/-- `..` only at the bottom of a reversed stack -/
def DDBottom (stk : List Str) : Prop := stk.Pairwise (fun a b => a = dotdot → b = dotdot)

/-- the stack `stk` of a relative path replayed on the directory stack `st` -/
def onto (st stk : List Str) : List Str := stackNames stk ++ st.drop (ups stk)

theorem stackNames_cons_dd (r : List Str) : stackNames (dotdot :: r) = stackNames r :=
  List.filter_cons_of_neg (by simp)

theorem stackNames_cons_ne {a : Str} (ha : a ≠ dotdot) (r : List Str) :
    stackNames (a :: r) = a :: stackNames r :=
  List.filter_cons_of_pos (by simpa using ha)

theorem ups_cons_dd (r : List Str) : ups (dotdot :: r) = ups r + 1 := List.count_cons_self

theorem ups_cons_ne {a : Str} (ha : a ≠ dotdot) (r : List Str) : ups (a :: r) = ups r :=
  List.count_cons_of_ne (fun e => ha e)

theorem names_ups_all_dd {l : List Str} (h : ∀ b ∈ l, b = dotdot) :
    stackNames l = [] ∧ ups l = l.length :=
  ⟨List.filter_eq_nil_iff.2 fun b hb => by simp [h b hb],
    List.count_eq_length.2 fun b hb => (h b hb).symm⟩

theorem ddBottom_cons_dd {below : List Str} (h : DDBottom (dotdot :: below)) :
    ∀ b ∈ below, b = dotdot := fun b hb => (List.pairwise_cons.1 h).1 b hb rfl

theorem stack_decomp {stk : List Str} (h : DDBottom stk) :
    stk = stackNames stk ++ List.replicate (ups stk) dotdot := by
  induction stk with
  | nil => rfl
  | cons a r ih =>
    by_cases ha : a = dotdot
    · subst ha
      have hall := ddBottom_cons_dd h
      rw [stackNames_cons_dd, ups_cons_dd, (names_ups_all_dd hall).1, (names_ups_all_dd hall).2,
        List.nil_append, List.replicate_succ]
      exact congrArg _ (List.eq_replicate_iff.2 ⟨rfl, hall⟩)
    · rw [stackNames_cons_ne ha, ups_cons_ne ha, List.cons_append]
      exact congrArg _ (ih (List.pairwise_cons.1 h).2)

theorem names_wf {stk : List Str} (h : ∀ q ∈ stk, BodyPiece q) : ∀ q ∈ stackNames stk, Wf q := by
  intro q hq
  obtain ⟨hm, hd⟩ := List.mem_filter.1 hq
  exact ⟨(h q hm).1, (h q hm).2.2, (h q hm).2.1, of_decide_eq_true hd⟩

theorem dotdot_not_skip : ¬ (dotdot = [] ∨ dotdot = ['.']) := by decide

theorem goStep_true_dd {L : List Str} (h : ∀ q ∈ L, q ≠ dotdot) :
    goStep true L dotdot = L.drop 1 := by
  unfold goStep
  rw [if_neg dotdot_not_skip, if_pos rfl]
  cases L with
  | nil => rfl
  | cons top below => simp [h top List.mem_cons_self]

theorem goStep_onto {st : List Str} (hst : ∀ q ∈ st, q ≠ dotdot) {stk : List Str}
    (hok : DDBottom stk) (p : Str) :
    goStep true (onto st stk) p = onto st (goStep false stk p) := by
  by_cases hp0 : p = [] ∨ p = ['.']
  · simp [goStep, hp0]
  by_cases hdd : p = dotdot
  · subst hdd
    cases stk with
    | nil => exact goStep_true_dd hst
    | cons top below =>
      by_cases ht : top = dotdot
      · subst ht
        have hnu := names_ups_all_dd (ddBottom_cons_dd hok)
        have h1 : goStep false (dotdot :: below) dotdot = dotdot :: dotdot :: below := by
          unfold goStep; rw [if_neg dotdot_not_skip, if_pos rfl]; simp
        rw [h1]
        simp only [onto, stackNames_cons_dd, ups_cons_dd, hnu.1, hnu.2, List.nil_append]
        rw [goStep_true_dd (fun q hq => hst q (List.mem_of_mem_drop hq)), List.drop_drop]
      · have h1 : goStep false (top :: below) dotdot = below := by
          unfold goStep; rw [if_neg dotdot_not_skip, if_pos rfl]; simp [ht]
        rw [h1]
        simp only [onto, stackNames_cons_ne ht, ups_cons_ne ht, List.cons_append]
        unfold goStep
        rw [if_neg dotdot_not_skip, if_pos rfl]
        simp [ht]
  · have h1 : ∀ r L, goStep r L p = p :: L := by
      intro r L; unfold goStep; rw [if_neg hp0, if_neg hdd]
    rw [h1, h1, onto, onto, stackNames_cons_ne hdd, ups_cons_ne hdd, List.cons_append]

theorem goStep_ddBottom {stk : List Str} (h : DDBottom stk) (p : Str) :
    DDBottom (goStep false stk p) :=
  (goStep_stackOK (rooted := false) p ⟨by simp, h⟩).2

theorem foldl_onto {st : List Str} (hst : ∀ q ∈ st, q ≠ dotdot) (pieces : List Str) :
    ∀ stk : List Str, DDBottom stk →
      pieces.foldl (goStep true) (onto st stk) = onto st (pieces.foldl (goStep false) stk) := by
  induction pieces with
  | nil => intro stk _; rfl
  | cons p ps ih =>
    intro stk hok
    rw [List.foldl_cons, List.foldl_cons, goStep_onto hst hok, ih _ (goStep_ddBottom hok p)]

/-! ### the lexical join -/

theorem wf_ne_dd {ns : List Str} (h : ∀ n ∈ ns, Wf n) : ∀ q ∈ ns.reverse, q ≠ dotdot := by
  intro q hq
  exact (h q (List.mem_reverse.1 hq)).2.2.2

theorem splitOn_push_bufOf {ns : List Str} (hns : ∀ n ∈ ns, Wf n) {x : Str}
    (hx : isRooted x = false) :
    isRooted (push (bufOf true ns) x) = true ∧
      splitOn '/' (push (bufOf true ns) x) = ([] :: ns) ++ splitOn '/' x := by
  have hb : ∀ q ∈ ns, BodyPiece q := fun q hq => (hns q hq).bodyPiece
  unfold push
  rw [hx]
  simp only [Bool.false_eq_true, if_false]
  rcases eq_nil_or_snoc ns with rfl | ⟨mid, t, rfl⟩
  · have h1 : bufOf true [] = ['/'] := rfl
    rw [h1, if_neg (by simp [endsWithSlash])]
    refine ⟨by simp [isRooted_cons], ?_⟩
    simp [splitOn_cons_sep]
  · rw [if_pos ⟨bufOf_true_ne_nil _, endsWithSlash_bufOf_snoc (hb t (by simp))⟩]
    refine ⟨by rw [isRooted_append (bufOf_true_ne_nil _)]; exact isRooted_abs _, ?_⟩
    rw [splitOn_append_cons_sep]
    have := splitSlash_bufOf (rooted := true) (ps := mid ++ [t]) (by simp) hb
    unfold splitSlash at this
    rw [this]
    simp

/-- Go-cleaning the join of a clean absolute directory and a relative path: replay the stack
    of the relative path on the directory. -/
theorem goClean_push_rel {ns : List Str} (hns : ∀ n ∈ ns, Wf n) {x : Str}
    (hx : isRooted x = false) :
    goClean (push (bufOf true ns) x) = bufOf true (onto ns.reverse (goStack x)).reverse := by
  obtain ⟨hr, hsp⟩ := splitOn_push_bufOf hns hx
  have hstack : goStack (push (bufOf true ns) x) = onto ns.reverse (goStack x) := by
    unfold goStack
    rw [hr, hsp, hx, List.foldl_append, List.foldl_cons]
    have h0 : goStep true [] [] = [] := by simp [goStep]
    rw [h0, foldl_goStep_wf true hns []]
    have h1 : ns.reverse ++ [] = onto ns.reverse [] := by simp [onto, stackNames, ups]
    rw [h1, foldl_onto (wf_ne_dd hns) _ [] List.Pairwise.nil]
  rw [goClean_eq, hstack, hr, if_neg (bufOf_true_ne_nil _)]

theorem bodyComp_dotdot : bodyComp dotdot = some Comp.parent := by decide

theorem filterMap_replicate_dd (m : Nat) :
    (List.replicate m dotdot).filterMap bodyComp = List.replicate m Comp.parent := by
  induction m with
  | zero => rfl
  | succ m ih => rw [List.replicate_succ, List.filterMap_cons_some bodyComp_dotdot, ih]; rfl

theorem goClean_rel {x : Str} (hx : isRooted x = false) :
    (goStack x = [] ∧ goClean x = ['.']) ∨
    (isRooted (goClean x) = false ∧ splitOn '/' (goClean x) =
      List.replicate (ups (goStack x)) dotdot ++ (stackNames (goStack x)).reverse) := by
  have hb := goStack_bodyPiece x
  have hok : DDBottom (goStack x) := (goStack_stackOK x).2
  rw [goClean_eq, hx]
  cases hst : goStack x with
  | nil => exact Or.inl ⟨rfl, rfl⟩
  | cons top below =>
    rw [hst] at hb hok
    have hb' : ∀ q ∈ (top :: below).reverse, BodyPiece q := fun q hq => hb q (List.mem_reverse.1 hq)
    have hne : bufOf false (top :: below).reverse ≠ [] := by
      rw [List.reverse_cons]; exact bufOf_snoc_ne_nil (hb top List.mem_cons_self).1
    have hsp := splitSlash_bufOf (rooted := false) (ps := (top :: below).reverse) (by simp) hb'
    rw [if_neg hne]
    refine Or.inr ⟨isRooted_bufOf hb', hsp.trans ?_⟩
    conv => lhs; rw [stack_decomp hok]
    rw [List.reverse_append, List.reverse_replicate]
    rfl

theorem absLoop_dot (cwd : Str) : absLoop 2 cwd ['.'] = .ok cwd := by
  have h1 : (components ['.']).head? = some Comp.cur := by decide
  have h2 : (components (trimFirst ['.'])).head? = none := by decide
  unfold absLoop
  rw [h1]
  simp only
  unfold absLoop
  rw [h2]

theorem absCore_rel {ns : List Str} (hns : ∀ n ∈ ns, Wf n) {x : Str} (hx : isRooted x = false) :
    absCore (bufOf true ns) x =
      if ns.length < ups (goStack x) then .err .parentNotFound
      else .ok (goClean (push (bufOf true ns) x)) := by
  have hnr : ¬ isRooted (goClean x) = true := by rw [goClean_rooted, hx]; simp
  have hst : ∀ n ∈ ns.reverse, Wf n := fun n hn => hns n (List.mem_reverse.1 hn)
  rw [goClean_push_rel hns hx, onto, List.reverse_append, ← List.length_reverse (as := ns)]
  unfold absCore
  rw [if_neg hnr]
  rcases goClean_rel hx with ⟨h0, h1⟩ | ⟨hr, hsp⟩
  · have hc : (components ['.']).length + 1 = 2 := by decide
    rw [h1, hc, absLoop_dot, h0]
    simp [ups, stackNames]
  · have hqs : ∀ q ∈ (stackNames (goStack x)).reverse, Wf q :=
      fun n hn => names_wf (goStack_bodyPiece x) n (List.mem_reverse.1 hn)
    have hcomp : components (goClean x) = List.replicate (ups (goStack x)) Comp.parent ++
        (stackNames (goStack x)).reverse.map Comp.normal := by
      have hhead : ¬ (splitSlash (goClean x)).head? = some ['.'] := by
        unfold splitSlash
        rw [hsp]
        intro hh
        rcases List.mem_append.1 (List.mem_of_mem_head? hh) with h | h
        · exact absurd (List.mem_replicate.1 h).2 (by decide)
        · exact (hqs _ h).2.2.1 rfl
      unfold components
      rw [hr, if_neg (by simp), if_neg hhead, List.nil_append]
      unfold splitSlash
      rw [hsp, List.filterMap_append, filterMap_replicate_dd, filterMap_bodyComp_wf hqs]
    have h := absLoop_stack hqs _ _ ((components (goClean x)).length + 1) _ hst hcomp
      (by rw [hcomp, List.length_append, List.length_replicate]; omega)
    rw [List.reverse_reverse] at h
    exact h

theorem absCore_abs (cwd : Str) {x : Str} (hx : isRooted x = true) :
    absCore cwd x = .ok (goClean (push cwd x)) := by
  unfold absCore
  rw [if_pos (by rw [goClean_rooted, hx])]
  unfold push
  rw [if_pos hx]

/-! ### statements over clean absolute strings -/

theorem rooted_normalForm {t : Str} (hr : isRooted t = true) (hn : NormalForm t) :
    ∃ ns, (∀ n ∈ ns, Wf n) ∧ t = bufOf true ns := by
  rcases hn with rfl | rfl | ⟨h1, h2, _⟩
  · exact absurd hr (by decide)
  · exact ⟨[], by simp, rfl⟩
  · refine ⟨bodyPieces t, ?_, ?_⟩
    · intro n hn
      have hmem : n ∈ splitOn '/' t := by
        unfold bodyPieces at hn
        rw [if_pos hr] at hn
        exact List.mem_of_mem_drop hn
      exact ⟨(h1 n hn).1, not_mem_of_mem_splitOn '/' t n hmem, (h1 n hn).2, h2 hr n hn⟩
    · have := bufOf_bodyPieces t
      rw [hr] at this
      exact this.symm

theorem normalForm_of_wf {ns : List Str} (h : ∀ n ∈ ns, Wf n) :
    isRooted (bufOf true ns) = true ∧ NormalForm (bufOf true ns) :=
  ⟨isRooted_abs ns, normalForm_abs h⟩

/-- number of names of an absolute path (its depth below the root) -/
def depth (cwd : Str) : Nat := ((splitOn '/' cwd).filter (· ≠ [])).length

/-- length of the leading run of `..` pieces -/
def upCount (c : Str) : Nat := ((splitOn '/' c).takeWhile (· = dotdot)).length

theorem depth_bufOf {ns : List Str} (h : ∀ n ∈ ns, Wf n) : depth (bufOf true ns) = ns.length := by
  unfold depth
  cases ns with
  | nil => decide
  | cons a as =>
    have hb : ∀ q ∈ a :: as, BodyPiece q := fun q hq => (h q hq).bodyPiece
    have := splitSlash_bufOf (rooted := true) (ps := a :: as) (by simp) hb
    unfold splitSlash at this
    rw [this]
    simp only [if_true, List.cons_append, List.nil_append]
    rw [List.filter_cons_of_neg (by simp)]
    rw [List.filter_eq_self.2]
    intro q hq
    simpa using (h q hq).1

theorem takeWhile_dd_names (m : Nat) {qs : List Str} (h : ∀ q ∈ qs, q ≠ dotdot) :
    ((List.replicate m dotdot ++ qs).takeWhile (· = dotdot)).length = m := by
  rw [List.takeWhile_append_of_pos (by
    intro a ha
    simp [(List.mem_replicate.1 ha).2])]
  cases qs with
  | nil => simp
  | cons q qs' =>
    have : q ≠ dotdot := h q List.mem_cons_self
    simp [this]

theorem upCount_goClean_rel {x : Str} (hx : isRooted x = false) :
    upCount (goClean x) = ups (goStack x) := by
  unfold upCount
  rcases goClean_rel hx with ⟨h0, h1⟩ | ⟨_, hsp⟩
  · rw [h1, h0]; decide
  · rw [hsp]
    exact takeWhile_dd_names _ fun q hq =>
      of_decide_eq_true (List.mem_filter.1 (List.mem_reverse.1 hq)).2

/-- the `..` run of the cleaned relative argument `x` climbs above the root from `cwd` -/
def ClimbsAboveRoot (cwd x : Str) : Prop :=
  isRooted x = false ∧ depth cwd < upCount (goClean x)

instance (cwd x : Str) : Decidable (ClimbsAboveRoot cwd x) := by
  unfold ClimbsAboveRoot; infer_instance

theorem absCore_eq {cwd : Str} (hr : isRooted cwd = true) (hn : NormalForm cwd) (x : Str) :
    absCore cwd x =
      if ClimbsAboveRoot cwd x then .err .parentNotFound else .ok (goClean (push cwd x)) := by
  obtain ⟨ns, hns, rfl⟩ := rooted_normalForm hr hn
  by_cases hx : isRooted x = true
  · rw [absCore_abs _ hx, if_neg (fun h : ClimbsAboveRoot _ x => by rw [h.1] at hx; cases hx)]
  · have hx' : isRooted x = false := Bool.eq_false_iff.mpr hx
    have hiff : ClimbsAboveRoot (bufOf true ns) x ↔ ns.length < ups (goStack x) := by
      unfold ClimbsAboveRoot
      rw [depth_bufOf hns, upCount_goClean_rel hx']
      exact ⟨fun h => h.2, fun h => ⟨hx', h⟩⟩
    rw [absCore_rel hns hx']
    by_cases hc : ns.length < ups (goStack x)
    · rw [if_pos hc, if_pos (hiff.mpr hc)]
    · rw [if_neg hc, if_neg (fun h => hc (hiff.mp h))]

/-! ### idempotence on results without `~` / `$` -/

/-- neither `~` nor `$` occurs -/
def NoSpecial (p : Str) : Prop := '~' ∉ p ∧ '$' ∉ p

instance (p : Str) : Decidable (NoSpecial p) := by unfold NoSpecial; infer_instance

theorem expand_noSpecial (env : Env) {p : Str} (h : NoSpecial p) : expand env p = .ok p :=
  Expand.expand_of_tilde_ok (Expand.tildeSpec_none env (List.count_eq_zero.2 h.1)) h.2

theorem findIdx_some_split {s : Str} {i : Nat} (h : findIdx s SS = some i) :
    ∃ a b, s = a ++ '/' :: '/' :: b := by
  induction s generalizing i with
  | nil => cases h
  | cons c cs ih =>
    rw [findIdx_cons_SS] at h
    split at h
    · next hp =>
      obtain ⟨r, hr⟩ := List.isPrefixOf_iff_prefix.1 hp
      exact ⟨[], r, by rw [← hr]; rfl⟩
    · cases hf : findIdx cs SS with
      | none => rw [hf] at h; cases h
      | some j =>
        obtain ⟨a, b, hab⟩ := ih hf
        exact ⟨c :: a, b, by rw [hab]; rfl⟩

theorem nil_mem_bodyPieces_of_dslash (a b : Str) : [] ∈ bodyPieces (a ++ '/' :: '/' :: b) := by
  have hsp : splitOn '/' (a ++ '/' :: '/' :: b) = splitOn '/' a ++ [] :: splitOn '/' b := by
    rw [splitOn_append_cons_sep, splitOn_cons_sep]
  unfold bodyPieces
  rw [hsp]
  split
  · cases hs : splitOn '/' a with
    | nil => exact absurd hs (splitOn_ne_nil '/' a)
    | cons h tl => simp
  · simp

/-- a normal form has no `//` -/
theorem normalForm_findIdx_none {t : Str} (h : NormalForm t) : findIdx t SS = none := by
  rcases h with rfl | rfl | ⟨h1, _, _⟩
  · decide
  · decide
  · cases hf : findIdx t SS with
    | none => rfl
    | some i =>
      exfalso
      obtain ⟨a, b, rfl⟩ := findIdx_some_split hf
      exact (h1 [] (nil_mem_bodyPieces_of_dslash a b)).1 rfl

theorem trimProtocol_normalForm {t : Str} (h : NormalForm t) : trimProtocol t = t := by
  rw [trimProtocol_unfold, normalForm_findIdx_none h]

theorem absCore_fixed (cwd : Str) {p : Str} (hr : isRooted p = true) (hn : NormalForm p) :
    absCore cwd p = .ok p := by
  unfold absCore
  rw [goClean_of_normalForm hn, if_pos hr]

theorem absWith_fixed (env : Env) (cwd : Str) {p : Str} (hr : isRooted p = true)
    (hn : NormalForm p) (hs : NoSpecial p) : absWith env cwd p = .ok p := by
  have hne : p ≠ [] := by rintro rfl; cases hr
  rw [absWith_of_expand hne (expand_noSpecial env hs), trimProtocol_normalForm hn,
    absCore_fixed cwd hr hn]

/-! ### summary statements for a clean absolute `cwd` -/

theorem absWith_ok_join {env : Env} {cwd s p : Str} (hr : isRooted cwd = true)
    (hn : NormalForm cwd) (h : absWith env cwd s = .ok p) :
    ∃ e, expand env s = .ok e ∧ ¬ ClimbsAboveRoot cwd (trimProtocol e) ∧
      p = goClean (push cwd (trimProtocol e)) := by
  obtain ⟨_, e, he, hc⟩ := absWith_ok_cases h
  rw [absCore_eq hr hn] at hc
  split at hc
  · cases hc
  · next hnc => exact ⟨e, he, hnc, by simpa using hc.symm⟩

theorem absWith_shape {env : Env} {cwd s p : Str} (hr : isRooted cwd = true)
    (hn : NormalForm cwd) (h : absWith env cwd s = .ok p) : isRooted p = true ∧ NormalForm p := by
  obtain ⟨e, _, _, rfl⟩ := absWith_ok_join hr hn h
  exact ⟨by rw [goClean_rooted]; exact isRooted_push_of_rooted hr _, goClean_normalForm _⟩

theorem absWith_parentNotFound_iff {env : Env} {cwd s : Str} (hr : isRooted cwd = true)
    (hn : NormalForm cwd) :
    absWith env cwd s = .err .parentNotFound ↔
      s ≠ [] ∧ ∃ e, expand env s = .ok e ∧ ClimbsAboveRoot cwd (trimProtocol e) := by
  constructor
  · intro h
    rcases absWith_err_cases h with ⟨_, hk⟩ | hk | ⟨_, hs, e, he, hc⟩
    · cases hk
    · exact absurd hk (expand_ne_parentNotFound env s)
    · refine ⟨hs, e, he, ?_⟩
      rw [absCore_eq hr hn] at hc
      split at hc
      · assumption
      · cases hc
  · rintro ⟨hs, e, he, hc⟩
    rw [absWith_of_expand hs he, absCore_eq hr hn, if_pos hc]

theorem absWith_idem {env : Env} {cwd raw a : Str} (hr : isRooted cwd = true)
    (hn : NormalForm cwd) (h : absWith env cwd raw = .ok a) (hs : NoSpecial a) :
    absWith env cwd a = .ok a :=
  absWith_fixed env cwd (absWith_shape hr hn h).1 (absWith_shape hr hn h).2 hs

/-! ### the finding: a home directory containing `~` -/

/-- the smallest environment with such a home directory -/
def envTildeHome : Env := fun k => if k = "HOME".toList then some "/h~x".toList else none

theorem expand_tilde_envTildeHome : expand envTildeHome ['~'] = .ok "/h~x".toList := by
  decide +kernel

theorem expand_home_envTildeHome :
    expand envTildeHome "/h~x".toList = .err .invalidExpansion := by decide +kernel

theorem abs_tilde_envTildeHome (cwd : Str) :
    absWith envTildeHome cwd ['~'] = .ok "/h~x".toList := by
  have hn : NormalForm "/h~x".toList := by decide +kernel
  rw [absWith_of_expand (List.cons_ne_nil _ _) expand_tilde_envTildeHome,
    trimProtocol_normalForm hn, absCore_fixed cwd rfl hn]

theorem abs_home_envTildeHome (cwd : Str) :
    absWith envTildeHome cwd "/h~x".toList = .err .invalidExpansion := by
  rw [absWith_eq, if_neg (by decide), expand_home_envTildeHome]
  rfl

end Rivia.Lemmas
