/-
  Rivia.Lemmas.MacrosWit — concrete witnesses for the C20 findings, evaluated through the closed
  forms of Rivia.Lemmas.Macros (never by running `abs` in the kernel).
-/
import Rivia.Lemmas.Macros
import Rivia.Lemmas.MacrosAct
import Rivia.Lemmas.MacrosCopy


namespace Rivia.MacroLemmas
open Rivia Rivia.Memfs Rivia.Memfs.M Rivia.File Rivia.Spec Rivia.Spec.TreeFs Rivia.Macros
open Rivia.Spec.MacroSpec Rivia.Lemmas.RefineA

/-! ### resolving literal clean absolute paths -/

theorem keyOf_lit (env : Env) (s : State) {p : Str} (hr : isRooted p = true) (hn : Lemmas.NormalForm p)
    (hs : Lemmas.NoSpecial p) : keyOf env s p = some (toPath p) := by
  rw [keyOf_eq, Lemmas.absWith_fixed env _ hr hn hs]

theorem stable_lit (env : Env) (s : State) {a : FsPath} (hn : Lemmas.NormalForm (renderP a))
    (hs : Lemmas.NoSpecial (renderP a)) (ht : toPath (renderP a) = a) : Stable env s a := by
  unfold Stable
  rw [keyOf_lit env s rfl hn hs, ht]

/-! ### the witness states (current directory `/`) -/

def nmF : Str := ['f']
def nmL : Str := ['l']
def nmC : Str := ['c']
def kF : FsPath := [nmF]
def kL : FsPath := [nmL]
def kC : FsPath := [nmC]
def pF : Str := ['/', 'f']
def pL : Str := ['/', 'l']
def pRoot : Str := ['/']
def pABC : Str := ['/', 'a', '/', 'b', '/', 'c']
def kABC : FsPath := [['a'], ['b'], ['c']]

def rootWith (names : List Str) : Entry := { mkDirEntry [] none with files := some names }

/-- `old` -/
def bytesOld : Bytes := [111, 108, 100]
/-- `new` -/
def bytesNew : Bytes := [110, 101, 119]

/-- `/f` is a regular file with content "old" -/
def sFile : State :=
  { entries := [([], rootWith [nmF]), (kF, mkFileEntry kF)], files := [(kF, bytesOld)],
    cwd := [], root := [], handles := [] }

/-- `/l` is a link to `/c` (which does not exist) -/
def linkE : Entry :=
  { path := kL, alt := some kC, rel := nmC, dir := false, file := true, link := true, mode := 0o120777,
    uid := 1000, gid := 1000, follow := false, cached := false, files := none }

def sLink : State :=
  { entries := [([], rootWith [nmL]), (kL, linkE)], files := [], cwd := [], root := [], handles := [] }

theorem stateOk_init : StateOk Memfs.init := by decide
theorem stateOk_sFile : StateOk sFile := by decide
theorem stateOk_sLink : StateOk sLink := by decide

theorem key_root (env : Env) (s : State) : keyOf env s pRoot = some [] :=
  keyOf_lit env s rfl (by decide) (by decide)
theorem key_pF (env : Env) (s : State) : keyOf env s pF = some kF :=
  keyOf_lit env s rfl (by decide) (by decide)
theorem key_pL (env : Env) (s : State) : keyOf env s pL = some kL :=
  keyOf_lit env s rfl (by decide) (by decide)
theorem key_pABC (env : Env) (s : State) : keyOf env s pABC = some kABC :=
  keyOf_lit env s rfl (by decide) (by decide)

theorem stable_root (env : Env) (s : State) : Stable env s [] := stable_lit env s (by decide) (by decide) rfl
theorem stable_kF (env : Env) (s : State) : Stable env s kF := stable_lit env s (by decide) (by decide) rfl
theorem stable_kL (env : Env) (s : State) : Stable env s kL := stable_lit env s (by decide) (by decide) rfl

theorem stableArg_of {env : Env} {s : State} {p : Str} {a : FsPath} (hk : keyOf env s p = some a)
    (hs : Stable env s a) : StableArg env s p := by
  unfold StableArg; rw [hk]; exact hs

/-! ### (A4) `no_dir` / `no_file` on a path that exists as something else -/

theorem wit_noDir_run (env : Env) :
    runMacro env sFile (.noDir pF) = (pm "assert_vfs_no_dir!" "exists and is not a directory", sFile) := by
  simp only [runMacro, absK_eq, key_pF, boolK_exists, boolK_isDir, eTest_key (stable_kF env sFile)]
  rfl

theorem wit_noDir_spec (env : Env) : checkSpec env sFile (.noDir pF) = true := by
  simp only [checkSpec, resolvable_key (key_pF env sFile), pIsDir_key (key_pF env sFile)]
  rfl

theorem wit_noFile_run (env : Env) :
    runMacro env Memfs.init (.noFile pRoot) = (pm "assert_vfs_no_file!" "exists and is not a file", Memfs.init) := by
  simp only [runMacro, absK_eq, key_root, boolK_exists, boolK_isFile, eTest_key (stable_root env Memfs.init)]
  rfl

theorem wit_noFile_spec (env : Env) : checkSpec env Memfs.init (.noFile pRoot) = true := by
  simp only [checkSpec, resolvable_key (key_root env Memfs.init),
    pIsFile_key stateOk_init (key_root env Memfs.init)]
  rfl

/-! ### (A3, repaired) the "exists but is not a symlink" branch of `is_symlink` names the macro -/

theorem wit_isSymlink_run (env : Env) :
    runMacro env Memfs.init (.isSymlink pRoot) =
      (.panic "assert_vfs_is_symlink!" (some "exists but is not a symlink"), Memfs.init) := by
  simp only [runMacro, absK_eq, key_root, boolK_exists, boolK_isSymlink, eTest_key (stable_root env Memfs.init)]
  rfl

/-! ### (A2, repaired) `readlink_abs` compares keys: a path that merely ends in the target fails -/

def pC : Str := ['/', 'c']

theorem key_pC (env : Env) (s : State) : keyOf env s pC = some kC :=
  keyOf_lit env s rfl (by decide) (by decide)

theorem wit_readlinkAbs_spec (env : Env) : checkSpec env sLink (.readlinkAbs pL pABC) = false := by
  simp only [checkSpec, key_pABC, pLinksTo, nodeOf_key (key_pL env sLink)]
  decide

theorem wit_readlinkAbs_spec_ok (env : Env) : checkSpec env sLink (.readlinkAbs pL pC) = true := by
  simp only [checkSpec, key_pC, pLinksTo, nodeOf_key (key_pL env sLink)]
  decide

/-! ### (A5) the macros resolve their path argument twice -/

def nmH : Str := ['h', '~', 'x']
def kH : FsPath := [nmH]

/-- `/h~x` (the home directory of `envTildeHome`) is a regular file -/
def sTilde : State :=
  { entries := [([], rootWith [nmH]), (kH, mkFileEntry kH)], files := [(kH, [])],
    cwd := [], root := [], handles := [] }

theorem stateOk_sTilde : StateOk sTilde := by decide

theorem key_tilde (s : State) : keyOf Lemmas.envTildeHome s ['~'] = some kH := by
  rw [keyOf_eq, Lemmas.abs_tilde_envTildeHome]
  decide

theorem key_home_none (s : State) : keyOf Lemmas.envTildeHome s (renderP kH) = none := by
  have h : renderP kH = "/h~x".toList := by decide
  rw [keyOf_eq, h, Lemmas.abs_home_envTildeHome]

theorem wit_double_run :
    runMacro Lemmas.envTildeHome sTilde (.exists ['~']) = (pm "assert_vfs_exists!" "doesn't exist", sTilde) := by
  simp only [runMacro, absK_eq, key_tilde, boolK_exists, eTest, key_home_none]
  rfl

theorem wit_double_spec : checkSpec Lemmas.envTildeHome sTilde (.exists ['~']) = true := by
  simp only [checkSpec, pExists_key (key_tilde sTilde)]
  rfl

theorem wit_double_unstable : ¬ StableArg Lemmas.envTildeHome sTilde ['~'] := by
  unfold StableArg Stable
  rw [key_tilde]
  simp only [key_home_none]
  simp

/-! ### acting macros on paths that exist -/

theorem stableArg_pF (env : Env) (s : State) : StableArg env s pF := stableArg_of (key_pF env s) (stable_kF env s)
theorem stableArg_pL (env : Env) (s : State) : StableArg env s pL := stableArg_of (key_pL env s) (stable_kL env s)

theorem sFile_isFile (env : Env) : pIsFile env sFile pF = true := by
  rw [pIsFile_key stateOk_sFile (key_pF env sFile)]; rfl

/-- the state after `write_all("/f", "new")`, from the empty filesystem or from `sFile` -/
def sWritten : State :=
  { entries := [([], rootWith [nmF]), (kF, mkFileEntry kF)], files := [(kF, bytesNew)],
    cwd := [], root := [], handles := [] }

theorem stateOk_sWritten : StateOk sWritten := by decide

theorem step_writeAll_sFile (env : Env) :
    step env sFile (.writeAll pF bytesNew) = (.ok .unit, sWritten) := by
  simp only [step, writeAllM]
  msimp [absM_of_key (key_pF env sFile)]
  decide

theorem sWritten_content (env : Env) : pHasBytes env sWritten pF bytesNew = true := by
  simp only [pHasBytes, nodeOf_key (key_pF env sWritten)]; decide

theorem wit_writeAll_content_old (env : Env) : pHasBytes env sFile pF bytesOld = true := by
  simp only [pHasBytes, nodeOf_key (key_pF env sFile)]; decide

theorem macroSpec_writeAll_sFile (env : Env) :
    macroSpec env sFile (.writeAll pF bytesNew) = (true, sWritten) := by
  rw [macroSpec_of_not_noop rfl]
  simp only [opOf, step_writeAll_sFile, postSpec, sWritten_content, Outcome.isOk, Bool.and_self]

/-- (A1, repaired) `/f` holds "old": `assert_vfs_write_all!(vfs, "/f", "new")` passes and now writes -/
theorem wit_writeAll_run (env : Env) : runMacro env sFile (.writeAll pF bytesNew) = (.pass, sWritten) := by
  have hpost : StateOk (macroSpec env sFile (.writeAll pF bytesNew)).2 := by
    rw [macroSpec_writeAll_sFile]; exact stateOk_sWritten
  obtain ⟨h1, h2⟩ := act_writeAll (stableArg_pF env sFile) hpost
  rw [macroSpec_writeAll_sFile] at h1 h2
  have h3 := h1.2 rfl
  exact Prod.ext h3 (h2 h3)

theorem run_of_spec {env : Env} {s s' : State} {m : MacroCall}
    (h : (runMacro env s m).2 = (macroSpec env s m).2 ∧
      ((runMacro env s m).1 = .pass ↔ (macroSpec env s m).1 = true))
    (hs : macroSpec env s m = (true, s')) : runMacro env s m = (.pass, s') := by
  rw [hs] at h
  exact Prod.ext (h.2.2 rfl) h.1

theorem macroSpec_mkfile_sFile (env : Env) : macroSpec env sFile (.mkfile pF) = (true, sFile) :=
  macroSpec_of_noop (sFile_isFile env)

/-- `assert_vfs_mkfile!`: an existing file is accepted untouched (documented) -/
theorem wit_mkfile_run (env : Env) : runMacro env sFile (.mkfile pF) = (.pass, sFile) :=
  run_of_spec (act_mkfile stateOk_sFile (stableArg_pF env sFile)
    (by rw [macroSpec_mkfile_sFile]; exact stateOk_sFile)) (macroSpec_mkfile_sFile env)

theorem sLink_isLink (env : Env) : pIsLink env sLink pL = true := by
  rw [pIsLink_key (key_pL env sLink)]; rfl

theorem macroSpec_symlink_sLink (env : Env) : macroSpec env sLink (.symlink pL pF) = (true, sLink) :=
  macroSpec_of_noop (sLink_isLink env)

/-- `/l → /c`; `assert_vfs_symlink!(vfs, "/l", "/f")` passes and the link still points to `/c`
    (documented: "If the symlink exists no change is made") -/
theorem wit_symlink_run (env : Env) : runMacro env sLink (.symlink pL pF) = (.pass, sLink) :=
  run_of_spec (act_symlink (stableArg_pL env sLink)) (macroSpec_symlink_sLink env)

theorem wit_symlink_target (env : Env) :
    pLinksTo env sLink pL kC = true ∧ pLinksTo env sLink pL kF = false := by
  simp only [pLinksTo, nodeOf_key (key_pL env sLink)]; decide

/-! ### non-vacuity: a state in which `write_all` is really performed -/

theorem step_writeAll_init (env : Env) :
    step env Memfs.init (.writeAll pF bytesNew) = (.ok .unit, sWritten) := by
  simp only [step, writeAllM]
  msimp [absM_of_key (key_pF env Memfs.init)]
  decide

theorem postOk_writeAll_init (env : Env) : PostOk env Memfs.init (.writeAll pF bytesNew) := by
  simp only [PostOk, macroSpec_of_not_noop (m := .writeAll pF bytesNew) rfl, opOf, step_writeAll_init]
  decide

theorem init_absent_pF (env : Env) : pExists env Memfs.init pF = false := by
  rw [pExists_key (key_pF env Memfs.init)]; rfl

/-! ### `copyfile`: a positive example, and (A6, repaired) a source that is not valid UTF-8 -/

def nmG : Str := ['g']
def kG : FsPath := [nmG]
def pG : Str := ['/', 'g']

theorem key_pG (env : Env) (s : State) : keyOf env s pG = some kG :=
  keyOf_lit env s rfl (by decide) (by decide)
theorem stable_kG (env : Env) (s : State) : Stable env s kG := stable_lit env s (by decide) (by decide) rfl
theorem stableArg_pG (env : Env) (s : State) : StableArg env s pG := stableArg_of (key_pG env s) (stable_kG env s)

/-- `/f` and `/g` both hold `bytes` -/
def sTwo (bytes : Bytes) : State :=
  { entries := [([], rootWith [nmF, nmG]), (kF, mkFileEntry kF), (kG, mkFileEntry kG)],
    files := [(kF, bytes), (kG, bytes)], cwd := [], root := [], handles := [] }

theorem step_copy_sFile (env : Env) : step env sFile (.copy pF pG) = (.ok .unit, sTwo bytesOld) := by
  -- the two paths resolve in any state; only the rest of `copy` is evaluated
  generalize hs : sFile = s
  show mapVal _ (absM env pF >>= _) s = _
  rw [mapVal_bind_key (key_pF env s)]
  show mapVal _ (absM env pG >>= _) s = _
  rw [mapVal_bind_key (key_pG env s)]
  subst hs
  decide

/-- the byte 0xFF: not UTF-8 -/
def bytesBin : Bytes := [255]

/-- `/f` is a regular file holding the single byte 0xFF -/
def sBin : State :=
  { entries := [([], rootWith [nmF]), (kF, mkFileEntry kF)], files := [(kF, bytesBin)],
    cwd := [], root := [], handles := [] }

theorem stateOk_sBin : StateOk sBin := by decide
theorem stateOk_sTwo_bin : StateOk (sTwo bytesBin) := by decide
theorem stateOk_sTwo_old : StateOk (sTwo bytesOld) := by decide

theorem step_copy_sBin (env : Env) : step env sBin (.copy pF pG) = (.ok .unit, sTwo bytesBin) := by
  -- the two paths resolve in any state; only the rest of `copy` is evaluated
  generalize hs : sBin = s
  show mapVal _ (absM env pF >>= _) s = _
  rw [mapVal_bind_key (key_pF env s)]
  show mapVal _ (absM env pG >>= _) s = _
  rw [mapVal_bind_key (key_pG env s)]
  subst hs
  decide

theorem macroSpec_copyfile_sBin (env : Env) : macroSpec env sBin (.copyfile pF pG) = (true, sTwo bytesBin) := by
  rw [macroSpec_of_not_noop rfl]
  simp only [opOf, step_copy_sBin, postSpec, nodeOf_key (key_pF env _), pHasBytes, nodeOf_key (key_pG env _)]
  decide

/-- the macro passes: it compares the bytes (`read` + `read_to_end`), `[0xFF] = [0xFF]`
    (before the repair it compared `read_all` texts and panicked with "failed reading src file") -/
theorem wit_copyfile_bin_run (env : Env) :
    runMacro env sBin (.copyfile pF pG) = (.pass, sTwo bytesBin) := by
  have hsp := (step_copy_spell (key_pF env sBin) (stable_kF env sBin) (key_pG env sBin) (stable_kG env sBin)).trans
    (step_copy_sBin env)
  have h1 : eAt sBin kF (fun _ => true) = true := by decide
  have h2 : eAt sBin kF (fun e => e.file && !e.link) = true := by decide
  have h3 : eAt (sTwo bytesBin) kG (fun e => e.file && !e.link) = true := by decide
  have hreadF : step env (sTwo bytesBin) (.read (renderP kF)) = (.ok (.bytes bytesBin), sTwo bytesBin) := by
    rw [step_read_key (stable_kF env _)]
    decide
  have hreadG : step env (sTwo bytesBin) (.read (renderP kG)) = (.ok (.bytes bytesBin), sTwo bytesBin) := by
    rw [step_read_key (stable_kG env _)]
    decide
  simp only [runMacro, absK_eq, key_pF, key_pG, boolK_exists, boolK_isFile,
    eTest_key (stable_kF env sBin), eTest_key (stable_kG env (sTwo bytesBin)), call_of hsp, h1, h2, h3,
    contOf, Bool.not_true, Bool.false_eq_true, if_false, call_of hreadF, call_of hreadG, ne_eq,
    not_true_eq_false]

theorem sTwo_bin_content (env : Env) : pHasBytes env (sTwo bytesBin) pG bytesBin = true := by
  simp only [pHasBytes, nodeOf_key (key_pG env _)]
  decide

/-- `read_all` on the same file still fails (the text API cannot return 0xFF) — the macro no longer uses it -/
theorem readAll_bin_err (env : Env) :
    step env (sTwo bytesBin) (.readAll pF) = (.err .ioInvalidData, sTwo bytesBin) := by
  rw [step_readAll_key (key_pF env _)]
  decide

theorem macroSpec_copyfile_sFile (env : Env) : macroSpec env sFile (.copyfile pF pG) = (true, sTwo bytesOld) := by
  rw [macroSpec_of_not_noop rfl]
  simp only [opOf, step_copy_sFile, postSpec, nodeOf_key (key_pF env _), pHasBytes, nodeOf_key (key_pG env _)]
  decide

end Rivia.MacroLemmas
