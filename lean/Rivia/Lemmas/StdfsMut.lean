/-
  Rivia.Lemmas.StdfsMut — C02: the mutating operations
  (`set_cwd`, `mkfile`, `write_all`, `append_all`, the line helpers, `remove`, `remove_all`, `symlink`).
-/
import Rivia.Lemmas.StdfsOps
import Rivia.Lemmas.Lines

namespace Rivia.Lemmas.StdfsL
open Rivia Rivia.Memfs Rivia.File Rivia.Spec Rivia.Spec.TreeFs Rivia.Posix Rivia.Stdfs
open Rivia.Lemmas.RefineA (TEquiv get_put)
open Rivia.Stdfs.SM

variable {env : Env} {t : T}

/-! ### tree algebra -/

theorem alLookup_isSome_of_mem {β} {k : FsPath} {l : List (FsPath × β)}
    (h : k ∈ l.map (·.1)) : ∃ v, alLookup k l = some v :=
  Option.isSome_iff_exists.1 (alLookup_isSome_iff_mem_keys.2 h)

theorem get_del {t : T} (h : WfFacts t) (k q : FsPath) :
    get (del t k) q = if q = k then none else get t q := by
  unfold TreeFs.get del
  rw [alLookup_alErase h.nodup]
  by_cases hq : q = k
  · rw [if_pos hq, if_pos hq.symm]
  · rw [if_neg hq, if_neg (Ne.symm hq)]

theorem isDir_put_new {t : T} {k q : FsPath} {x : Node} (hk : get t k = none) (hq : isDir t q = true) :
    isDir (put t k x) q = true := by
  obtain ⟨n, hn, hkd⟩ := isDir_iff.1 hq
  have hne : k ≠ q := by intro h0; subst h0; rw [hk] at hn; cases hn
  exact isDir_iff.2 ⟨n, by rw [get_put, if_neg hne]; exact hn, hkd⟩

theorem wf_put_new {t : T} (h : WfFacts t) {k : FsPath} (x : Node) (hg : get t k = none)
    (hd : k ≠ [] → isDir t k.dropLast = true) : WfFacts (put t k x) := by
  refine ⟨nodup_alInsert h.nodup, isDir_put_new hg h.root, fun q n hq hne => ?_⟩
  rw [get_put] at hq
  by_cases hkq : k = q
  · subst hkq; exact isDir_put_new hg (hd hne)
  · rw [if_neg hkq] at hq
    exact isDir_put_new hg (h.parent q n hq hne)

theorem below_eq_nil_of_not_dir {t : T} (h : WfFacts t) {a : FsPath} (hd : isDir t a = false) :
    below t a = [] := by
  unfold below
  rw [List.filter_eq_nil_iff]
  intro q hq hp
  obtain ⟨n, hn⟩ : ∃ n, get t q = some n := alLookup_isSome_of_mem hq
  rw [get_below_none h hd hp] at hn
  cases hn

theorem isPrefixOrEq_iff (a q : FsPath) :
    isPrefixOrEq a q = true ↔ (q = a ∨ isProperPrefix a q = true) := by
  unfold isPrefixOrEq isProperPrefix
  simp only [Bool.and_eq_true, decide_eq_true_eq, beq_iff_eq]
  constructor
  · rintro ⟨h1, h2⟩
    by_cases hl : a.length = q.length
    · left; rw [← h2, hl, List.take_length]
    · right; exact ⟨by omega, h2⟩
  · rintro (h | ⟨h1, h2⟩)
    · subst h; simp
    · exact ⟨by omega, h2⟩

theorem isPrefixOrEq_self (a : FsPath) : isPrefixOrEq a a = true := (isPrefixOrEq_iff a a).2 (Or.inl rfl)

theorem get_filter_prefix (t : T) (a q : FsPath) :
    get { t with nodes := t.nodes.filter (fun kv => !(isPrefixOrEq a kv.1)) } q =
      if isPrefixOrEq a q = true then none else get t q := by
  unfold TreeFs.get
  rw [alLookup_filter_key (fun k => !(isPrefixOrEq a k))]
  cases isPrefixOrEq a q <;> rfl

theorem tequiv_filter_nonDir {t : T} (h : WfFacts t) {a : FsPath} (hd : isDir t a = false) (t0 : T)
    (hc : t0.cwd = t.cwd) (h0 : ∀ q, get t0 q = if q = a then none else get t q) :
    TEquiv t0 { t with nodes := t.nodes.filter (fun kv => !(isPrefixOrEq a kv.1)) } := by
  refine ⟨hc, fun q => ?_⟩
  rw [get_filter_prefix, h0]
  by_cases hq : q = a
  · rw [if_pos hq, hq, if_pos (isPrefixOrEq_self a)]
  · rw [if_neg hq]
    by_cases hp : isPrefixOrEq a q = true
    · rw [if_pos hp]
      exact get_below_none h hd (((isPrefixOrEq_iff a q).1 hp).resolve_left hq)
    · rw [if_neg hp]

/-! ### set_cwd -/

theorem sim_setCwd (h : Ctx env t) (p : Str) :
    Sim (Stdfs.step env t (.setCwd p)) (withPath env t p fun a => liftR .path (TreeFs.setCwd t a)) := by
  show Sim (Stdfs.mapVal .path (Stdfs.setCwd env p) t) _
  unfold Stdfs.setCwd TreeFs.setCwd
  refine sim_withPath h.cwd p _ _ _ fun a _ => ?_
  ssimp [chdir, linkFuel]
  cases hg : get t a with
  | none =>
    rw [followFinal_missing hg]
    cases walkErr t a with
    | some e => exact sim_err _ _ (TEquiv.refl _)
    | none => simp only [hg]; exact sim_err _ _ (TEquiv.refl _)
  | some n =>
    dsimp only
    cases hk : n.kind with
    | dir =>
      simp only [followFinal_nonlink h.wf hg (isLinkKind_dir hk), hg, hk, if_true]
      exact sim_ok _ (TEquiv.refl _)
    | file =>
      simp only [followFinal_nonlink h.wf hg (isLinkKind_file hk), hg, hk]
      exact sim_err _ _ (TEquiv.refl _)
    | link b =>
      cases b with
      | true => exact sim_unspec _ _
      | false =>
        obtain ⟨tg, m, ht, hm, hnl, hb⟩ := linksOk_lookup h.links hg hk
        have hmk : ¬ m.kind = .dir := of_decide_eq_false hb.symm
        simp only [followFinal_link h.wf hg hk ht hm hnl, hm, hmk, if_false]
        exact sim_err _ _ (TEquiv.refl _)

/-! ### File::create on a well-formed tree -/

theorem applyUmask_666 : ({ newFile with perm := applyUmask 0o666 } : Node) = newFile := by decide

theorem createFile_missing (h : Ctx env t) {k : FsPath} (hne : k ≠ []) (hg : get t k = none)
    (hd : isDir t k.dropLast = true) : createFile t k = .ok (k, put t k newFile) := by
  unfold createFile linkFuel
  rw [followFinal_missing hg, walkErr_of_dir h.wf hd]
  simp only [hne, if_false, hg, applyUmask_666]

theorem createFile_file (h : Ctx env t) {k : FsPath} {n : Node} (hg : get t k = some n)
    (hk : n.kind = .file) : createFile t k = .ok (k, put t k { n with data := [] }) := by
  have hne : k ≠ [] := ne_nil_of_not_dir h hg (by rw [hk]; nofun)
  unfold createFile linkFuel
  rw [followFinal_nonlink h.wf hg (isLinkKind_file hk)]
  simp only [hne, if_false, hg, hk, if_true]

theorem parentCheck_cases (t : T) {k : FsPath} (hne : k ≠ []) :
    (isDir t k.dropLast = true ∧ parentCheck t k = none) ∨
    (isDir t k.dropLast = false ∧ ∃ e, parentCheck t k = some e) := by
  unfold parentCheck isDir
  rw [if_neg hne]
  cases get t k.dropLast with
  | none => exact Or.inr ⟨rfl, _, rfl⟩
  | some n =>
    by_cases hk : n.kind = .dir
    · exact Or.inl ⟨decide_eq_true hk, if_pos hk⟩
    · exact Or.inr ⟨decide_eq_false hk, _, if_neg hk⟩

/-! ### mkfile -/

/-- `Stdfs::mkfile` after `abs` -/
def mkfileK (k : FsPath) : SM FsPath := do
  let d ← Stdfs.dirOf k
  let t ← getT
  match lstat t d with
  | .ok n => if n.kind ≠ .dir then SM.fail .isNotDir else SM.pure ()
  | .error _ => SM.fail .doesNotExist
  match lstat t k with
  | .ok n => if n.kind ≠ .file then SM.fail .isNotFile else SM.pure ()
  | .error _ => sysM (fun t => (createFile t k).map (·.2))
  return k

theorem mkfile_eq (p : Str) : Stdfs.mkfile env p = Stdfs.absM env p >>= mkfileK := rfl

theorem mkfileK_of_dir (h : Ctx env t) {k : FsPath} (hne : k ≠ []) (hd : isDir t k.dropLast = true) :
    mkfileK k t = match get t k with
      | some n => if n.kind = .file then (.ok k, t) else (.err .isNotFile, t)
      | none => (.ok k, put t k newFile) := by
  obtain ⟨d, hgd, hdk⟩ := isDir_iff.1 hd
  unfold mkfileK
  ssimp [hne, lstat_eq h.wf, hgd, hdk, ne_eq, not_true_eq_false]
  cases hg : get t k with
  | none => ssimp [createFile_missing h hne hg hd, Except.map]
  | some n => by_cases hk : n.kind = .file <;> ssimp [hk, not_true_eq_false, not_false_eq_true]

theorem mkfileK_of_not_dir (h : Ctx env t) {k : FsPath} (hd : k = [] ∨ isDir t k.dropLast = false) :
    ∃ e, mkfileK k t = (.err e, t) := by
  unfold mkfileK
  by_cases hne : k = []
  · exact ⟨.parentNotFound, by ssimp [hne]⟩
  · have hd := hd.resolve_left hne
    ssimp [hne, lstat_eq h.wf]
    cases hg : get t k.dropLast with
    | none => exact ⟨_, rfl⟩
    | some d =>
      have hk : ¬ d.kind = .dir := fun hk => by rw [isDir_of_get hg hk] at hd; cases hd
      exact ⟨.isNotDir, by ssimp [ne_eq, hk, not_false_eq_true]⟩

theorem sim_mkfile (h : Ctx env t) (p : Str) :
    Sim (Stdfs.step env t (.mkfile p)) (withPath env t p fun a => liftR .path (TreeFs.mkfile t a)) := by
  refine sim_withPath h.cwd p .path mkfileK _ fun a _ => ?_
  unfold TreeFs.mkfile Stdfs.mapVal
  by_cases hne : a = []
  · rw [if_pos hne]; exact sim_unspec _ _
  · rw [if_neg hne]
    rcases parentCheck_cases t hne with ⟨hd, hp⟩ | ⟨hd, e', hp⟩
    · rw [hp, mkfileK_of_dir h hne hd]
      cases get t a with
      | none => exact sim_ok _ (TEquiv.refl _)
      | some n =>
        by_cases hk : n.kind = .file
        · simp only [if_pos hk]; exact sim_ok _ (TEquiv.refl _)
        · simp only [if_neg hk]; exact sim_err _ _ (TEquiv.refl _)
    · obtain ⟨e, he⟩ := mkfileK_of_not_dir h (Or.inr hd)
      rw [hp, he]; exact sim_err _ _ (TEquiv.refl _)

/-! ### write_all / append_all -/

theorem writeFd_put (t : T) (k : FsPath) (x : Node) (d : Bytes) :
    writeFd (put t k x) k d = put t k { x with data := x.data ++ d } := by
  unfold writeFd
  rw [get_put_self]
  exact put_put _ _ _ _

theorem sim_writeAll (h : Ctx env t) (p : Str) (d : Bytes) :
    Sim (Stdfs.step env t (.writeAll p d))
      (withPath env t p fun a => liftR (fun _ => .unit) (TreeFs.writeAll t a d false)) := by
  show Sim (Stdfs.mapVal (fun _ => .unit) (Stdfs.writeAll env p d) t) _
  unfold Stdfs.writeAll TreeFs.writeAll
  refine sim_withPath h.cwd p _ _ _ fun a _ => ?_
  by_cases hne : a = []
  · subst hne; exact sim_err _ _ (TEquiv.refl _)
  · ssimp [hne, exists_eq_isSome h.wf h.links, isDirK_eq h.wf, isFileK_eq h.wf]
    rcases parentCheck_cases t hne with ⟨hd, hp⟩ | ⟨hd, e, hp⟩
    · ssimp [hp, isSome_of_isDir hd, hd]
      cases hg : get t a with
      | none =>
        ssimp [Option.isSome_none, Bool.false_and, createFile_missing h hne hg hd, writeFd_put]
        exact sim_ok _ (TEquiv.refl _)
      | some n =>
        by_cases hk : n.kind = .file
        · have hf : isFile t a = true := by unfold isFile; rw [hg]; exact decide_eq_true hk
          ssimp [Option.isSome_some, hf, Bool.and_false, createFile_file h hg hk, writeFd_put, hk]
          exact sim_ok _ (TEquiv.refl _)
        · have hf : isFile t a = false := by unfold isFile; rw [hg]; exact decide_eq_false hk
          ssimp [Option.isSome_some, hf, Bool.and_self, hk]
          split <;> exact sim_err _ _ (TEquiv.refl _)
    · rw [hp, hd]
      cases (get t a.dropLast).isSome <;> exact sim_err _ _ (TEquiv.refl _)

theorem openAppend_file (h : Ctx env t) {k : FsPath} {n : Node} (hg : get t k = some n)
    (hk : n.kind = .file) : Posix.openAppend t k = .ok k := by
  unfold Posix.openAppend linkFuel
  rw [followFinal_nonlink h.wf hg (isLinkKind_file hk)]
  simp only [hg, hk, if_true]

/-- `open(O_APPEND)` of the file `mkfile` has just created -/
theorem openAppend_new (h : Ctx env t) {k : FsPath} (hg : get t k = none)
    (hd : isDir t k.dropLast = true) : Posix.openAppend (put t k newFile) k = .ok k := by
  unfold Posix.openAppend linkFuel
  rw [followFinal_nonlink (wf_put_new h.wf newFile hg (fun _ => hd)) (get_put_self t k newFile) rfl]
  dsimp only
  rw [get_put_self]
  rfl

theorem sim_appendAll (h : Ctx env t) (p : Str) (d : Bytes) :
    Sim (Stdfs.step env t (.appendAll p d))
      (withPath env t p fun a => liftR (fun _ => .unit) (TreeFs.writeAll t a d true)) := by
  show Sim (Stdfs.mapVal (fun _ => .unit) (Stdfs.appendAll env p d) t) _
  unfold Stdfs.appendAll withPath Stdfs.mapVal
  simp only [mkfile_eq, SM_bind_apply, Stdfs.absM, absK_eq h.cwd]
  cases hr : resolve env t p with
  | ok a =>
    dsimp only
    unfold TreeFs.writeAll
    by_cases hne : a = []
    · obtain ⟨e, he⟩ := mkfileK_of_not_dir h (Or.inl hne)
      rw [he, if_pos hne]; exact sim_err _ _ (TEquiv.refl _)
    · rw [if_neg hne]
      rcases parentCheck_cases t hne with ⟨hd, hp⟩ | ⟨hd, e', hp⟩
      · rw [hp, mkfileK_of_dir h hne hd]
        cases hg : get t a with
        | none =>
          have hcw : isDir (put t a newFile) (put t a newFile).cwd = isDir t t.cwd := by
            rw [h.cwd]; exact isDir_put_new hg h.cwd
          simp only [absK_congr t (put t a newFile) rfl hcw, absK_eq h.cwd, hr, openAppend_new h hg hd,
            writeFd_put]
          exact sim_ok _ (TEquiv.refl _)
        | some n =>
          by_cases hk : n.kind = .file
          · simp only [if_pos hk, absK_eq h.cwd, hr, openAppend_file h hg hk, writeFd, hg]
            exact sim_ok _ (TEquiv.refl _)
          · simp only [if_neg hk]
            split <;> exact sim_err _ _ (TEquiv.refl _)
      · obtain ⟨e, he⟩ := mkfileK_of_not_dir h (Or.inr hd)
        rw [hp, he]; exact sim_err _ _ (TEquiv.refl _)
  | err e => exact sim_err _ _ (TEquiv.refl _)
  | panic => exact sim_unspec _ _
  | hang => exact sim_unspec _ _

/-! ### remove -/

theorem unlink_of_get (h : Ctx env t) {k : FsPath} {n : Node} (hg : get t k = some n) (hk : n.kind ≠ .dir) :
    unlink t k = .ok (del t k) := by
  unfold unlink
  rw [if_neg (ne_nil_of_not_dir h hg hk), walkErr_of_get h.wf hg, hg]
  exact if_neg hk

theorem rmdir_of_dir (h : Ctx env t) {k : FsPath} {n : Node} (hne : k ≠ []) (hg : get t k = some n)
    (hk : n.kind = .dir) :
    rmdir t k = if (below t k).isEmpty then .ok (del t k) else .error .ENOTEMPTY := by
  unfold rmdir
  simp only [hne, if_false, walkErr_of_get h.wf hg, hg, hk, ne_eq, not_true_eq_false]
  cases (below t k).isEmpty <;> rfl

theorem sim_remove (h : Ctx env t) (p : Str) :
    Sim (Stdfs.step env t (.remove p))
      (withPath env t p fun a => liftR (fun _ => .unit) (TreeFs.remove t a)) := by
  show Sim (Stdfs.mapVal (fun _ => .unit) (Stdfs.remove env p) t) _
  unfold Stdfs.remove TreeFs.remove
  refine sim_withPath h.cwd p _ _ _ fun a _ => ?_
  ssimp [lstat_eq h.wf]
  cases hg : get t a with
  | none =>
    by_cases hne : a = []
    · rw [if_pos hne]; exact sim_unspec _ _
    · rw [if_neg hne]
      cases get t a.dropLast with
      | none => exact sim_ok _ (TEquiv.refl _)
      | some m => by_cases hm : m.kind = .dir <;> simp only [hm, if_true, if_false] <;>
          first | exact sim_ok _ (TEquiv.refl _) | exact sim_unspec _ _
  | some n =>
    by_cases hk : n.kind = .dir
    · simp only [hk, ne_eq, not_true_eq_false, if_false]
      by_cases hne : a = []
      · subst hne; exact sim_err _ _ (TEquiv.refl _)
      · simp only [hne, if_false, rmdir_of_dir h hne hg hk]
        cases (below t a).isEmpty with
        | true => exact sim_ok _ (TEquiv.refl _)
        | false => exact sim_err _ _ (TEquiv.refl _)
    · ssimp [hk, ne_eq, not_false_eq_true, unlink_of_get h hg hk, ne_nil_of_not_dir h hg hk,
        below_eq_nil_of_not_dir h.wf (isDir_false_of_kind hg hk), List.isEmpty_nil]
      exact sim_ok _ (TEquiv.refl _)

/-! ### symlink -/

theorem resolve_cases (env : Env) (t : T) (p : Str) :
    (∃ a, resolve env t p = .ok a) ∨ (∃ e, resolve env t p = .err e) := by
  have := Rivia.Lemmas.absWith_total env (renderP t.cwd) p
  unfold resolve
  cases hr : absWith env (renderP t.cwd) p with
  | ok a => exact Or.inl ⟨_, rfl⟩
  | err e => exact Or.inr ⟨_, rfl⟩
  | panic => rw [hr] at this; exact absurd rfl this.1
  | hang => rw [hr] at this; exact absurd rfl this.2

theorem symlinkat_cases (h : Ctx env t) (l tg : FsPath) :
    (symlinkat t l tg = .ok (put t l ⟨.link (statIsDir t tg), 0o777, 1000, 1000, some tg, []⟩) ∧
      l ≠ [] ∧ isDir t l.dropLast = true ∧ get t l = none) ∨
    ((∃ e, symlinkat t l tg = .error e) ∧ (l = [] ∨ isDir t l.dropLast = false ∨ (get t l).isSome = true)) := by
  unfold symlinkat
  by_cases hne : l = []
  · exact Or.inr ⟨⟨_, if_pos hne⟩, Or.inl hne⟩
  · rw [if_neg hne]
    cases hd : isDir t l.dropLast with
    | true =>
      rw [walkErr_of_dir h.wf hd]
      cases hg : get t l with
      | none => exact Or.inl ⟨rfl, hne, rfl, rfl⟩
      | some n => exact Or.inr ⟨⟨_, rfl⟩, Or.inr (Or.inr rfl)⟩
    | false =>
      cases hw : walkErr t l with
      | none =>
        rcases (walkErr_none_iff h.wf l).1 hw with h0 | h0
        · exact absurd h0 hne
        · rw [h0] at hd; cases hd
      | some e => exact Or.inr ⟨⟨e, rfl⟩, Or.inr (Or.inl rfl)⟩

/-- `Stdfs::symlink` once the link is resolved and the target string is chosen -/
def symlinkK (env : Env) (la : FsPath) (tstr : Str) : SM FsPath := do
  let tg ← Stdfs.absM env tstr
  let _ ← Stdfs.dirOf la
  sysM (symlinkat · la tg)
  return la

theorem sim_symlinkK (h : Ctx env t) {la : FsPath} (hne : la ≠ []) (tstr : Str) :
    Sim (Stdfs.mapVal Val.path (symlinkK env la tstr) t)
      (if la = [] ∨ (get t la).isSome then (.err none, t) else
        withPath env t tstr fun ta => liftR .path (TreeFs.symlink t la ta)) := by
  unfold symlinkK
  by_cases hex : (get t la).isSome = true
  · -- the link path exists: `symlinkat` fails whatever the target resolves to
    rw [if_pos (Or.inr hex)]
    ssimp [absK_eq h.cwd, hne]
    rcases resolve_cases env t tstr with ⟨a, ha⟩ | ⟨e, ha⟩
    · rcases symlinkat_cases h la a with ⟨_, _, _, hg⟩ | ⟨⟨e, he⟩, _⟩
      · rw [hg] at hex; cases hex
      · simp only [ha, he]; exact sim_err _ _ (TEquiv.refl _)
    · simp only [ha]; exact sim_err _ _ (TEquiv.refl _)
  · rw [if_neg (fun hor => hor.elim hne hex)]
    refine sim_withPath h.cwd _ _ _ _ fun ta _ => ?_
    ssimp [hne]
    unfold TreeFs.symlink
    rw [if_neg hne]
    rcases symlinkat_cases h la ta with ⟨hok, _, hd, hg⟩ | ⟨⟨e, he⟩, hwhy⟩
    · rcases parentCheck_cases t hne with ⟨_, hp⟩ | ⟨hd', _⟩
      · simp only [hok, hp, hg, statIsDir_eq h.wf h.links]
        exact sim_ok _ (TEquiv.refl _)
      · rw [hd] at hd'; cases hd'
    · simp only [he]
      rcases hwhy with h0 | hd | hs
      · exact absurd h0 hne
      · rcases parentCheck_cases t hne with ⟨hd', _⟩ | ⟨_, e', hp⟩
        · rw [hd] at hd'; cases hd'
        · rw [hp]; exact sim_err _ _ (TEquiv.refl _)
      · exact absurd hs hex

theorem sim_symlink (h : Ctx env t) (l tg : Str) :
    Sim (Stdfs.step env t (.symlink l tg)) (withPath env t l fun la =>
      if la = [] ∨ (get t la).isSome then (.err none, t) else
      let tstr := if isAbsolute tg then tg else mash (renderP la.dropLast) tg
      withPath env t tstr fun ta => liftR .path (TreeFs.symlink t la ta)) := by
  show Sim (Stdfs.mapVal .path (Stdfs.symlink env l tg) t) _
  unfold Stdfs.symlink
  refine sim_withPath h.cwd l _ _ _ fun la _ => ?_
  by_cases hne : la = []
  · -- `link.dir()?` fails for `/`, before or after the target is resolved
    subst hne
    rw [if_pos (Or.inl rfl)]
    by_cases habs : isAbsolute tg = true
    · ssimp [habs, absK_eq h.cwd]
      rcases resolve_cases env t tg with ⟨a, ha⟩ | ⟨e, ha⟩ <;> simp only [ha] <;>
        exact sim_err _ _ (TEquiv.refl _)
    · ssimp [habs]
      exact sim_err _ _ (TEquiv.refl _)
  · by_cases habs : isAbsolute tg = true
    · simp only [habs, if_true]
      exact sim_symlinkK h hne tg
    · have key := sim_symlinkK h hne (mash (renderP la.dropLast) tg)
      unfold symlinkK at key
      simp only [habs, Bool.false_eq_true, if_false, Stdfs.dirOf, hne] at key ⊢
      exact key

/-! ### remove_all -/

theorem sim_removeAll (h : Ctx env t) (p : Str) :
    Sim (Stdfs.step env t (.removeAll p))
      (withPath env t p fun a => liftR (fun _ => .unit) (TreeFs.removeAll t a)) := by
  show Sim (Stdfs.mapVal (fun _ => .unit) (Stdfs.removeAll env p) t) _
  unfold Stdfs.removeAll TreeFs.removeAll
  refine sim_withPath h.cwd p _ _ _ fun a _ => ?_
  by_cases hne : a = []
  · rw [if_pos hne]; exact sim_unspec _ _
  · ssimp [hne, liftR, lstat_eq h.wf]
    cases hg : get t a with
    | none =>
      refine ⟨rfl, fun _ => ?_⟩
      exact tequiv_filter_nonDir h.wf (by unfold isDir; rw [hg]) t rfl
        (fun q => by by_cases hq : q = a <;> simp [hq, hg])
    | some n =>
      by_cases hk : n.kind = .dir
      · ssimp [hk, removeDirAll, lstat_of_get h.wf hg, hne]
        exact sim_ok _ (TEquiv.refl _)
      · ssimp [hk, unlink_of_get h hg hk]
        exact ⟨rfl, fun _ => tequiv_filter_nonDir h.wf (isDir_false_of_kind hg hk) (del t a) rfl
          (fun q => get_del h.wf a q)⟩

/-! ### write_lines / append_lines / append_line -/

theorem joinLines_some {ls : List Str} (h : (joinLines ls).isSome = true) :
    joinLines ls = some (ls.flatMap (fun l => utf8 l ++ [10])) := by
  have hne : Str.joinWith '\n' ls ≠ [] := by
    intro h0; rw [Rivia.Lemmas.joinLines_eq, if_pos h0] at h; cases h
  exact Rivia.Lemmas.joinLines_of_ne hne

theorem sim_writeLines (h : Ctx env t) (p : Str) (ls : List Str) (hdom : (joinLines ls).isSome = true) :
    Sim (Stdfs.step env t (.writeLines p ls)) (withPath env t p fun a =>
      liftR (fun _ => .unit) (TreeFs.writeAll t a (ls.flatMap (fun l => utf8 l ++ [10])) false)) := by
  show Sim (Stdfs.mapVal (fun _ => .unit) (Stdfs.writeLines env p ls) t) _
  rw [Stdfs.writeLines, joinLines_some hdom]
  exact sim_writeAll h p _

theorem sim_appendLines (h : Ctx env t) (p : Str) (ls : List Str) (hdom : (joinLines ls).isSome = true) :
    Sim (Stdfs.step env t (.appendLines p ls)) (withPath env t p fun a =>
      liftR (fun _ => .unit) (TreeFs.writeAll t a (ls.flatMap (fun l => utf8 l ++ [10])) true)) := by
  show Sim (Stdfs.mapVal (fun _ => .unit) (Stdfs.appendLines env p ls) t) _
  rw [Stdfs.appendLines, joinLines_some hdom]
  exact sim_appendAll h p _

theorem sim_appendLine (h : Ctx env t) (p : Str) (l : Str) (hdom : l ≠ []) :
    Sim (Stdfs.step env t (.appendLine p l)) (withPath env t p fun a =>
      liftR (fun _ => .unit) (TreeFs.writeAll t a (utf8 l ++ [10]) true)) := by
  show Sim (Stdfs.mapVal (fun _ => .unit) (Stdfs.appendLine env p l) t) _
  rw [Stdfs.appendLine, if_neg hdom]
  exact sim_appendAll h p _

/-! ### read_lines -/

theorem stripCr_eq (l : Str) :
    Rivia.Lemmas.stripCr l = (if l.getLast? = some '\r' then l.dropLast else l) := by
  unfold Rivia.Lemmas.stripCr
  split
  · rename_i r hr
    have hl : l = r.reverse ++ ['\r'] := by
      have := congrArg List.reverse hr
      simpa using this
    subst hl; simp
  · rename_i hno
    have : l.getLast? ≠ some '\r' := by
      intro hg
      rw [List.getLast?_eq_head?_reverse] at hg
      cases hr : l.reverse with
      | nil => rw [hr] at hg; cases hg
      | cons c r =>
        rw [hr] at hg; simp only [List.head?_cons, Option.some.injEq] at hg
        subst hg; exact hno r hr
    rw [if_neg this]

/-- `BufRead::lines` as transcribed = the reference's description of "the lines of a text" -/
theorem splitLines_eq_specLines (s : Str) : splitLines s = specLines s := by
  rw [Rivia.Lemmas.splitLines_eq]
  unfold specLines
  simp only
  generalize Str.splitOn '\n' s = ps
  cases hr : ps.reverse with
  | nil =>
    have : ps = [] := by simpa using hr
    subst this; rfl
  | cons lastp initRev =>
    have hp : ps = initRev.reverse ++ [lastp] := by
      have := congrArg List.reverse hr
      simpa using this
    subst hp
    simp only [List.length_append, List.length_cons, List.length_nil, Nat.zero_add, Nat.add_sub_cancel,
      List.take_left', List.getLast?_append, List.getLast?_singleton, Option.some_or]
    have hm : ∀ (l : List Str), l.map Rivia.Lemmas.stripCr =
        l.map (fun l => if l.getLast? = some '\r' then l.dropLast else l) :=
      fun l => List.map_congr_left (fun x _ => stripCr_eq x)
    rw [hm]
    cases lastp with
    | nil => simp
    | cons c cs => simp

theorem SM_bind_assoc {α β γ} (m : SM α) (f : α → SM β) (g : β → SM γ) :
    (m >>= f) >>= g = m >>= fun a => f a >>= g := by
  funext t
  simp only [SM_bind_apply]
  cases h : m t with
  | mk o t' => cases o <;> rfl

theorem sim_readLines (h : Ctx env t) (p : Str) :
    Sim (Stdfs.step env t (.readLines p)) (withPath env t p fun a =>
      match get t a with
      | none => (.err (some .doesNotExist), t)
      | some n => if n.kind = .file then
          (match decodeUtf8 n.data with | some s => (.ok (.strs (specLines s)), t) | none => (.err none, t))
        else if n.kind = .dir then (.err (some .isNotFile), t) else (.err none, t)) := by
  show Sim (Stdfs.mapVal .strs (Stdfs.readLines env p) t) _
  rw [Stdfs.readLines, read_eq, SM_bind_assoc]
  refine sim_withPath h.cwd p _ _ _ fun a _ => ?_
  rw [Stdfs.mapVal, SM_bind_apply, readK_eq h]
  cases get t a with
  | none => exact sim_err _ _ (TEquiv.refl _)
  | some n =>
    by_cases hk : n.kind = .file
    · simp only [if_pos hk]
      cases decodeUtf8 n.data with
      | some s => dsimp only; rw [splitLines_eq_specLines]; exact sim_ok _ (TEquiv.refl _)
      | none => exact sim_err _ _ (TEquiv.refl _)
    · simp only [if_neg hk]; split <;> exact sim_err _ _ (TEquiv.refl _)

end Rivia.Lemmas.StdfsL
