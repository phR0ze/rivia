/-
  Rivia.Lemmas.StdfsMain — C02: the per-step refinement theorem, assembled from the per-operation
  simulation lemmas.
-/
import Rivia.Lemmas.StdfsChmod
import Rivia.Lemmas.SimCongr

namespace Rivia.Lemmas.StdfsL
open Rivia Rivia.Memfs Rivia.File Rivia.Spec Rivia.Spec.TreeFs Rivia.Posix Rivia.Stdfs
open Rivia.Lemmas.RefineA (TEquiv ResMatch)

theorem ctx_of {env : Env} {t : T} {op : Op} (hW : Wf t) (hD : D2 env t op) : Ctx env t ∧ opOk env t op = true := by
  unfold D2 d2B at hD
  simp only [Bool.and_eq_true] at hD
  obtain ⟨⟨⟨⟨h1, h2⟩, h3⟩, _⟩, h5⟩ := hD
  exact ⟨⟨wf_facts hW, h1, h2, h3⟩, h5⟩

theorem of_sim {m : Outcome Val × T} {x : SR} {r : R Val} {t' : T} (hs : Sim m x)
    (h : some x = some (r, t')) : ResMatchOkErr m.1 r ∧ (r ≠ .unspecified → TEquiv m.2 t') := by
  cases h; exact hs

theorem notLink_of {env : Env} {t : T} {p : Str} (h : notLinkArg env t p = true) :
    ∀ a, resolve env t p = .ok a → isLink t a = false := by
  intro a ha
  unfold notLinkArg at h
  rw [ha] at h
  simpa using h

theorem refines_step (env : Env) (t : T) (op : Op) (r : R Val) (t' : T)
    (hW : Wf t) (hD : D2 env t op) (hC : CoveredS op = true)
    (h : specStep env t op = some (r, t')) :
    ResMatchOkErr (Stdfs.step env t op).1 r ∧ (r ≠ .unspecified → TEquiv (Stdfs.step env t op).2 t') := by
  obtain ⟨hc, ho⟩ := ctx_of hW hD
  cases op <;> first | cases hC | skip
  case cwd => exact of_sim (sim_cwd hc) h
  case root => exact of_sim sim_root h
  case abs p => exact of_sim (sim_abs hc p) h
  case «exists» p => exact of_sim (sim_exists hc p) h
  case isDir p => exact of_sim (sim_isDir hc p) h
  case isFile p => exact of_sim (sim_isFile hc p) h
  case isSymlink p => exact of_sim (sim_isSymlink hc p) h
  case isSymlinkDir p => exact of_sim (sim_isSymlinkDir hc p) h
  case isSymlinkFile p => exact of_sim (sim_isSymlinkFile hc p) h
  case isExec p => exact of_sim (sim_isExec hc p (notLink_of ho)) h
  case isReadonly p => exact of_sim (sim_isReadonly hc p (notLink_of ho)) h
  case mode p => exact of_sim (sim_mode hc p) h
  case uid p => exact of_sim (sim_uid hc p (notLink_of ho)) h
  case gid p => exact of_sim (sim_gid hc p (notLink_of ho)) h
  case owner p => exact of_sim (sim_owner hc p (notLink_of ho)) h
  case readAll p => exact of_sim (sim_readAll hc p) h
  case read p => exact of_sim (sim_read hc p) h
  case readlink p => exact of_sim (sim_readlink hc p) h
  case readlinkAbs p => exact of_sim (sim_readlinkAbs hc p) h
  case setCwd p => exact of_sim (sim_setCwd hc p) h
  case mkfile p => exact of_sim (sim_mkfile hc p) h
  case writeAll p d => exact of_sim (sim_writeAll hc p d) h
  case appendAll p d => exact of_sim (sim_appendAll hc p d) h
  case remove p => exact of_sim (sim_remove hc p) h
  case removeAll p => exact of_sim (sim_removeAll hc p) h
  case symlink l tg => exact of_sim (sim_symlink hc l tg) h
  case writeLines p ls => exact of_sim (sim_writeLines hc p ls ho) h
  case appendLines p ls => exact of_sim (sim_appendLines hc p ls ho) h
  case appendLine p l => exact of_sim (sim_appendLine hc p l (of_decide_eq_true ho)) h
  case readLines p => exact of_sim (sim_readLines hc p) h
  case chmod p m =>
    obtain ⟨hm0, hok⟩ := Bool.and_eq_true_iff.1 ho
    simp only [specStep] at h
    split at h
    · rename_i hm
      have hm' : m < 0o10000 := of_decide_eq_true hm
      have key := sim_chmodK hc p (c := { dirs := m, files := m }) ⟨rfl, rfl, hm', hm'⟩ hok
      rw [oct_ne (of_decide_eq_true hm0)] at key
      exact of_sim key h
    · cases h
  case chmodB p c =>
    obtain ⟨hs, hok⟩ := Bool.and_eq_true_iff.1 ho
    have hs := of_decide_eq_true hs
    simp only [specStep] at h
    by_cases hf : c.follow = true
    · rw [if_pos hf] at h; cases h
    · rw [if_neg hf, if_pos hs] at h
      split at h
      · rename_i hp
        exact of_sim (sim_chmodK hc p ⟨hs, eq_false_of_ne_true hf, of_decide_eq_true hp.1, of_decide_eq_true hp.2⟩ hok) h
      · cases h
  case chown p uid gid => exact of_sim (sim_chownK hc p (some uid) (some gid) true ho) h
  case chownB p c =>
    obtain ⟨cu, cg, cf, cr⟩ := c
    cases cf with
    | true => cases h
    | false => exact of_sim (sim_chownK hc p cu cg cr ho) h
  case paths p =>
    exact of_sim (sim_listing1 hc (listOk_facts ho) p wantAll (fun _ => true) hw_all (fun _ => true)
      (fun _ _ _ _ _ _ _ => rfl)) h
  case dirs p =>
    exact of_sim (sim_listing1 hc (listOk_facts ho) p wantDirs _ hw_dirs (fun n => decide (n.kind = .dir))
      (fun _ _ _ _ _ _ _ => rfl)) h
  case files p =>
    exact of_sim (sim_listing1 hc (listOk_facts ho) p wantFiles _ hw_files (fun n => decide (n.kind = .file))
      (fun _ _ _ _ _ _ _ => rfl)) h
  case allPaths p =>
    exact of_sim (sim_listingAll hc (listOk_facts ho) p wantAll (fun _ => true) hw_all (fun _ => true)
      (fun _ _ _ _ _ _ _ => rfl)) h
  case allDirs p =>
    exact of_sim (sim_listingAll hc (listOk_facts ho) p wantDirs _ hw_dirs (fun n => decide (n.kind = .dir))
      (fun _ _ _ _ _ _ _ => rfl)) h
  case allFiles p =>
    exact of_sim (sim_listingAll hc (listOk_facts ho) p wantFiles _ hw_files (fun n => decide (n.kind = .file))
      (fun _ _ _ _ _ _ _ => rfl)) h
  case moveP a b =>
    refine of_sim (sim_moveP hc a b ?_) h
    intro sa da hsa hda
    simp only [opOk, hsa, hda] at ho
    exact ho
  case mkdirP p => exact of_sim (sim_mkdirP hc p) h
  case mkdirM p m =>
    simp only [specStep] at h
    split at h
    · rename_i hm; exact of_sim (sim_mkdirM hc p m hm.1) h
    · cases h

/-! ### composition with the Memfs refinement -/

/-- ok/err together, equal values on ok -/
def OutcomeAgree : Outcome Val → Outcome Val → Prop
  | .ok v, .ok w => v = w
  | .err _, .err _ => True
  | _, _ => False

theorem okErr_ok {m : Outcome Val} {w : Val} (h : ResMatchOkErr m (.ok w)) : m = .ok w := by
  cases m <;> first | exact congrArg _ h | exact h.elim

theorem okErr_err {m : Outcome Val} {k : Option ErrKind} (h : ResMatchOkErr m (.err k)) : ∃ e, m = .err e := by
  cases m <;> first | exact ⟨_, rfl⟩ | exact h.elim

theorem okErr_of_resMatch {m : Outcome Val} {r : R Val} (h : ResMatch m r) : ResMatchOkErr m r := by
  cases r with
  | unspecified => exact rmoe_unspec m
  | ok w => cases m <;> exact h
  | err k => cases m <;> first | exact rmoe_err _ _ | (cases k <;> exact h)

theorem agree_of_okErr {m st : Outcome Val} {r : R Val} (h1 : ResMatchOkErr m r) (h2 : ResMatchOkErr st r)
    (hr : r ≠ .unspecified) : OutcomeAgree m st := by
  cases r with
  | unspecified => exact absurd rfl hr
  | ok w => rw [okErr_ok h1, okErr_ok h2]; exact rfl
  | err k =>
    obtain ⟨_, rfl⟩ := okErr_err h1
    obtain ⟨_, rfl⟩ := okErr_err h2
    exact trivial

theorem backends_agree (env : Env) (s : State) (op : Op) (r : R Val) (t' : T)
    (hM : ResMatch (Memfs.step env s op).1 r ∧ (r ≠ .unspecified → TEquiv (absS (Memfs.step env s op).2) t'))
    (hS : ResMatchOkErr (Stdfs.step env (absS s) op).1 r ∧
      (r ≠ .unspecified → TEquiv (Stdfs.step env (absS s) op).2 t'))
    (hr : r ≠ .unspecified) :
    OutcomeAgree (Memfs.step env s op).1 (Stdfs.step env (absS s) op).1 ∧
      TEquiv (absS (Memfs.step env s op).2) (Stdfs.step env (absS s) op).2 :=
  ⟨agree_of_okErr (okErr_of_resMatch hM.1) hS.1 hr, Sim.TEquiv.trans (hM.2 hr) (Sim.TEquiv.symm (hS.2 hr))⟩

/-- every group-A operation of C01 is covered here -/
theorem groupA_covered (op : Op) (hA : Rivia.Lemmas.RefineA.GroupA op = true) : CoveredS op = true := by
  cases op <;> first | rfl | cases hA

end Rivia.Lemmas.StdfsL
