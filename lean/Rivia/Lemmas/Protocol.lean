/-
  Rivia.Lemmas.Protocol — `trimProtocol` drops exactly one leading `<scheme>://`.

  The prefix up to and including the first `//` ends at its first `//`; so does each of the four
  patterns; hence a pattern that is a prefix of it is all of it, and the chain of
  `trim_start_matches` calls empties it iff it is one of the patterns.
-/
import Rivia.Model.Path
import Rivia.Spec.PathLaws

namespace Rivia.Lemmas
open Rivia Rivia.Str Rivia.Spec

/-- the separator `//` searched for by `trimProtocol` -/
abbrev SS : Str := ['/', '/']

/-! ### lower-casing never creates or destroys a `/` -/

theorem ofNat_ne_slash : ∀ k : Fin 26, Char.ofNat (65 + k.val + 32) ≠ '/' := by decide

theorem lowerChar_eq_slash {c : Char} : lowerChar c = '/' ↔ c = '/' := by
  unfold lowerChar
  split
  · next h =>
    have h1 : 65 ≤ c.toNat := h.1
    have h2 : c.toNat ≤ 90 := h.2
    have := ofNat_ne_slash ⟨c.toNat - 65, by omega⟩
    rw [show 65 + (c.toNat - 65) = c.toNat from Nat.add_sub_cancel' h1] at this
    exact ⟨fun e => absurd e this, fun e => by rw [e] at h1; exact absurd h1 (by decide)⟩
  · exact Iff.rfl

theorem isPrefixOf_SS_cons_cons (c1 c2 : Char) (r : Str) :
    SS.isPrefixOf (c1 :: c2 :: r) = (decide (c1 = '/') && decide (c2 = '/')) := by
  have e : ∀ c : Char, ('/' == c) = decide (c = '/') := fun c => decide_eq_decide.2 eq_comm
  simp only [List.isPrefixOf, e, Bool.and_true]

theorem isPrefixOf_SS_single (c : Char) : SS.isPrefixOf [c] = false := by
  simp [List.isPrefixOf]

theorem isPrefixOf_SS_nil : SS.isPrefixOf ([] : Str) = false := rfl

theorem isPrefixOf_SS_lower (s : Str) : SS.isPrefixOf (lower s) = SS.isPrefixOf s := by
  match s with
  | [] => rfl
  | [c] => simp [lower, isPrefixOf_SS_single]
  | c1 :: c2 :: r =>
    simp only [lower, List.map_cons, isPrefixOf_SS_cons_cons, lowerChar_eq_slash]

theorem length_lower (s : Str) : (lower s).length = s.length := List.length_map _

/-! ### findIdx for `//` -/

theorem findIdx_nil_SS : findIdx [] SS = none := rfl

theorem findIdx_cons_SS (c : Char) (cs : Str) :
    findIdx (c :: cs) SS =
      if SS.isPrefixOf (c :: cs) then some 0 else (findIdx cs SS).map (· + 1) := rfl

theorem findIdx_single_SS (c : Char) : findIdx [c] SS = none := by
  rw [findIdx_cons_SS, isPrefixOf_SS_single]; rfl

theorem findIdx_lower (s : Str) : findIdx (lower s) SS = findIdx s SS := by
  induction s with
  | nil => rfl
  | cons c cs ih =>
    have := isPrefixOf_SS_lower (c :: cs)
    simp only [lower, List.map_cons] at this ih ⊢
    rw [findIdx_cons_SS, findIdx_cons_SS, this, ih]

theorem findIdx_noslash_prefix {q : Str} (hq : '/' ∉ q) (r : Str) :
    findIdx (q ++ '/' :: '/' :: r) SS = some q.length := by
  induction q with
  | nil => rfl
  | cons c q ih =>
    simp only [List.mem_cons, not_or] at hq
    have hp : SS.isPrefixOf (c :: (q ++ '/' :: '/' :: r)) = false := by
      cases q <;> simp [isPrefixOf_SS_cons_cons, Ne.symm hq.1]
    rw [List.cons_append, findIdx_cons_SS, hp, ih hq.2]
    rfl

theorem findIdx_take {s : Str} {i : Nat} (h : findIdx s SS = some i) :
    findIdx (s.take (i + 2)) SS = some i ∧ (s.take (i + 2)).length = i + 2 := by
  induction s generalizing i with
  | nil => cases h
  | cons c cs ih =>
    cases cs with
    | nil => rw [findIdx_single_SS] at h; cases h
    | cons c2 r =>
      rw [findIdx_cons_SS, isPrefixOf_SS_cons_cons] at h
      split at h
      · next hp =>
        obtain rfl := Option.some.inj h
        exact ⟨by rw [List.take_succ_cons, List.take_succ_cons, List.take_zero, findIdx_cons_SS,
          isPrefixOf_SS_cons_cons, if_pos hp], rfl⟩
      · next hp =>
        cases hj : findIdx (c2 :: r) SS with
        | none => rw [hj] at h; cases h
        | some j =>
          rw [hj] at h
          obtain rfl := Option.some.inj h
          obtain ⟨h1, h2⟩ := ih hj
          rw [show j + 1 + 2 = (j + 2) + 1 by omega, List.take_succ_cons]
          refine ⟨?_, by rw [List.length_cons, h2]⟩
          rw [List.take_succ_cons] at h1 ⊢
          rw [findIdx_cons_SS, isPrefixOf_SS_cons_cons, if_neg hp, h1]
          rfl

/-! ### trimStartMatches -/

theorem tsmAux_nil {pat : Str} (hp : pat ≠ []) (k : Nat) : trimStartMatchesAux pat k [] = [] := by
  cases k with
  | zero => rfl
  | succ k =>
    cases pat with
    | nil => exact absurd rfl hp
    | cons a b => rfl

theorem tsm_nil (pat : Str) : trimStartMatches [] pat = [] := by
  unfold trimStartMatches
  split <;> rfl

theorem tsm_not_prefix {pat l : Str} (h : pat.isPrefixOf l = false) : trimStartMatches l pat = l := by
  unfold trimStartMatches
  split
  · rfl
  · cases l.length with
    | zero => rfl
    | succ k => simp [trimStartMatchesAux, h]

theorem tsm_self {pat : Str} (hp : pat ≠ []) : trimStartMatches pat pat = [] := by
  unfold trimStartMatches
  rw [if_neg (by simpa using hp)]
  cases hk : pat.length with
  | zero => exact absurd (List.eq_nil_of_length_eq_zero hk) hp
  | succ k =>
    have hpp : pat.isPrefixOf pat = true := List.isPrefixOf_iff_prefix.2 (List.prefix_refl _)
    simp only [trimStartMatchesAux, hpp, if_true]
    rw [List.drop_length]
    exact tsmAux_nil hp k

/-- `l` ends with its first `//`. -/
def EndsAtFirstSS (l : Str) : Prop := ∃ i, findIdx l SS = some i ∧ l.length = i + 2

theorem EndsAtFirstSS.take {s : Str} {i : Nat} (h : findIdx s SS = some i) :
    EndsAtFirstSS (lower (s.take (i + 2))) :=
  ⟨i, by rw [findIdx_lower, (findIdx_take h).1], by rw [length_lower, (findIdx_take h).2]⟩

theorem EndsAtFirstSS.ne_nil {l : Str} (h : EndsAtFirstSS l) : l ≠ [] := by
  obtain ⟨i, _, hlen⟩ := h
  rintro rfl
  cases hlen

theorem eq_of_prefix_of_endsAtFirstSS {l q : Str} (hl : EndsAtFirstSS l) (hq : '/' ∉ q)
    (hp : (q ++ SS).isPrefixOf l = true) : l = q ++ SS := by
  obtain ⟨r, rfl⟩ := List.isPrefixOf_iff_prefix.1 hp
  obtain ⟨i, h1, h2⟩ := hl
  rw [List.append_assoc] at h1
  rw [show SS ++ r = '/' :: '/' :: r from rfl, findIdx_noslash_prefix hq r] at h1
  rw [← Option.some.inj h1, List.length_append, List.length_append, Nat.add_assoc] at h2
  rw [List.eq_nil_of_length_eq_zero (l := r) (Nat.add_left_cancel
    (Nat.add_left_cancel h2 : SS.length + r.length = SS.length + 0)), List.append_nil]

theorem tsm_endsAtFirstSS {l q : Str} (hl : EndsAtFirstSS l) (hq : '/' ∉ q) :
    trimStartMatches l (q ++ SS) = if l = q ++ SS then [] else l := by
  split
  · next h => rw [h]; exact tsm_self (by simp)
  · next hne =>
    apply tsm_not_prefix
    cases h : (q ++ SS).isPrefixOf l with
    | false => rfl
    | true => exact absurd (eq_of_prefix_of_endsAtFirstSS hl hq h) hne

theorem foldl_tsm_endsAtFirstSS {l : Str} (hl : EndsAtFirstSS l) {pats : List Str}
    (hp : ∀ pat ∈ pats, ∃ q, '/' ∉ q ∧ pat = q ++ SS) :
    pats.foldl trimStartMatches l = if l ∈ pats then [] else l := by
  induction pats with
  | nil => rfl
  | cons pat rest ih =>
    obtain ⟨q, hq, rfl⟩ := hp _ List.mem_cons_self
    rw [List.foldl_cons, tsm_endsAtFirstSS hl hq]
    by_cases h : l = q ++ SS
    · rw [if_pos h, if_pos (h ▸ List.mem_cons_self)]
      clear ih hp
      induction rest with
      | nil => rfl
      | cons p r ih => rwa [List.foldl_cons, tsm_nil]
    · rw [if_neg h, ih (fun p hp' => hp p (List.mem_cons_of_mem _ hp'))]
      simp only [List.mem_cons, h, false_or]

/-! ### the schemes -/

/-- the four `trim_start_matches` calls of `trim_protocol` -/
def stripSchemes (l : Str) : Str :=
  trimStartMatches (trimStartMatches (trimStartMatches (trimStartMatches l (proto "file://"))
    (proto "ftp://")) (proto "http://")) (proto "https://")

def protoPats : List Str := [proto "file://", proto "ftp://", proto "http://", proto "https://"]

theorem stripSchemes_eq_foldl (l : Str) : stripSchemes l = protoPats.foldl trimStartMatches l := by
  simp only [stripSchemes, protoPats, List.foldl_cons, List.foldl_nil]

theorem trimProtocol_unfold (s : Str) :
    trimProtocol s = match findIdx s SS with
      | none => s
      | some i =>
        if stripSchemes (lower (s.take (i + 2))) ≠ [] then s.take (i + 2) ++ s.drop (i + 2)
        else s.drop (i + 2) := rfl

theorem protoPats_eq : protoPats = schemes.map (fun sc => (sc ++ [':']) ++ SS) := by decide +kernel

theorem schemes_noslash : ∀ sc ∈ schemes, '/' ∉ sc ++ [':'] := by decide +kernel

theorem scheme_pat (sc : Str) : sc ++ "://".toList = (sc ++ [':']) ++ SS := by
  rw [List.append_assoc]; rfl

theorem stripSchemes_eq {l : Str} (hl : EndsAtFirstSS l) :
    stripSchemes l = if ∃ sc ∈ schemes, l = sc ++ "://".toList then [] else l := by
  rw [stripSchemes_eq_foldl, foldl_tsm_endsAtFirstSS hl, protoPats_eq]
  · simp only [List.mem_map, scheme_pat, @eq_comm _ l]
  · rw [protoPats_eq]
    intro pat hpat
    obtain ⟨sc, hsc, rfl⟩ := List.mem_map.1 hpat
    exact ⟨_, schemes_noslash sc hsc, rfl⟩

theorem findIdx_of_scheme_prefix {p sc : Str} (h : sc ∈ schemes)
    (hm : lower (p.take (sc.length + 3)) = sc ++ "://".toList) :
    findIdx p SS = some (sc.length + 1) := by
  have hp : lower p = (sc ++ [':']) ++ '/' :: '/' :: lower (p.drop (sc.length + 3)) := by
    have h1 : lower p = lower (p.take (sc.length + 3)) ++ lower (p.drop (sc.length + 3)) := by
      rw [lower, lower, lower, ← List.map_append, List.take_append_drop]
    rw [h1, hm, scheme_pat, List.append_assoc]
    rfl
  rw [← findIdx_lower, hp, findIdx_noslash_prefix (schemes_noslash sc h), List.length_append]
  rfl

theorem trimProtocol_eq_spec (p : Str) : trimProtocol p = trimProtocolSpec p := by
  rw [trimProtocol_unfold]
  unfold trimProtocolSpec
  cases hs : schemes.find? (fun sc => lower (p.take (sc.length + 3)) == sc ++ "://".toList) with
  | some sc =>
    have hmem := List.mem_of_find?_eq_some hs
    have hm : lower (p.take (sc.length + 3)) = sc ++ "://".toList :=
      eq_of_beq (List.find?_some (p := fun sc => lower (p.take (sc.length + 3)) == sc ++ "://".toList) hs)
    have hf := findIdx_of_scheme_prefix hmem hm
    rw [hf]
    show (if stripSchemes (lower (p.take (sc.length + 1 + 2))) ≠ [] then _ else _) = _
    have hex : ∃ sc' ∈ schemes, lower (p.take (sc.length + 1 + 2)) = sc' ++ "://".toList :=
      ⟨sc, hmem, hm⟩
    rw [stripSchemes_eq (.take hf), if_pos hex]
    rfl
  | none =>
    cases hf : findIdx p SS with
    | none => rfl
    | some i =>
      have hN := EndsAtFirstSS.take hf
      have hno : ¬ ∃ sc ∈ schemes, lower (p.take (i + 2)) = sc ++ "://".toList := by
        rintro ⟨sc, hmem, hl⟩
        -- the prefix has the length of the pattern, so the pattern matches `p`
        have hlen : i + 2 = sc.length + 3 := by
          rw [← (findIdx_take hf).2, ← length_lower, hl, List.length_append]
          rfl
        refine List.find?_eq_none.1 hs sc hmem ?_
        rw [← hlen, hl]
        exact beq_self_eq_true _
      show (if stripSchemes (lower (p.take (i + 2))) ≠ [] then _ else _) = _
      rw [stripSchemes_eq hN, if_neg hno, if_pos hN.ne_nil, List.take_append_drop]

end Rivia.Lemmas
