/-
  Rivia.Lemmas.StdfsWalk — C02: traversals that rewrite node attributes (`chown`,
  octal `chmod`).  Every step replaces the node at one key by `g node`, where `g` touches neither the
  kind nor the link target; the tree reached after visiting the set `S` of keys is therefore
  `gMap g S t` (the original tree with `g` applied on `S`), syntactically.  A traversal from `a` visits
  `vis t rc a`; both reference operations are `gMap g (vis t rc a) t`.
-/
import Rivia.Lemmas.StdfsList
import Rivia.Lemmas.RefineB.Base

namespace Rivia.Lemmas.StdfsL
open Rivia Rivia.Memfs Rivia.File Rivia.Spec Rivia.Spec.TreeFs Rivia.Posix Rivia.Stdfs
open Rivia.Lemmas.RefineA (TEquiv ResMatch get_put)
open Rivia.Stdfs.SM
open Rivia.Lemmas.RefineB (selB ownFn)

variable {env : Env} {t : T}

/-- the tree with `g` applied to the nodes whose key is in `S` -/
def gMap (g : Node → Node) (S : FsPath → Bool) (t : T) : T :=
  { t with nodes := t.nodes.map (fun kv => if S kv.1 then (kv.1, g kv.2) else kv) }

/-- an attribute rewrite: kind and target untouched, idempotent -/
structure GOk (g : Node → Node) : Prop where
  kind : ∀ n, (g n).kind = n.kind
  target : ∀ n, (g n).target = n.target
  idem : ∀ n, g (g n) = g n

/-! ### the rewritten tree -/

/-- what `gMap` does to one node of the list, as a pair -/
def gkv (g : Node → Node) (S : FsPath → Bool) (kv : FsPath × Node) : FsPath × Node :=
  (kv.1, if S kv.1 then g kv.2 else kv.2)

theorem gkv_def (g : Node → Node) (S : FsPath → Bool) (kv : FsPath × Node) :
    gkv g S kv = (kv.1, if S kv.1 then g kv.2 else kv.2) := rfl

theorem gMap_nodes (g : Node → Node) (S : FsPath → Bool) (t : T) : (gMap g S t).nodes = t.nodes.map (gkv g S) := by
  unfold gMap
  exact List.map_congr_left fun kv _ => by rw [gkv_def]; split <;> rfl

theorem keys_gMap (g : Node → Node) (S : FsPath → Bool) (t : T) :
    (gMap g S t).nodes.map (·.1) = t.nodes.map (·.1) := keys_map_if S g t.nodes

theorem get_gMap (g : Node → Node) (S : FsPath → Bool) (t : T) (k : FsPath) :
    get (gMap g S t) k = (get t k).map (fun n => if S k then g n else n) := RefineB.get_map_if t S g k

theorem gMap_congr (g : Node → Node) {S S' : FsPath → Bool} (t : T)
    (h : ∀ kv ∈ t.nodes, S kv.1 = S' kv.1) : gMap g S t = gMap g S' t := by
  unfold gMap
  congr 1
  exact List.map_congr_left fun kv hkv => by rw [h kv hkv]

theorem gMap_none (g : Node → Node) (t : T) : gMap g (fun _ => false) t = t := by
  unfold gMap
  simp

theorem mem_gMap {g : Node → Node} {S : FsPath → Bool} {t : T} {kv' : FsPath × Node}
    (h : kv' ∈ (gMap g S t).nodes) : ∃ kv ∈ t.nodes, kv'.1 = kv.1 ∧ kv'.2 = (if S kv.1 then g kv.2 else kv.2) := by
  rw [gMap_nodes] at h
  obtain ⟨kv, hkv, rfl⟩ := List.mem_map.1 h
  exact ⟨kv, hkv, rfl, rfl⟩

theorem snd_of_mem {t : T} (hn : (t.nodes.map (·.1)).Nodup) {k : FsPath} {n : Node} (hk : get t k = some n)
    {kv : FsPath × Node} (hkv : kv ∈ t.nodes) (h0 : kv.1 = k) : kv.2 = n := by
  have := alLookup_of_mem_nodup hn hkv
  rw [h0] at this
  exact Option.some.inj (this.symm.trans hk)

theorem eq_of_nodes {a b : T} (h : a.nodes = b.nodes) (hc : a.cwd = b.cwd) : a = b := by
  cases a; cases b; cases h; cases hc; rfl

theorem gMap_add_fixed (g : Node → Node) (S : FsPath → Bool) {t : T} (hn : (t.nodes.map (·.1)).Nodup)
    {k : FsPath} {n : Node} (hk : get t k = some n) (hfix : g n = n) :
    gMap g (fun q => S q || q == k) t = gMap g S t := by
  refine eq_of_nodes ?_ rfl
  rw [gMap_nodes, gMap_nodes]
  refine List.map_congr_left fun kv hkv => ?_
  rw [gkv_def, gkv_def]
  by_cases h0 : kv.1 = k
  · have h2 := snd_of_mem hn hk hkv h0
    cases S kv.1 <;> simp only [h2, hfix, Bool.false_or, Bool.true_or, ite_self]
  · rw [beq_eq_false_iff_ne.2 h0, Bool.or_false]

theorem put_gMap (g : Node → Node) (S : FsPath → Bool) {t : T} (hn : (t.nodes.map (·.1)).Nodup)
    {k : FsPath} {n : Node} (hk : get t k = some n) :
    put (gMap g S t) k (g n) = gMap g (fun q => S q || q == k) t := by
  have key : ∀ l : List (FsPath × Node), (l.map (·.1)).Nodup → alLookup k l = some n →
      alInsert k (g n) (l.map (gkv g S)) = l.map (gkv g (fun q => S q || q == k)) := by
    intro l
    induction l with
    | nil => intro _ h; cases h
    | cons kv r ih =>
      intro hnd hl
      rw [List.map_cons, List.nodup_cons] at hnd
      rw [List.map_cons, List.map_cons, gkv_def, gkv_def]
      unfold alInsert
      unfold alLookup at hl
      by_cases h0 : kv.1 = k
      · rw [if_pos h0] at hl
        rw [if_pos h0, beq_iff_eq.2 h0, Bool.or_true, if_pos rfl, Option.some.inj hl, ← h0]
        congr 1
        refine List.map_congr_left fun x hx => ?_
        have : x.1 ≠ kv.1 := fun e => hnd.1 (e ▸ List.mem_map_of_mem hx)
        rw [gkv_def, gkv_def, beq_eq_false_iff_ne.2 this, Bool.or_false]
      · rw [if_neg h0] at hl
        rw [if_neg h0, beq_eq_false_iff_ne.2 h0, Bool.or_false]
        exact congrArg _ (ih hnd.2 hl)
  refine eq_of_nodes ?_ rfl
  rw [gMap_nodes]
  unfold put
  rw [gMap_nodes]
  exact key _ hn hk

theorem kind_gnode {g : Node → Node} (hg : GOk g) (b : Bool) (n : Node) : (if b then g n else n).kind = n.kind := by
  cases b <;> simp [hg.kind]
theorem target_gnode {g : Node → Node} (hg : GOk g) (b : Bool) (n : Node) :
    (if b then g n else n).target = n.target := by
  cases b <;> simp [hg.target]

theorem get_gMap_some {g : Node → Node} {S : FsPath → Bool} {t : T} {k : FsPath} {n' : Node}
    (h : get (gMap g S t) k = some n') : ∃ n, get t k = some n ∧ n' = (if S k then g n else n) := by
  rw [get_gMap] at h
  cases hg : get t k with
  | none => rw [hg] at h; cases h
  | some n => rw [hg] at h; exact ⟨n, rfl, (Option.some.inj h).symm⟩

theorem isDir_gMap {g : Node → Node} (hg : GOk g) (S : FsPath → Bool) (t : T) (k : FsPath) :
    isDir (gMap g S t) k = isDir t k := by
  unfold isDir
  rw [get_gMap]
  cases get t k with
  | none => rfl
  | some n => simp only [Option.map_some, kind_gnode hg]

theorem resolve_gMap (g : Node → Node) (S : FsPath → Bool) (t : T) (p : Str) :
    resolve env (gMap g S t) p = resolve env t p := rfl

theorem absK_gMap {g : Node → Node} (hg : GOk g) (S : FsPath → Bool) (t : T) (p : Str) :
    absK env (gMap g S t) p = absK env t p :=
  absK_congr t (gMap g S t) rfl (isDir_gMap hg S t _) p

theorem ctx_gMap {g : Node → Node} (hg : GOk g) (S : FsPath → Bool) (h : Ctx env t) : Ctx env (gMap g S t) := by
  refine ⟨⟨?_, ?_, ?_⟩, ?_, ?_, ?_⟩
  · rw [keys_gMap]; exact h.wf.nodup
  · rw [isDir_gMap hg]; exact h.wf.root
  · intro k n' hk hne
    obtain ⟨n, hn, _⟩ := get_gMap_some hk
    rw [isDir_gMap hg]; exact h.wf.parent k n hn hne
  · have hl := h.links
    unfold LinksOk linksOkB at hl ⊢
    rw [List.all_eq_true] at hl ⊢
    intro kv' hkv'
    obtain ⟨kv, hkv, _, h2⟩ := mem_gMap hkv'
    have := hl kv hkv
    rw [h2, kind_gnode hg, target_gnode hg]
    cases hk : kv.2.kind with
    | dir => rfl
    | file => rfl
    | link b =>
      simp only [hk] at this ⊢
      cases ht : kv.2.target with
      | none => simp [ht] at this
      | some tg =>
        simp only [ht] at this ⊢
        rw [get_gMap]
        cases hm : get t tg with
        | none => simp [hm] at this
        | some m =>
          simp only [hm, Option.map_some] at this ⊢
          rw [kind_gnode hg]; exact this
  · have ht := h.text
    unfold linkTextOkB at ht ⊢
    rw [List.all_eq_true] at ht ⊢
    intro kv' hkv'
    obtain ⟨kv, hkv, h1, h2⟩ := mem_gMap hkv'
    have := ht kv hkv
    rw [h2, kind_gnode hg, target_gnode hg, h1]
    simp only [absK_gMap hg]
    exact this
  · rw [isDir_gMap hg]; exact h.cwd

theorem keysRT_gMap (g : Node → Node) (S : FsPath → Bool) (hrt : keysRT env t = true) :
    keysRT env (gMap g S t) = true := by
  unfold keysRT at hrt ⊢
  rw [List.all_eq_true] at hrt ⊢
  intro kv' hkv'
  obtain ⟨kv, hkv, h1, _⟩ := mem_gMap hkv'
  rw [h1]; exact hrt kv hkv

theorem childNodes_gMap (g : Node → Node) (S : FsPath → Bool) (t : T) (a : FsPath) :
    childNodes (gMap g S t) a = (childNodes t a).map (gkv g S) := by
  unfold childNodes
  rw [gMap_nodes, List.filter_map]
  rfl

theorem entryFor_gnode {g : Node → Node} (hg : GOk g) {k : FsPath} {n : Node} {e : SEntry} (b : Bool)
    (he : EntryFor k (if b then g n else n) e) : EntryFor k n e := by
  obtain ⟨h1, h2, h3, h4⟩ := he
  rw [kind_gnode hg] at h2 h3 h4
  exact ⟨h1, h2, h3, h4⟩

/-- `StdfsEntry::from` of a key in the rewritten tree is an entry for the original node -/
theorem entryFrom_gMap (h : Ctx env t) (hrt : keysRT env t = true) {g : Node → Node} (hg : GOk g)
    (S : FsPath → Bool) {k : FsPath} {n : Node} (hk : get t k = some n) :
    ∃ e, entryFrom env (gMap g S t) (renderP k) = .ok e ∧ EntryFor k n e := by
  obtain ⟨e, he, hef⟩ := entryFrom_key (ctx_gMap hg S h) (keysRT_gMap g S hrt)
    (show get (gMap g S t) k = some (if S k then g n else n) by rw [get_gMap, hk]; rfl)
  exact ⟨e, he, entryFor_gnode hg _ hef⟩

/-! ### what a traversal visits -/

/-- `max_depth(if recursive { usize::MAX } else { 0 })` -/
def recDepth (rc : Bool) : Option Nat := if rc then none else some 0

theorem belowMax_recDepth (rc : Bool) (d : Nat) : belowMax d (recDepth rc) = rc := by
  cases rc <;> simp [recDepth, belowMax]

theorem descend_iff {a : FsPath} {n : Node} (hg : get t a = some n) (rc : Bool) :
    (decide (n.kind = .dir) && rc) = (rc && isDir t a) := by
  unfold isDir
  rw [hg, Bool.and_comm]

theorem vis_stop {rc : Bool} {a : FsPath} (h : (rc && isDir t a) = false) (k : FsPath) :
    vis t rc a k = (k == a) := by
  unfold vis
  rw [h, Bool.false_and, Bool.or_false]

/-- the fuel suffices for the walk from `a`: `a` and everything below it is less than `f` levels deep -/
def Fuel (t : T) (f : Nat) (a : FsPath) : Prop := ∀ x m, get t (a ++ x) = some m → x.length < f

theorem Fuel.child {f : Nat} {a : FsPath} (h : Fuel t (f + 1) a) (w : Str) : Fuel t f (a ++ [w]) := by
  intro x m hm
  rw [List.append_assoc] at hm
  have := h _ m hm
  rw [List.length_append, List.length_singleton] at this
  omega

theorem fuel_walkFuel (t : T) (a : FsPath) : ∃ f, walkFuel t = f + 1 ∧ Fuel t (f + 1) a := by
  refine ⟨_, rfl, fun x m hm => ?_⟩
  have := (foldl_max_ge t.nodes 0).2 _ (alLookup_mem hm)
  rw [List.length_append] at this
  omega

theorem any_child_vis (h : Ctx env t) {a k : FsPath} {m : Node} (hm : get t k = some m) :
    (childNodes t a).any (fun kv => vis t true kv.1 k) = isProperPrefix a k := by
  cases hp : isProperPrefix a k with
  | false =>
    rw [List.any_eq_false]
    intro kv hkv hv
    obtain ⟨_, x, hx⟩ := child_get h hkv
    unfold vis at hv
    simp only [Bool.true_and, Bool.or_eq_true, beq_iff_eq, Bool.and_eq_true] at hv
    have : isProperPrefix a k = true := by
      rcases hv with h1 | ⟨_, h1⟩
      · rw [h1, hx]; exact isProperPrefix_append a (by simp)
      · obtain ⟨z, hz, hkz⟩ := (isProperPrefix_iff kv.1 k).1 h1
        rw [hkz, hx, List.append_assoc]; exact isProperPrefix_append a (by simp)
    rw [hp] at this; cases this
  | true =>
    rw [List.any_eq_true]
    obtain ⟨x, hx, hkx⟩ := (isProperPrefix_iff a k).1 hp
    match x, hx, hkx with
    | w :: z, _, hkx =>
      by_cases hz : z = []
      · subst hz
        refine ⟨(a ++ [w], m), mem_childNodes.2 ⟨by rw [← hkx]; exact alLookup_mem hm, w, rfl⟩, ?_⟩
        unfold vis; simp [hkx]
      · have hpp : isProperPrefix (a ++ [w]) k = true := by
          rw [hkx, show a ++ w :: z = (a ++ [w]) ++ z by simp]
          exact isProperPrefix_append _ hz
        have hdc := ancestor_isDir h.wf hm hpp
        obtain ⟨nc, hnc, _⟩ := isDir_iff.1 hdc
        refine ⟨(a ++ [w], nc), mem_childNodes.2 ⟨alLookup_mem hnc, w, rfl⟩, ?_⟩
        unfold vis; simp [hdc, hpp]

theorem vis_dir (h : Ctx env t) {a k : FsPath} {m : Node} (hd : isDir t a = true) (hm : get t k = some m) :
    vis t true a k = (k == a || (childNodes t a).any (fun kv => vis t true kv.1 k)) := by
  rw [any_child_vis h hm]
  unfold vis
  rw [hd, Bool.true_and, Bool.true_and]

theorem foldl_gMap {β} (g : Node → Node) (step : Outcome Unit × T → β → Outcome Unit × T) (V : β → FsPath → Bool) :
    ∀ (L : List β) (S : FsPath → Bool),
      (∀ x ∈ L, ∀ S', step (.ok (), gMap g S' t) x = (.ok (), gMap g (fun k => S' k || V x k) t)) →
      L.foldl step (.ok (), gMap g S t) = (.ok (), gMap g (fun k => S k || L.any (V · k)) t)
  | [], S, _ => by simp only [List.foldl_nil, List.any_nil, Bool.or_false]
  | x :: L, S, h => by
    rw [List.foldl_cons, h x List.mem_cons_self, foldl_gMap g step V L _ fun y hy => h y (List.mem_cons_of_mem _ hy)]
    simp only [List.any_cons, Bool.or_assoc]

/-! ### the pre-order walk (`_chown`) -/

theorem walkPre_succ (stepf : SEntry → SM Unit) (M : Option Nat) (f d : Nat) (e : SEntry) (t : T) :
    walkPre env stepf M (f + 1) d e t =
      if e.dir && !e.link && belowMax d M then
        match readDir t e.path with
        | .error er => (.err (ioErr er), t)
        | .ok names =>
          match stepf e t with
          | (.ok (), t1) =>
            names.foldl (walkStep env (walkPre env stepf M f (d + 1)) e.path) ((.ok (), t1) : Outcome Unit × T)
          | r => r
      else stepf e t := by
  rw [walkPre]
  split <;> rfl

theorem walkPre_gMap (h : Ctx env t) (hrt : keysRT env t = true) {g : Node → Node} (hg : GOk g)
    (stepf : SEntry → SM Unit)
    (hstep : ∀ (S : FsPath → Bool) (k : FsPath) (n : Node) (x : SEntry), get t k = some n →
      isLinkKind n.kind = false → x.path = k →
      stepf x (gMap g S t) = (.ok (), gMap g (fun q => S q || q == k) t))
    (rc : Bool) :
    ∀ (f d : Nat) (a : FsPath) (n : Node) (e : SEntry) (S : FsPath → Bool), get t a = some n → EntryFor a n e →
      Fuel t f a → (∀ k m, get t k = some m → vis t rc a k = true → isLinkKind m.kind = false) →
      walkPre env stepf (recDepth rc) f d e (gMap g S t) = (.ok (), gMap g (fun k => S k || vis t rc a k) t) := by
  intro f
  induction f with
  | zero => intro d a n e S hg' _ hfuel _; exact absurd (hfuel [] n (by rw [List.append_nil]; exact hg')) (Nat.lt_irrefl 0)
  | succ f ih =>
    intro d a n e S hg' he hfuel hnl
    have hself : vis t rc a a = true := by unfold vis; simp
    rw [walkPre_succ, entry_real_dir he, belowMax_recDepth, descend_iff hg', he.path,
      hstep S a n e hg' (hnl a n hg' hself) he.path]
    cases hgo : rc && isDir t a with
    | false =>
      rw [if_neg Bool.false_ne_true]
      simp only [vis_stop hgo]
    | true =>
      obtain ⟨hrc, hd⟩ := Bool.and_eq_true_iff.1 hgo
      subst hrc
      rw [if_pos rfl, readDir_dir (ctx_gMap hg S h) (by rw [isDir_gMap hg]; exact hd), childNodes_gMap, List.map_map]
      simp only
      rw [List.foldl_map, foldl_gMap g _ (fun kv => vis t true kv.1)]
      · congr 1
        refine gMap_congr g t fun kv hkv => ?_
        rw [vis_dir h hd (alLookup_of_mem_nodup h.wf.nodup hkv), Bool.or_assoc]
      · intro kv hkv S'
        obtain ⟨hgc, x, hx⟩ := child_get h hkv
        obtain ⟨c, hc, hef⟩ := entryFrom_gMap h hrt hg S' hgc
        have hname : a ++ [baseName kv.1] = kv.1 := by rw [hx, baseName_snoc]
        simp only [walkStep, Function.comp, gkv_def, hname, hc]
        refine ih (d + 1) kv.1 kv.2 c S' hgc hef (hx ▸ hfuel.child x) fun k m hm hv => hnl k m hm ?_
        rw [vis_dir h hd hm, List.any_eq_true.2 ⟨kv, hkv, hv⟩, Bool.or_true]

/-! ### the two operations against the reference -/

theorem vis_eq_sel (t : T) (rc : Bool) (a : FsPath) : vis t rc a = selB t a rc := by
  funext k
  unfold vis selB
  rw [Bool.and_assoc, Bool.and_assoc, Bool.and_comm (isDir t a)]
  by_cases h : k = a <;> simp [h]

/-- the shape shared by `Stdfs::_chown` and `Stdfs::_chmod` (no `follow`): resolve, `StdfsEntry::from`, then a
    walk `W` from that entry — against a reference operation `ref` that fails on a missing path and
    otherwise ends in the tree the walk ends in -/
theorem sim_attrWalk (h : Ctx env t) (hrt : keysRT env t = true) (p : Str)
    (hidem : ∀ a, resolve env t p = .ok a → resolve env t (renderP a) = .ok a)
    (W : SEntry → T → Outcome Unit × T) (ref : FsPath → R Unit × T)
    (hnone : ∀ a, get t a = none → ref a = (.err (some .doesNotExist), t))
    (hsome : ∀ a n e, resolve env t p = .ok a → get t a = some n → entryFrom env t (renderP a) = .ok e →
      EntryFor a n e → ∃ t', W e t = (.ok (), t') ∧ ref a = (.ok (), t')) :
    Sim (Stdfs.mapVal (fun _ => .unit) (fun t => match absK env t p with
        | .ok k =>
          (match entryFrom env t (renderP k) with
           | .ok e => W e t
           | .err kk => (.err kk, t)
           | .panic => (.panic, t)
           | .hang => (.hang, t))
        | .err k => (.err k, t)
        | .panic => (.panic, t)
        | .hang => (.hang, t)) t)
      (withPath env t p fun a => liftR (fun _ => .unit) (ref a)) := by
  unfold withPath Stdfs.mapVal
  simp only [absK_eq h.cwd]
  cases hr : resolve env t p with
  | ok a =>
    cases hg : get t a with
    | none =>
      simp only [entryFrom_missing h (hidem a hr) hg, hnone a hg, liftR]
      exact sim_err _ _ (TEquiv.refl _)
    | some n =>
      obtain ⟨e, he, hef⟩ := entryFrom_key h hrt hg
      obtain ⟨t', hw, hrf⟩ := hsome a n e hr hg he hef
      simp only [he, hw, hrf, liftR]
      exact ⟨rfl, fun _ => TEquiv.refl _⟩
  | err e => exact sim_err _ _ (TEquiv.refl _)
  | panic => exact sim_unspec _ _
  | hang => exact sim_unspec _ _

/-! ### chown -/

theorem ownFn_ok (uid gid : Option Nat) : GOk (ownFn uid gid) := by
  refine ⟨fun _ => rfl, fun _ => rfl, ?_⟩
  intro n
  cases uid <;> cases gid <;> rfl

theorem chown_step (h : Ctx env t) (uid gid : Option Nat) (S : FsPath → Bool) (k : FsPath) (n : Node) (x : SEntry)
    (hk : get t k = some n) (hnl : isLinkKind n.kind = false) (hx : x.path = k) :
    (sysM (Posix.chown · x.path uid gid) : SM Unit) (gMap (ownFn uid gid) S t) =
      (.ok (), gMap (ownFn uid gid) (fun q => S q || q == k) t) := by
  have hg := ownFn_ok uid gid
  have hgk : get (gMap (ownFn uid gid) S t) k = some (if S k then ownFn uid gid n else n) := by
    rw [get_gMap, hk]; rfl
  simp only [SM.sysM, hx, Posix.chown, linkFuel]
  rw [followFinal_nonlink (ctx_gMap hg S h).wf hgk (by rw [kind_gnode hg]; exact hnl)]
  simp only [hgk]
  have : ({ (if S k = true then ownFn uid gid n else n) with
      uid := uid.getD (if S k = true then ownFn uid gid n else n).uid,
      gid := gid.getD (if S k = true then ownFn uid gid n else n).gid } : Node) = ownFn uid gid n := by
    cases S k
    · rfl
    · exact hg.idem n
  rw [this, put_gMap _ S h.wf.nodup hk]

theorem chown_eq_gMap {a : FsPath} {n : Node} (hg : get t a = some n) (uid gid : Option Nat) (rc : Bool) :
    TreeFs.chown t a uid gid rc = (.ok (), gMap (ownFn uid gid) (vis t rc a) t) := by
  rw [RefineB.chown_eq, hg, vis_eq_sel]
  rfl

theorem sim_chownK (h : Ctx env t) (p : Str) (uid gid : Option Nat) (rc : Bool)
    (hok : chownOkB env t p rc = true) :
    Sim (Stdfs.mapVal (fun _ => .unit) (Stdfs.chown env p { uid := uid, gid := gid, follow := false, recursive := rc }) t)
      (withPath env t p fun a => liftR (fun _ => .unit) (TreeFs.chown t a uid gid rc)) := by
  obtain ⟨hrt, hok2⟩ := Bool.and_eq_true_iff.1 hok
  refine sim_attrWalk h hrt p (fun a ha => ?_) _ _ (fun a hg => ?_) (fun a n e ha hg _ hef => ?_)
  · rw [ha] at hok2
    exact of_decide_eq_true (Bool.and_eq_true_iff.1 hok2).1
  · unfold TreeFs.chown
    rw [hg]
  · rw [ha] at hok2
    have hnolink := List.all_eq_true.1 (Bool.and_eq_true_iff.1 hok2).2
    obtain ⟨f, hf, hfuel⟩ := fuel_walkFuel t a
    have hwalk := walkPre_gMap h hrt (ownFn_ok uid gid) (fun x => sysM (Posix.chown · x.path uid gid))
      (chown_step h uid gid) rc (f + 1) 0 a n e (fun _ => false) hg hef hfuel fun k m hm hv => by
        have := hnolink (k, m) (alLookup_mem hm)
        rw [hv] at this
        exact Bool.not_eq_true' _ ▸ this
    rw [gMap_none] at hwalk
    simp only [Bool.false_or] at hwalk
    exact ⟨_, hf ▸ hwalk, chown_eq_gMap hg uid gid rc⟩

end Rivia.Lemmas.StdfsL
