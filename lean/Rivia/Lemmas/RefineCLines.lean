/-
  Rivia.Lemmas.RefineCLines — C01, group C (part 1): the line helpers
  `read_lines`, `write_lines`, `append_lines`, `append_line` refine the reference.

  * `read_lines` is `read_all` followed by the line splitter: the model's `splitLines` (transcribed from
    `BufRead::lines`) and the reference's `specLines` (written from the documentation) are the same
    function (`splitLines_eq_specLines`);
  * the three writers are `write_all` / `append_all` of the joined bytes whenever the joined text is not
    empty, i.e. outside the finding class `empty_lines_noop`.
-/
import Rivia.Lemmas.RefineA
import Rivia.Lemmas.Lines

namespace Rivia.Lemmas.RefineC
open Rivia Rivia.Memfs Rivia.File Rivia.Spec Rivia.Spec.TreeFs Rivia.Lemmas.RefineA

/-! ### the two line splitters agree -/

theorem getLast?_eq_head?_reverse {α} (l : List α) : l.getLast? = l.reverse.head? := by
  rw [List.head?_reverse]

theorem stripCr_eq (l : Str) :
    Lemmas.stripCr l = if l.getLast? = some '\r' then l.dropLast else l := by
  unfold Lemmas.stripCr
  rw [getLast?_eq_head?_reverse]
  have hd : l.dropLast = l.reverse.tail.reverse := by
    rw [List.tail_reverse, List.reverse_reverse]
  rw [hd]
  generalize l.reverse = r
  cases r with
  | nil => simp
  | cons c r =>
    by_cases hc : c = '\r'
    · subst hc; simp
    · simp only [List.head?_cons, Option.some.injEq, hc, if_false]
      split
      · rename_i r' heq; cases heq; exact absurd rfl hc
      · rfl

theorem take_length_sub_one {α} (l : List α) : l.take (l.length - 1) = l.dropLast := by
  rw [List.dropLast_eq_take]

theorem splitLines_eq_specLines (s : Str) : splitLines s = specLines s := by
  rw [splitLines_eq]
  unfold specLines
  simp only
  have hfun : (fun l : Str => if l.getLast? = some '\r' then l.dropLast else l) = Lemmas.stripCr := by
    funext l; exact (stripCr_eq l).symm
  rw [hfun]
  generalize Str.splitOn '\n' s = ps
  rw [take_length_sub_one]
  rcases List.eq_nil_or_concat ps with rfl | ⟨init, lastp, rfl⟩
  · rfl
  · simp only [List.concat_eq_append, List.getLast?_append, List.getLast?_singleton, Option.some_or,
      List.dropLast_concat, List.reverse_append, List.reverse_cons, List.reverse_nil, List.nil_append,
      List.singleton_append, List.reverse_reverse]
    cases lastp with
    | nil => simp
    | cons c cs => simp

/-! ### `read_lines` -/

variable (env : Env) (s : State)

theorem sim_readLines (p : Str) (hI : InvFacts s) (hOk : EntriesOk s) : Refines env s (.readLines p) :=
  refines_of rfl <| sim_clone env s p hI hOk Val.strs _
    (fun b => match decodeUtf8 b with | some x => (.ok (.strs (specLines x)), absS s) | none => (.err none, absS s))
    fun b => by cases decodeUtf8 b <;> exact sim_same (by simp [splitLines_eq_specLines])

/-! ### the writers -/

theorem joinLines_of_isSome {ls : List Str} (h : (joinLines ls).isNone = false) :
    joinLines ls = some (ls.flatMap (fun l => utf8 l ++ [nl])) := by
  by_cases hj : Str.joinWith '\n' ls = []
  · rw [joinLines_eq, if_pos hj] at h; cases h
  · exact joinLines_of_ne hj

theorem step_writeLines {p : Str} {ls : List Str} (h : (joinLines ls).isNone = false) :
    step env s (.writeLines p ls) = step env s (.writeAll p (ls.flatMap (fun l => utf8 l ++ [nl]))) := by
  show mapVal _ (writeLinesM env p ls) s = _
  rw [writeLinesM, joinLines_of_isSome h]
  rfl

theorem step_appendLines {p : Str} {ls : List Str} (h : (joinLines ls).isNone = false) :
    step env s (.appendLines p ls) = step env s (.appendAll p (ls.flatMap (fun l => utf8 l ++ [nl]))) := by
  show mapVal _ (appendLinesM env p ls) s = _
  rw [appendLinesM, joinLines_of_isSome h]
  rfl

theorem step_appendLine {p : Str} {l : Str} (h : l ≠ []) :
    step env s (.appendLine p l) = step env s (.appendAll p (utf8 l ++ [nl])) := by
  show mapVal _ (appendLineM env p l) s = _
  rw [appendLineM, if_neg h]
  rfl

theorem sim_writeLines (hI : InvFacts s) (hOk : EntriesOk s) (p : Str) (ls : List Str)
    (h : (joinLines ls).isNone = false) : Refines env s (.writeLines p ls) := fun x hx => by
  rw [step_writeLines env s h]
  exact sim_writeAll env s hI hOk p _ x hx

theorem sim_appendLines (hI : InvFacts s) (hOk : EntriesOk s) (p : Str) (ls : List Str)
    (h : (joinLines ls).isNone = false) : Refines env s (.appendLines p ls) := fun x hx => by
  rw [step_appendLines env s h]
  exact sim_appendAll env s hI hOk p _ x hx

theorem sim_appendLine (hI : InvFacts s) (hOk : EntriesOk s) (p : Str) (l : Str) (h : l ≠ []) :
    Refines env s (.appendLine p l) := fun x hx => by
  rw [step_appendLine env s h]
  exact sim_appendAll env s hI hOk p _ x hx

end Rivia.Lemmas.RefineC
