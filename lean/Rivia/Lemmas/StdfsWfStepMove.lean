/-
  Rivia.Lemmas.StdfsWfStepMove — `rename(2)` of the syscall model keeps the tree well-formed.

  `renameMove` differs from the re-keyed tree of the reference (`RefineB.movedNodes`) only in the TARGETS
  of moved links (and in the cwd); keys and kinds are the same, and `WfFacts` only looks at keys and kinds.
-/
import Rivia.Lemmas.StdfsWfStep

namespace Rivia.Lemmas.StdfsWf
open Rivia Rivia.Memfs Rivia.File Rivia.Spec Rivia.Spec.TreeFs Rivia.Posix Rivia.Stdfs
open Rivia.Lemmas.StdfsL
open Rivia.Lemmas.RefineA (get_put)

/-! ### trees with the same keys and kinds -/

/-- keys and kinds: all that `WfFacts` looks at -/
def shape (t : T) : List (FsPath × Kind) := t.nodes.map (fun kv => (kv.1, kv.2.kind))

theorem keys_of_shape (t : T) : t.nodes.map (·.1) = (shape t).map (·.1) := by
  unfold shape
  rw [List.map_map]
  rfl

theorem kind_of_shape (t : T) (k : FsPath) : (get t k).map (·.kind) = alLookup k (shape t) :=
  (alLookup_map k (fun _ n => n.kind) t.nodes).symm

theorem isDir_of_shape {t t' : T} (hs : shape t' = shape t) (k : FsPath) : isDir t' k = isDir t k := by
  have : (get t' k).map (·.kind) = (get t k).map (·.kind) := by rw [kind_of_shape, hs, ← kind_of_shape]
  unfold isDir
  cases h1 : get t' k <;> cases h2 : get t k <;> simp_all

theorem facts_of_shape {t t' : T} (h : WfFacts t) (hs : shape t' = shape t) : WfFacts t' := by
  refine ⟨by rw [keys_of_shape, hs, ← keys_of_shape]; exact h.nodup, by rw [isDir_of_shape hs]; exact h.root, ?_⟩
  intro k n hn hne
  rw [isDir_of_shape hs]
  have : (get t' k).map (·.kind) = (get t k).map (·.kind) := by rw [kind_of_shape, hs, ← kind_of_shape]
  rw [hn] at this
  cases h2 : get t k with
  | none => rw [h2] at this; cases this
  | some m => exact h.parent k m h2 hne

/-- `rename` re-keys like the reference; a moved link is re-targeted, nothing else changes -/
theorem shape_renameMove (t : T) (s d : FsPath) : shape (renameMove t s d) = shape (RefineB.movedNodes t s d) := by
  unfold shape renameMove RefineB.movedNodes
  simp only [List.map_append, List.map_filterMap]
  congr 2
  funext kv
  split
  · simp only [Option.map_some]
    split <;> rfl
  · rfl

/-! ### the re-keyed tree of the reference is well-formed -/

theorem prefix_dropLast_of {s q : FsPath} (h : s <+: q.dropLast) : s <+: q := h.trans (List.dropLast_prefix q)

theorem facts_movedNodes {t : T} (h : WfFacts t) {s d : FsPath} (hs0 : s ≠ []) (hd0 : d ≠ [])
    (hpd : isDir t d.dropLast = true) (hsd : ¬ s <+: d)
    (hnb : ∀ k, isProperPrefix d k = true → get t k = none) :
    WfFacts (RefineB.movedNodes t s d) := by
  have keep : ∀ p, isDir t p = true → ¬ s <+: p → p ≠ d → isDir (RefineB.movedNodes t s d) p = true := by
    intro p hp h1 h2
    obtain ⟨n, hn, hk⟩ := isDir_iff.1 hp
    refine isDir_iff.2 ⟨n, ?_, hk⟩
    rw [RefineB.get_movedNodes, if_pos ⟨h1, h2, by rw [hn]; rfl⟩]
    exact hn
  have moved : ∀ r, isDir t (s ++ r) = true → isDir (RefineB.movedNodes t s d) (d ++ r) = true := by
    intro r hp
    obtain ⟨n, hn, hk⟩ := isDir_iff.1 hp
    refine isDir_iff.2 ⟨n, ?_, hk⟩
    rw [RefineB.get_movedNodes, if_neg, if_pos (List.prefix_append d r), List.drop_left]
    · exact hn
    · rintro ⟨_, h2, h3⟩
      by_cases hr : r = []
      · subst hr; exact h2 (List.append_nil d)
      · rw [hnb _ (isProperPrefix_append d hr)] at h3; cases h3
  refine ⟨?_, ?_, ?_⟩
  · refine Sim.nodupK_movedNodes h.nodup s d ?_
    intro x r hsome
    rw [hnb _ (isProperPrefix_append d (List.cons_ne_nil x r))] at hsome
    cases hsome
  · refine keep [] h.root ?_ (Ne.symm hd0)
    intro hp
    exact hs0 (List.prefix_nil.1 hp)
  · intro q n hq hq0
    rw [RefineB.get_movedNodes] at hq
    by_cases hc : ¬ s <+: q ∧ q ≠ d ∧ (get t q).isSome
    · rw [if_pos hc] at hq
      refine keep _ (h.parent q n hq hq0) (fun hp => hc.1 (prefix_dropLast_of hp)) ?_
      intro e
      have := hnb q (e ▸ dropLast_properPrefix hq0)
      rw [this] at hq; cases hq
    · rw [if_neg hc] at hq
      by_cases hdq : d <+: q
      · rw [if_pos hdq] at hq
        obtain ⟨r, rfl⟩ := hdq
        rw [List.drop_left] at hq
        by_cases hr : r = []
        · subst hr
          rw [List.append_nil]
          refine keep _ hpd (fun hp => hsd (prefix_dropLast_of hp)) ?_
          intro e
          have := congrArg List.length e
          have hl : 0 < d.length := List.length_pos_iff.mpr hd0
          simp at this; omega
        · rw [List.dropLast_append_of_ne_nil hr]
          apply moved
          have := h.parent (s ++ r) n hq (by simp [hr])
          rwa [List.dropLast_append_of_ne_nil hr] at this
      · rw [if_neg hdq] at hq; cases hq

/-! ### `rename` -/

theorem nothing_below_of_clash {t : T} (h : WfFacts t) {sn : Node} {d : FsPath}
    (hc : renameClash t sn d = none) : ∀ k, isProperPrefix d k = true → get t k = none := by
  intro k hp
  cases hg : get t k with
  | none => rfl
  | some m =>
    exfalso
    obtain ⟨dn, hdn, hdk⟩ := isDir_iff.1 (ancestor_isDir h hg hp)
    unfold renameClash at hc
    rw [hdn] at hc
    simp only [hdk, if_true] at hc
    split at hc
    · split at hc
      · rename_i hb
        have := (Sim.below_isEmpty_iff t d).1 hb k (by rw [hg]; rfl)
        rw [this] at hp; cases hp
      · cases hc
    · cases hc

theorem wf_rename {t t' : T} {s d : FsPath} (h : WfFacts t) (e : rename t s d = .ok t') : WfFacts t' := by
  unfold rename at e
  split at e
  · cases e
  · rename_i h0
    have hs0 : s ≠ [] := fun x => h0 (Or.inl x)
    have hd0 : d ≠ [] := fun x => h0 (Or.inr x)
    split at e
    · cases e
    · cases e
    · rename_i hws hwd
      split at e
      · cases e
      · rename_i sn hgs
        split at e
        · cases e; exact h
        · split at e
          · cases e
          · rename_i hpre
            split at e
            · cases e
            · split at e
              · cases e
              · rename_i hcl
                cases e
                have hpd : isDir t d.dropLast = true := by
                  rcases (walkErr_none_iff h d).1 hwd with h1 | h1
                  · exact absurd h1 hd0
                  · exact h1
                have hsd : ¬ s <+: d := fun hp => hpre ((RefineB.isPrefixOrEq_iff s d).2 hp)
                exact facts_of_shape (facts_movedNodes h hs0 hd0 hpd hsd (nothing_below_of_clash h hcl))
                  (shape_renameMove t s d)

end Rivia.Lemmas.StdfsWf
