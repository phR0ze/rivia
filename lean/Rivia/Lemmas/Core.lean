/-
  Rivia.Lemmas.Core — helper lemmas for C19: the index arithmetic of `slice`, lower-casing and "0".
-/
import Rivia.Model.Core
import Rivia.Spec.Lists

namespace Rivia.Lemmas
open Rivia Rivia.Spec

/-! ### slice -/
theorem asUsize_of_nonneg (x : Int) (h0 : 0 ≤ x) (h1 : x < 2^64) : Core.asUsize x = x.toNat := by
  unfold Core.asUsize
  rw [Int.emod_eq_of_lt h0 h1]

theorem trimFront {α} (l : List α) (k : Nat) :
    (if k > 0 then Core.nthFront l (k - 1) else l) = l.drop k := by
  cases k <;> simp [Core.nthFront]

theorem trimBack {α} (l : List α) (k : Nat) :
    (if k > 0 then Core.nthBack l (k - 1) else l) = l.take (l.length - k) := by
  cases k <;> simp [Core.nthBack]

/-- the `if` on the right-hand side is the right bound in positive notation, clamped to the last index -/
theorem slice_back (len : Nat) (right : Int) :
    (if right ≥ 0 ∧ right < len then (right - len + 1).natAbs
      else if right < 0 ∧ right.natAbs ≤ len then right.natAbs - 1
      else if right < 0 then len else 0)
    = len - ((if right < 0 then len + right else min right (len - 1)) + 1).toNat := by
  by_cases h : right < 0
  · have h0 : ¬ 0 ≤ right := by omega
    simp only [h, h0, if_true, if_false, true_and, false_and]
    split <;> omega
  · simp only [h, if_false, false_and]
    split <;> omega

theorem sliceSpec_eq {α} (l : List α) (left right : Int) (hdom : -(l.length : Int) ≤ left) :
    ∃ L : Nat, (if left < 0 then (l.length : Int) + left else left) = L ∧
      sliceSpec l left right = (l.drop L).take
        (((if right < 0 then (l.length : Int) + right else min right (l.length - 1)) + 1).toNat - L) := by
  obtain ⟨L, hlo⟩ : ∃ L : Nat, (if left < 0 then (l.length : Int) + left else left) = L :=
    Int.eq_ofNat_of_zero_le (by split <;> omega)
  refine ⟨L, hlo, ?_⟩
  unfold sliceSpec
  simp only []
  generalize (if right < 0 then (l.length : Int) + right else min right (↑l.length - 1)) = hi
  rw [hlo, Int.toNat_natCast]
  by_cases h : (L : Int) ≤ hi
  · rw [if_pos ⟨h, Int.natCast_nonneg L⟩]
    congr 1
    omega
  · rw [if_neg (fun h' => h h'.1), show (hi + 1).toNat - L = 0 by omega]
    rfl

/-! ### to_bool -/
theorem ofNat_upper_ne_zero : ∀ k : Fin 26, Char.ofNat (65 + k.val + 32) ≠ '0' := by decide

theorem lowerChar_eq_zero (c : Char) : Str.lowerChar c = '0' ↔ c = '0' := by
  unfold Str.lowerChar
  split
  · rename_i h
    obtain ⟨h1, h2⟩ := h
    rw [UInt32.le_iff_toNat_le] at h1 h2
    have e1 : 'A'.val.toNat = 65 := by decide
    have e2 : 'Z'.val.toNat = 90 := by decide
    rw [e1] at h1; rw [e2] at h2
    have e3 : c.toNat = c.val.toNat := rfl
    constructor
    · intro h
      have := ofNat_upper_ne_zero ⟨c.toNat - 65, by omega⟩
      simp only [] at this
      have e : 65 + (c.toNat - 65) + 32 = c.toNat + 32 := by omega
      rw [e] at this
      exact absurd h this
    · intro h
      subst h
      revert h1
      decide
  · exact Iff.rfl

theorem map_lower_eq_zero (s : Str) : s.map Str.lowerChar = ['0'] ↔ s = ['0'] := by
  match s with
  | [] => simp
  | [c] => simp [lowerChar_eq_zero]
  | a :: b :: t => simp

end Rivia.Lemmas
