/-
  Rivia.Lemmas.SimCongr — the reference filesystem respects extensional equality of its states.

  `TEquiv a b` (same cwd, same `get`) is what the refinement theorems of C01 deliver for the post-state.
  To chain them along ONE run of the reference, every reference operation must give equal results and
  `TEquiv` post-states on `TEquiv` arguments.  All of them read the node list through `get` only, except
  * `del` (`alErase` removes the FIRST occurrence of a key) — used by `remove`,
  * the listings (the selected keys are sorted, duplicates would stay),
  which need `NodupK` (no key occurs twice in the node list) on both sides.
-/
import Rivia.Lemmas.RefineB
import Rivia.Lemmas.RefineA

namespace Rivia.Lemmas.Sim
open Rivia Rivia.Memfs Rivia.File Rivia.Spec Rivia.Spec.TreeFs
open Rivia.Lemmas.RefineB (TEquiv alLookup_alErase nodup_alErase nodup_alInsert
  alLookup_isSome_iff get_map_if selB chmodOctal_eq chown_eq moveP_eq movedNodes get_movedNodes okDstOf
  emptyOntoOf isPrefixOrEq_iff)

/-- no key occurs twice in the node list -/
def NodupK (t : T) : Prop := (t.nodes.map (·.1)).Nodup

instance (t : T) : Decidable (NodupK t) := by unfold NodupK; infer_instance

theorem TEquiv.symm {a b : T} (h : TEquiv a b) : TEquiv b a := ⟨h.1.symm, fun k => (h.2 k).symm⟩
theorem TEquiv.trans {a b c : T} (h : TEquiv a b) (h' : TEquiv b c) : TEquiv a c :=
  ⟨h.1.trans h'.1, fun k => (h.2 k).trans (h'.2 k)⟩

/-- results equal, post-states equivalent -/
def Rel {α} (x y : R α × T) : Prop := x.1 = y.1 ∧ TEquiv x.2 y.2

theorem rel_mk {α} {r : R α} {a b : T} (h : TEquiv a b) : Rel (r, a) (r, b) := ⟨rfl, h⟩

variable {a b : T}

/-! ### what the operations read -/

theorem get_eq (h : TEquiv a b) : get a = get b := funext h.2

theorem isDir_eq (h : TEquiv a b) : isDir a = isDir b := by
  funext p; unfold isDir; rw [h.2]
theorem isFile_eq (h : TEquiv a b) : isFile a = isFile b := by
  funext p; unfold isFile; rw [h.2]
theorem isLink_eq (h : TEquiv a b) : isLink a = isLink b := by
  funext p; unfold isLink; rw [h.2]
theorem isLinkToDir_eq (h : TEquiv a b) : isLinkToDir a = isLinkToDir b := by
  funext p; unfold isLinkToDir; rw [h.2]
theorem parentCheck_eq (h : TEquiv a b) : parentCheck a = parentCheck b := by
  funext p; unfold parentCheck; rw [h.2]

theorem mem_keys_iff (t : T) (k : FsPath) : k ∈ t.nodes.map (·.1) ↔ (get t k).isSome :=
  (alLookup_isSome_iff k t.nodes).symm

theorem keys_iff (h : TEquiv a b) (k : FsPath) : k ∈ a.nodes.map (·.1) ↔ k ∈ b.nodes.map (·.1) := by
  rw [mem_keys_iff, mem_keys_iff, h.2]

theorem below_isEmpty_iff (t : T) (p : FsPath) :
    (below t p).isEmpty = true ↔ ∀ k, (get t k).isSome → isProperPrefix p k = false := by
  unfold below
  rw [List.isEmpty_iff, List.filter_eq_nil_iff]
  constructor
  · intro hx k hk
    have := hx k ((mem_keys_iff t k).2 hk)
    simpa using this
  · intro hx k hk
    rw [hx k ((mem_keys_iff t k).1 hk)]
    simp

theorem below_isEmpty_eq (h : TEquiv a b) (p : FsPath) : (below a p).isEmpty = (below b p).isEmpty := by
  apply Bool.eq_iff_iff.2
  rw [below_isEmpty_iff, below_isEmpty_iff]
  simp only [h.2]

theorem selB_eq (h : TEquiv a b) (p : FsPath) (rec : Bool) : selB a p rec = selB b p rec := by
  funext k; unfold selB; rw [isDir_eq h]

theorem okDstOf_eq (h : TEquiv a b) : okDstOf a = okDstOf b := by
  funext sn dst; unfold okDstOf; rw [h.2]

theorem emptyOntoOf_eq (h : TEquiv a b) : emptyOntoOf a = emptyOntoOf b := by
  funext sn dst; unfold emptyOntoOf; rw [h.2, below_isEmpty_eq h]

/-! ### the updates: what `get` sees afterwards, and that keys stay distinct -/

theorem get_put (t : T) (p : FsPath) (n : Node) (k : FsPath) :
    get (put t p n) k = if p = k then some n else get t k := RefineA.get_put t p n k

theorem put_congr (h : TEquiv a b) (p : FsPath) (n : Node) : TEquiv (put a p n) (put b p n) :=
  ⟨h.1, fun k => by rw [get_put, get_put, h.2]⟩

theorem nodupK_put {t : T} (h : NodupK t) (p : FsPath) (n : Node) : NodupK (put t p n) :=
  nodup_alInsert h

theorem get_del {t : T} (hn : NodupK t) (p k : FsPath) :
    get (del t p) k = if p = k then none else get t k := alLookup_alErase hn

theorem del_congr (h : TEquiv a b) (ha : NodupK a) (hb : NodupK b) (p : FsPath) :
    TEquiv (del a p) (del b p) :=
  ⟨h.1, fun k => by rw [get_del ha, get_del hb, h.2]⟩

theorem nodupK_del {t : T} (h : NodupK t) (p : FsPath) : NodupK (del t p) := nodup_alErase h

theorem nodupK_filter {t : T} (h : NodupK t) (f : FsPath × Node → Bool) :
    NodupK { t with nodes := t.nodes.filter f } :=
  List.Nodup.sublist (List.Sublist.map _ List.filter_sublist) h

theorem get_filter_key (t : T) (P : FsPath → Bool) (k : FsPath) :
    get { t with nodes := t.nodes.filter (fun kv => P kv.1) } k = if P k then get t k else none :=
  alLookup_filter_key P k t.nodes

theorem nodupK_map_if {t : T} (h : NodupK t) (P : FsPath → Bool) (f : Node → Node) :
    NodupK { t with nodes := t.nodes.map (fun kv => if P kv.1 then (kv.1, f kv.2) else kv) } := by
  unfold NodupK
  rw [keys_map_if]; exact h

theorem movedNodes_congr (h : TEquiv a b) (s dst : FsPath) :
    TEquiv (movedNodes a s dst) (movedNodes b s dst) :=
  ⟨h.1, fun k => by rw [get_movedNodes, get_movedNodes]; simp only [h.2]⟩

/-- the part of well-formedness that `get` alone determines, hence stable under `TEquiv` -/
def AncDir (t : T) : Prop := ∀ p x r, (get t (p ++ x :: r)).isSome → isDir t p = true

theorem ancDir_congr (h : TEquiv a b) (ha : AncDir a) : AncDir b := by
  intro p x r hk
  rw [← h.2] at hk
  rw [← isDir_eq h]
  exact ha p x r hk

theorem mem_moved_keys (s dst : FsPath) (l : List (FsPath × Node)) (k : FsPath) :
    k ∈ (l.filterMap (fun kv => if isPrefixOrEq s kv.1 then some (dst ++ kv.1.drop s.length, kv.2)
        else none)).map (·.1) ↔ ∃ r, k = dst ++ r ∧ s ++ r ∈ l.map (·.1) := by
  simp only [List.mem_map, List.mem_filterMap]
  constructor
  · rintro ⟨kv', ⟨kv, hkv, hif⟩, rfl⟩
    by_cases hp : isPrefixOrEq s kv.1 = true
    · rw [if_pos hp] at hif
      cases hif
      obtain ⟨r, hr⟩ := (isPrefixOrEq_iff s kv.1).1 hp
      refine ⟨r, ?_, kv, hkv, hr.symm⟩
      simp only [← hr, List.drop_left]
    · rw [if_neg hp] at hif; cases hif
  · rintro ⟨r, rfl, kv, hkv, hr⟩
    refine ⟨(dst ++ r, kv.2), ⟨kv, hkv, ?_⟩, rfl⟩
    have hp : isPrefixOrEq s kv.1 = true := (isPrefixOrEq_iff s kv.1).2 (hr ▸ List.prefix_append _ _)
    rw [if_pos hp, hr, List.drop_left]

theorem nodup_moved_keys (s dst : FsPath) : ∀ (l : List (FsPath × Node)), (l.map (·.1)).Nodup →
    ((l.filterMap (fun kv => if isPrefixOrEq s kv.1 then some (dst ++ kv.1.drop s.length, kv.2)
        else none)).map (·.1)).Nodup := by
  intro l
  induction l with
  | nil => intro _; exact List.nodup_nil
  | cons x xs ih =>
    intro hn
    rw [List.map_cons, List.nodup_cons] at hn
    rw [List.filterMap_cons]
    by_cases hp : isPrefixOrEq s x.1 = true
    · simp only [hp, if_true, List.map_cons, List.nodup_cons]
      refine ⟨?_, ih hn.2⟩
      intro hm
      obtain ⟨r, hr, hmem⟩ := (mem_moved_keys s dst xs _).1 hm
      obtain ⟨r0, hr0⟩ := (isPrefixOrEq_iff s x.1).1 hp
      rw [← hr0, List.drop_left] at hr
      have : r0 = r := List.append_cancel_left hr
      subst this
      rw [hr0] at hmem
      exact hn.1 hmem
    · rw [if_neg hp]
      exact ih hn.2

theorem nodupK_movedNodes {t : T} (hn : NodupK t) (s dst : FsPath)
    (hfree : ∀ x r, (get t (dst ++ x :: r)).isSome → s <+: dst ++ x :: r) :
    NodupK (movedNodes t s dst) := by
  unfold NodupK movedNodes
  simp only [List.map_append]
  rw [List.nodup_append]
  refine ⟨List.Nodup.sublist (List.Sublist.map _ List.filter_sublist) hn, nodup_moved_keys s dst _ hn, ?_⟩
  intro k hk1 k' hk2 hkk
  subst hkk
  obtain ⟨kv, hkv, rfl⟩ := List.mem_map.1 hk1
  rw [List.mem_filter] at hkv
  obtain ⟨hmem, hcond⟩ := hkv
  simp only [Bool.and_eq_true, Bool.not_eq_true', decide_eq_true_eq] at hcond
  obtain ⟨r, hr, hsr⟩ := (mem_moved_keys s dst _ _).1 hk2
  cases r with
  | nil => exact hcond.2 (by simpa using hr)
  | cons x r =>
    have hsome : (get t (dst ++ x :: r)).isSome := by
      rw [← hr]; exact (mem_keys_iff t _).1 (List.mem_map.2 ⟨kv, hmem, rfl⟩)
    have := (isPrefixOrEq_iff s _).2 (hfree x r hsome)
    rw [← hr, hcond.1] at this
    cases this

/-- the destination `move_p` accepts is missing or a file, so no key lies below it -/
theorem nodupK_moved_ok {t : T} (hn : NodupK t) (hA : AncDir t) (s dst : FsPath) (sn : Node)
    (hok : okDstOf t sn dst = true) : NodupK (movedNodes t s dst) := by
  apply nodupK_movedNodes hn
  intro x r hsome
  exfalso
  have hd := hA _ x r hsome
  unfold okDstOf at hok
  unfold isDir at hd
  cases hg : get t dst with
  | none => rw [hg] at hd; cases hd
  | some dn =>
    rw [hg] at hd hok
    simp only [decide_eq_true_eq] at hd
    simp [hd] at hok

/-! ### one statement for both facts about an operation

`Agree a x y` is what an operation owes, `x` its outcome on `a` and `y` on an equivalent `b`: the
same result, equivalent post-states, and keys still distinct on the left (`AncDir` is what
`move_p` needs for that).  The branch an operation takes depends on what it reads, which is the
same on both sides; so one pass over its branches gives all three. -/

/-- equivalent trees, neither with a key twice -/
structure Eqv (a b : T) : Prop where
  eq : TEquiv a b
  left : NodupK a
  right : NodupK b

theorem Eqv.refl {t : T} (h : NodupK t) : Eqv t t := ⟨TEquiv.refl t, h, h⟩

theorem Eqv.put (e : Eqv a b) (p : FsPath) (n : Node) : Eqv (put a p n) (put b p n) :=
  ⟨put_congr e.eq p n, nodupK_put e.left p n, nodupK_put e.right p n⟩

def Agree {α} (a : T) (x y : R α × T) : Prop := Rel x y ∧ (AncDir a → NodupK x.2)

theorem agree_mk {α} {r : R α} {a' b' : T} (h : TEquiv a' b') (hn : NodupK a') : Agree a (r, a') (r, b') :=
  ⟨rel_mk h, fun _ => hn⟩

theorem agree_keep {α} (e : Eqv a b) {r : R α} : Agree a (r, a) (r, b) := agree_mk e.eq e.left

theorem agree_put {α} (e : Eqv a b) {r : R α} {p : FsPath} {n : Node} :
    Agree a (r, put a p n) (r, put b p n) := agree_mk (put_congr e.eq p n) (nodupK_put e.left p n)

theorem agree_ite_of {α} {c : Prop} [Decidable c] {x x' y y' : R α × T} (h1 : c → Agree a x x')
    (h2 : ¬ c → Agree a y y') : Agree a (if c then x else y) (if c then x' else y') := by
  split
  · exact h1 ‹c›
  · exact h2 ‹¬ c›

theorem agree_ite {α} {c : Prop} [Decidable c] {x x' y y' : R α × T} (h1 : Agree a x x')
    (h2 : Agree a y y') : Agree a (if c then x else y) (if c then x' else y') :=
  agree_ite_of (fun _ => h1) (fun _ => h2)

/-! ### creators -/

theorem mkfile_agree (e : Eqv a b) (p : FsPath) : Agree a (mkfile a p) (mkfile b p) := by
  unfold mkfile
  rw [parentCheck_eq e.eq, e.eq.2 p]
  refine agree_ite (agree_keep e) ?_
  cases parentCheck b p with
  | some _ => exact agree_keep e
  | none =>
    cases get b p with
    | some n => exact agree_ite (agree_keep e) (agree_keep e)
    | none => exact agree_put e

theorem writeAll_agree (e : Eqv a b) (p : FsPath) (d : Bytes) (ap : Bool) :
    Agree a (writeAll a p d ap) (writeAll b p d ap) := by
  unfold writeAll
  rw [parentCheck_eq e.eq, e.eq.2 p]
  refine agree_ite (agree_keep e) ?_
  cases parentCheck b p with
  | some _ => exact agree_keep e
  | none =>
    cases get b p with
    | some n =>
      exact agree_ite (agree_put e) (agree_ite (agree_keep e) (agree_keep e))
    | none => exact agree_put e

theorem symlink_agree (e : Eqv a b) (l tg : FsPath) : Agree a (symlink a l tg) (symlink b l tg) := by
  unfold symlink
  rw [parentCheck_eq e.eq, e.eq.2 l, e.eq.2 tg]
  refine agree_ite (agree_keep e) ?_
  cases parentCheck b l with
  | some _ => exact agree_keep e
  | none =>
    cases get b l with
    | some _ => exact agree_keep e
    | none => exact agree_put e

theorem setCwd_agree (e : Eqv a b) (p : FsPath) : Agree a (setCwd a p) (setCwd b p) := by
  unfold setCwd
  rw [e.eq.2 p]
  cases get b p with
  | none => exact agree_keep e
  | some n =>
    exact agree_ite (agree_mk ⟨rfl, e.eq.2⟩ e.left) (agree_ite (agree_keep e) (agree_keep e))

theorem mkdirLoop_eqv (perm : Nat) : ∀ (qs : List FsPath) {a b : T}, Eqv a b →
    (mkdirLoop perm qs a).1 = (mkdirLoop perm qs b).1 ∧
      Eqv (mkdirLoop perm qs a).2 (mkdirLoop perm qs b).2 := by
  intro qs
  induction qs with
  | nil => intro a b e; exact ⟨rfl, e⟩
  | cons q qs ih =>
    intro a b e
    unfold mkdirLoop
    rw [e.eq.2 q]
    cases get b q with
    | none => exact ih (e.put _ _)
    | some n =>
      dsimp only
      split
      · exact ih e
      · exact ⟨rfl, e⟩

theorem mkdir_agree (e : Eqv a b) (p : FsPath) (perm : Nat) : Agree a (mkdir a p perm) (mkdir b p perm) := by
  unfold mkdir
  rw [isLinkToDir_eq e.eq, get_eq e.eq]
  refine agree_ite (agree_keep e) ?_
  dsimp only
  split
  · exact agree_keep e
  · have hl := mkdirLoop_eqv perm (prefixes p) e
    revert hl
    rcases mkdirLoop perm (prefixes p) a with ⟨o1, t1⟩
    rcases mkdirLoop perm (prefixes p) b with ⟨o2, t2⟩
    rintro ⟨rfl, e'⟩
    cases o1 with
    | none => exact agree_mk e'.eq e'.left
    | some _ => exact agree_keep e

/-! ### `remove`, `remove_all` -/

theorem remove_agree (e : Eqv a b) (p : FsPath) : Agree a (remove a p) (remove b p) := by
  unfold remove
  rw [e.eq.2 p, e.eq.2 p.dropLast, below_isEmpty_eq e.eq]
  cases get b p with
  | none =>
    refine agree_ite (agree_keep e) ?_
    cases get b p.dropLast with
    | none => exact agree_keep e
    | some n => exact agree_ite (agree_keep e) (agree_keep e)
  | some _ =>
    exact agree_ite (agree_keep e)
      (agree_ite (agree_mk (del_congr e.eq e.left e.right p) (nodupK_del e.left p)) (agree_keep e))

theorem removeAll_agree (e : Eqv a b) (p : FsPath) : Agree a (removeAll a p) (removeAll b p) := by
  unfold removeAll
  refine agree_ite (agree_keep e) (agree_mk ⟨e.eq.1, fun k => ?_⟩ (nodupK_filter e.left _))
  rw [get_filter_key a (fun q => !(isPrefixOrEq p q)), get_filter_key b (fun q => !(isPrefixOrEq p q)),
    e.eq.2]

/-! ### `chmod`, `chown`: the nodes `selB` selects are rewritten -/

theorem agree_map_if {α} (e : Eqv a b) {r : R α} {p : FsPath} {rec : Bool} {f : Node → Node} :
    Agree a
      (r, { a with nodes := a.nodes.map (fun kv => if selB a p rec kv.1 then (kv.1, f kv.2) else kv) })
      (r, { b with nodes := b.nodes.map (fun kv => if selB b p rec kv.1 then (kv.1, f kv.2) else kv) }) :=
  agree_mk ⟨e.eq.1, fun k => by rw [get_map_if, get_map_if, selB_eq e.eq, e.eq.2]⟩ (nodupK_map_if e.left _ _)

theorem chmodOctal_agree (e : Eqv a b) (p : FsPath) (dP fP : Option Nat) (rec : Bool) :
    Agree a (chmodOctal a p dP fP rec) (chmodOctal b p dP fP rec) := by
  rw [chmodOctal_eq, chmodOctal_eq, e.eq.2 p]
  cases get b p with
  | none => exact agree_keep e
  | some _ => exact agree_map_if e

theorem chown_agree (e : Eqv a b) (p : FsPath) (uid gid : Option Nat) (rec : Bool) :
    Agree a (chown a p uid gid rec) (chown b p uid gid rec) := by
  rw [chown_eq, chown_eq, e.eq.2 p]
  cases get b p with
  | none => exact agree_keep e
  | some _ => exact agree_map_if e

/-! ### `move_p` -/

theorem moveP_agree (e : Eqv a b) (s d : FsPath) : Agree a (moveP a s d) (moveP b s d) := by
  rw [moveP_eq, moveP_eq, e.eq.2 s, isDir_eq e.eq, okDstOf_eq e.eq, emptyOntoOf_eq e.eq]
  generalize (if isDir b d = true then d ++ [baseName s] else d) = dst
  cases get b s with
  | none => exact agree_keep e
  | some sn =>
    -- six refusals, each leaving the tree as it is, before the destination is looked at
    iterate 6 refine agree_ite (agree_keep e) ?_
    refine agree_ite_of (fun _ => agree_keep e) fun hok => ?_
    rw [← okDstOf_eq e.eq, Bool.not_eq_true', Bool.not_eq_false] at hok
    exact ⟨rel_mk (movedNodes_congr e.eq s dst), fun hA => nodupK_moved_ok e.left hA s dst sn hok⟩

end Rivia.Lemmas.Sim
