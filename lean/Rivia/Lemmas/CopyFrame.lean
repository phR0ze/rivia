/-
  Rivia.Lemmas.CopyFrame — what a traversal without `pre_op` can yield, the snapshot, and the frame
  property of a whole (no-follow) copy: nothing outside the destination changes.
-/
import Rivia.Lemmas.CopyP

namespace Rivia.Lemmas
open Rivia Rivia.Str Rivia.Memfs Rivia.Spec Rivia.Spec.TreeFs Rivia.Memfs.M

/-! ### what a traversal (without `pre_op`) can yield -/

/-- every entry waiting in the iterator stack / the deferred stack satisfies `Q` -/
def ItersOk (Q : Entry → Prop) (st : ISt) : Prop :=
  (∀ it ∈ st.iters, ∀ x ∈ it.items, Q x) ∧ (∀ d ∈ st.deferred, Q d.2)

/-- one step of a traversal without `pre_op`: the consumer's state `w` is handed on untouched, an
    entry that is yielded satisfies `Q`, and so does everything still waiting -/
def Yields {σ} (Q : Entry → Prop) (w : σ) (d : Option (Outcome Entry) × ISt × σ) : Prop :=
  d.2.2 = w ∧ (∀ y, d.1 = some (.ok y) → Q y) ∧ ItersOk Q d.2.1

/-- the `descend` step of `process` when there is no `pre_op` -/
def descendOf {σ} (snap : Snap) (o : Opts) (st : ISt) (e : Entry) (w : σ) :
    Option (Outcome Entry) × ISt × σ :=
  if e.dir ∧ (!e.link ∨ o.follow) then
    if e.link ∧ st.iters.any (fun x => x.path = e.path) then (some (.err .linkLooping), st, w)
    else if st.iters.length < o.maxDepth then
      match mkIter snap o e.path with
      | .ok it =>
        if o.sorted ∨ st.openDesc + 1 > o.maxDesc then
          (none, { st with iters := { it with cached := true } :: st.iters }, w)
        else (none, { st with iters := it :: st.iters, openDesc := st.openDesc + 1 }, w)
      | .err k => (some (.err k), st, w)
      | .panic => (some .panic, st, w)
      | .hang => (some .hang, st, w)
    else (none, st, w)
  else (none, st, w)

theorem descendOf_spec {σ} (Q : Entry → Prop) (snap : Snap) (o : Opts) (st : ISt) (e : Entry) (w : σ)
    (hst : ItersOk Q st)
    (hmk : ∀ it, mkIter snap o e.path = .ok it → ∀ x ∈ it.items, Q x) :
    Yields Q w (descendOf snap o st e w) ∧ ∀ y, (descendOf snap o st e w).1 ≠ some (.ok y) := by
  let P : Option (Outcome Entry) × ISt × σ → Prop := fun d => Yields Q w d ∧ ∀ y, d.1 ≠ some (.ok y)
  have hsame : ∀ r : Option (Outcome Entry), (∀ y, r ≠ some (.ok y)) → P (r, st, w) :=
    fun r hr => ⟨⟨rfl, fun y h => absurd h (hr y), hst⟩, hr⟩
  have hpush : ∀ it it' : EIter, mkIter snap o e.path = .ok it → it'.items = it.items → ∀ od,
      P (none, { st with iters := it' :: st.iters, openDesc := od }, w) := by
    intro it it' hit hitems od
    refine ⟨⟨rfl, (fun _ h => nomatch h), fun i hi => ?_, hst.2⟩, (fun _ h => nomatch h)⟩
    rcases List.mem_cons.1 hi with rfl | hi
    · rw [hitems]; exact hmk it hit
    · exact hst.1 i hi
  show P (descendOf snap o st e w)
  unfold descendOf
  refine prop_ite (prop_ite (hsame _ (fun _ h => nomatch h)) (prop_ite ?_ (hsame _ (fun _ h => nomatch h))))
    (hsame _ (fun _ h => nomatch h))
  split
  · rename_i it hit
    exact prop_ite (hpush it { it with cached := true } hit rfl _) (hpush it it hit rfl _)
  · exact hsame _ (fun _ h => nomatch h)
  · exact hsame _ (fun _ h => nomatch h)
  · exact hsame _ (fun _ h => nomatch h)

theorem process_eq_descendOf {σ} (snap : Snap) (o : Opts) (st : ISt) (e : Entry) (w : σ) :
    process snap o noPre st e w =
      match descendOf snap o st e w with
      | (some r, st', w') => (some r, st', w')
      | (none, st', w') =>
        if st.iters.length < o.minDepth then (none, st', w')
        else if (o.files ∧ !e.file) ∨ (!o.files ∧ o.dirs ∧ !e.dir) then (none, st', w')
        else if e.dir ∧ o.contentsFirst then (none, { st' with deferred := (st.iters.length, e) :: st'.deferred }, w')
        else (some (.ok e), st', w') := by
  unfold process descendOf
  rfl

theorem process_noPre_spec {σ} (Q : Entry → Prop) (snap : Snap) (o : Opts) (st : ISt) (e : Entry) (w : σ)
    (hst : ItersOk Q st) (he : Q e)
    (hmk : ∀ it, mkIter snap o e.path = .ok it → ∀ x ∈ it.items, Q x) :
    Yields Q w (process snap o noPre st e w) := by
  rw [process_eq_descendOf]
  obtain ⟨⟨h1, _, h3⟩, h2⟩ := descendOf_spec Q snap o st e w hst hmk
  generalize descendOf snap o st e w = d at h1 h2 h3
  obtain ⟨r, st', w'⟩ := d
  cases r with
  | some r =>
    refine ⟨h1, fun y hy => ?_, h3⟩
    exact absurd hy (h2 y)
  | none =>
    have hskip : Yields Q w ((none : Option (Outcome Entry)), st', w') := ⟨h1, (fun _ h => nomatch h), h3⟩
    refine prop_ite (P := Yields Q w) hskip (prop_ite hskip (prop_ite ?_ ?_))
    · refine ⟨h1, (fun _ h => nomatch h), h3.1, fun d hd => ?_⟩
      rcases List.mem_cons.1 hd with rfl | hd
      · exact he
      · exact h3.2 d hd
    · refine ⟨h1, fun y hy => ?_, h3⟩
      cases hy; exact he

theorem nextLoop_noPre_spec {σ} (Q : Entry → Prop) (snap : Snap) (o : Opts)
    (hmk : ∀ e, Q e → ∀ it, mkIter snap o e.path = .ok it → ∀ x ∈ it.items, Q x)
    (hfol : ∀ x, Q x → Q (x.doFollow o.follow)) :
    ∀ (f : Nat) (st : ISt) (w : σ), ItersOk Q st → Yields Q w (nextLoop snap o noPre f st w) := by
  intro f
  induction f with
  | zero =>
    intro st w hst
    rw [nextLoop]
    exact ⟨rfl, by intro y hy; simp at hy, hst⟩
  | succ f ih =>
    intro st w hst
    rw [nextLoop]
    have hdef : ∀ (c : Prop) [Decidable c] (alt : Option (Outcome Entry) × ISt × σ), Yields Q w alt →
        Yields Q w (if c then
            match st.deferred with
            | d :: ds => (some (.ok d.2), { st with deferred := ds }, w)
            | [] => (none, st, w)
          else alt) := by
      intro c _ alt ⟨a1, a2, a3⟩
      split
      · split
        · rename_i d ds hd
          refine ⟨rfl, ?_, ⟨hst.1, fun x hx => hst.2 x (by rw [hd]; exact List.mem_cons_of_mem _ hx)⟩⟩
          intro y hy
          simp only [Option.some.injEq, Outcome.ok.injEq] at hy
          exact hy ▸ hst.2 d (by rw [hd]; simp)
        · exact ⟨rfl, by intro y hy; simp at hy, hst⟩
      · exact ⟨a1, a2, a3⟩
    split
    · rename_i hnil
      exact hdef _ (none, st, w) ⟨rfl, by intro y hy; simp at hy, hst⟩
    · rename_i top below hcons
      refine hdef _ _ ?_
      have hst_top : ∀ x ∈ top.items, Q x := hst.1 top (by rw [hcons]; simp)
      have hst_below : ∀ it ∈ below, ∀ x ∈ it.items, Q x :=
        fun it hit => hst.1 it (by rw [hcons]; exact List.mem_cons_of_mem _ hit)
      split
      · rename_i x xs hitems
        dsimp only
        have hst1 : ItersOk Q { st with iters := { top with items := xs } :: below } := by
          refine ⟨?_, hst.2⟩
          intro it hit
          rcases List.mem_cons.1 hit with h | h
          · intro y hy; rw [h] at hy
            exact hst_top y (by rw [hitems]; exact List.mem_cons_of_mem _ hy)
          · exact hst_below it h
        have hx : Q (x.doFollow o.follow) := hfol x (hst_top x (by rw [hitems]; simp))
        obtain ⟨p1, p2, p3⟩ := process_noPre_spec Q snap o
          { st with iters := { top with items := xs } :: below } (x.doFollow o.follow) w hst1 hx
          (hmk _ hx)
        generalize process snap o noPre { st with iters := { top with items := xs } :: below }
          (x.doFollow o.follow) w = pr at p1 p2 p3
        obtain ⟨r, st2, w2⟩ := pr
        simp only at p1 p2 p3
        subst p1
        cases r with
        | some r => exact ⟨rfl, p2, p3⟩
        | none => exact ih st2 w2 p3
      · dsimp only
        exact ih _ w ⟨hst_below, hst.2⟩

theorem nextE_noPre_spec {σ} (Q : Entry → Prop) (snap : Snap) (o : Opts) (rootE : Entry)
    (hmk : ∀ e, Q e → ∀ it, mkIter snap o e.path = .ok it → ∀ x ∈ it.items, Q x)
    (hfol : ∀ x, Q x → Q (x.doFollow o.follow)) (hroot : Q rootE)
    (f : Nat) (st : ISt) (w : σ) (hst : ItersOk Q st) :
    Yields Q w (nextE snap o noPre rootE f st w) := by
  unfold nextE
  split
  · have hst1 : ItersOk Q { st with started := true } := hst
    obtain ⟨p1, p2, p3⟩ := process_noPre_spec Q snap o { st with started := true }
      (rootE.doFollow o.follow) w hst1 (hfol _ hroot) (hmk _ (hfol _ hroot))
    generalize process snap o noPre { st with started := true } (rootE.doFollow o.follow) w = pr
      at p1 p2 p3
    obtain ⟨r, st2, w2⟩ := pr
    simp only at p1 p2 p3
    subst p1
    cases r with
    | some r => exact ⟨rfl, p2, p3⟩
    | none => exact nextLoop_noPre_spec Q snap o hmk hfol f st2 w2 p3
  · exact nextLoop_noPre_spec Q snap o hmk hfol f st w hst

/-- **traversal invariant**: if every yielded entry satisfies `Q` (because the root does and `Q` is
    inherited by the children the snapshot lists) and the consumer preserves `P` on such entries,
    then a whole run preserves `P` — whatever its outcome -/
theorem runIter_noPre_inv {σ} (Q : Entry → Prop) (P : σ → Prop) (snap : Snap) (o : Opts)
    (rootE : Entry) (step : Entry → σ → Outcome Unit × σ)
    (hmk : ∀ e, Q e → ∀ it, mkIter snap o e.path = .ok it → ∀ x ∈ it.items, Q x)
    (hfol : ∀ x, Q x → Q (x.doFollow o.follow)) (hroot : Q rootE)
    (hstep : ∀ e w, Q e → P w → P (step e w).2) :
    ∀ (f : Nat) (st : ISt) (w : σ), ItersOk Q st → P w →
      P (runIter snap o noPre rootE step f st w).2 := by
  intro f
  induction f with
  | zero => intro st w _ hw; rw [runIter]; exact hw
  | succ f ih =>
    intro st w hst hw
    rw [runIter]
    obtain ⟨p1, p2, p3⟩ := nextE_noPre_spec Q snap o rootE hmk hfol hroot (f + 1) st w hst
    generalize nextE snap o noPre rootE (f + 1) st w = nx at p1 p2 p3
    obtain ⟨r, st2, w2⟩ := nx
    simp only at p1 p2 p3
    subst p1
    cases r with
    | none => exact hw
    | some r =>
      cases r with
      | ok e =>
        have hq : Q e := p2 e rfl
        have hs := hstep e w2 hq hw
        simp only
        cases hse : step e w2 with
        | mk r2 w3 =>
          rw [hse] at hs
          cases r2 with
          | ok u => cases u; exact ih st2 w3 p3 hs
          | err k => exact hs
          | panic => exact hs
          | hang => exact hs
      | err k => exact hw
      | panic => exact hw
      | hang => exact hw

/-! ### the snapshot consists of entries of the state, keyed by their own path -/

theorem cloneLoop_sub (ents : List (FsPath × Entry))
    (hpath : ∀ k e, alLookup k ents = some e → e.path = k) :
    ∀ (f : Nat) (work : List FsPath) (acc snap : Snap),
      (∀ k x, alLookup k acc = some x → alLookup k ents = some x) →
      cloneLoop ents f work acc = .ok snap →
      ∀ k x, alLookup k snap = some x → alLookup k ents = some x := by
  intro f
  induction f with
  | zero =>
    intro work acc snap hacc h
    rw [cloneLoop] at h
    cases h; exact hacc
  | succ f ih =>
    intro work acc snap hacc h
    cases work with
    | nil => rw [cloneLoop] at h; cases h; exact hacc
    | cons p work =>
      rw [cloneLoop] at h
      cases he : alLookup p ents with
      | none => rw [he] at h; cases h
      | some e =>
        rw [he] at h
        simp only at h
        refine ih _ _ snap ?_ h
        intro k x hk
        rw [alLookup_alInsert] at hk
        split at hk
        · rename_i hkk
          cases hk
          rw [← hkk, hpath p e he]; exact he
        · exact hacc k x hk

theorem entriesOf_sub {s : State} (hi : InvF s) {abs : FsPath} {rootE : Entry} {snap : Snap}
    (h : entriesOf s abs = .ok (rootE, snap)) :
    alLookup abs s.entries = some rootE ∧
    ∀ k x, alLookup k snap = some x → alLookup k s.entries = some x := by
  unfold entriesOf at h
  cases he : alLookup abs s.entries with
  | none => rw [he] at h; cases h
  | some e =>
    rw [he] at h
    simp only at h
    cases hc : cloneEntries s abs with
    | ok sn =>
      rw [hc] at h
      simp only [Outcome.ok.injEq, Prod.mk.injEq] at h
      obtain ⟨h1, h2⟩ := h
      subst h1 h2
      refine ⟨rfl, ?_⟩
      unfold cloneEntries at hc
      exact cloneLoop_sub s.entries hi.path _ _ [] sn (by intro k x hk; simp [alLookup] at hk) hc
    | err k => rw [hc] at h; cases h
    | panic => rw [hc] at h; cases h
    | hang => rw [hc] at h; cases h

theorem mem_filterMap_takeWhile {α} {l : List (Option α)} {x : α}
    (h : x ∈ (l.takeWhile Option.isSome).filterMap id) : some x ∈ l := by
  rw [List.mem_filterMap] at h
  obtain ⟨o, ho, hx⟩ := h
  simp only [id] at hx
  subst hx
  exact (List.takeWhile_sublist _).subset ho

theorem mkIter_items {snap : Snap} {path : FsPath} {it : EIter}
    (h : mkIter snap (copyOpts false) path = .ok it) :
    ∀ x ∈ it.items, ∃ n, alLookup (path ++ [n]) snap = some x := by
  unfold mkIter at h
  cases he : alLookup path snap with
  | none => rw [he] at h; cases h
  | some e =>
    rw [he] at h
    simp only [copyOpts, Bool.false_eq_true, if_false, Outcome.ok.injEq] at h
    subst h
    intro x hx
    simp only [List.mem_map] at hx
    obtain ⟨y, hy, rfl⟩ := hx
    rw [doFollow_false]
    have := mem_filterMap_takeWhile hy
    rw [List.mem_map] at this
    obtain ⟨k, hk, hky⟩ := this
    cases hf : e.files with
    | none => rw [hf] at hk; simp at hk
    | some fs =>
      rw [hf] at hk
      simp only [List.mem_map] at hk
      obtain ⟨n, _, rfl⟩ := hk
      exact ⟨n, hky⟩

/-! ### a no-follow copy as a traversal of the source subtree -/

/-- **induction over a copy without `follow`**: what holds of the state before the call and is kept by
    the per-entry step, for every entry of the pre-state at a key `sk ++ r`, holds after the call,
    whatever its outcome.  Up to the traversal the call only reads. -/
theorem copyM_inv {env : Env} {a b : Str} {c : CopyOpts} {s : State} (hi : InvF s) (hk : KeysWf s)
    (hfollow : c.follow = false) (P : State → Prop) (h0 : P s)
    (hstep : ∀ sk dk, absM env a s = (.ok sk, s) → absM env b s = (.ok dk, s) → WfKey sk →
      ∀ e r w, e.path = sk ++ r → WfKey r → alLookup (sk ++ r) s.entries = some e → P w →
        P (copyStep dk c (isDirP s dk) sk e w).2) :
    P (copyM env a b c s).2 := by
  rcases absM_cases env a s with ⟨sk, ha⟩ | ⟨r, ha, hr⟩
  case inr =>
    unfold copyM
    obtain ⟨r', h', _⟩ := bind_not_ok ha hr
    rw [h']; exact h0
  rcases absM_cases env b s with ⟨dk, hb⟩ | ⟨r, hb, hr⟩
  case inr =>
    unfold copyM
    rw [bind_ok ha]
    obtain ⟨r', h', _⟩ := bind_not_ok hb hr
    rw [h']; exact h0
  by_cases hne : sk = dk
  · rw [copyM_same ha (hne ▸ hb)]; exact h0
  cases hsrc : alLookup sk s.entries with
  | none => rw [copyM_noSrc ha hb hne hsrc]; exact h0
  | some rootE0 =>
    have hp : rootE0.path = sk := hi.path sk rootE0 hsrc
    rw [copyM_eq ha hb hne hsrc, hfollow, doFollow_false, hp]
    cases hent : entriesOf s sk with
    | err k => exact h0
    | panic => exact h0
    | hang => exact h0
    | ok pr =>
      obtain ⟨travRoot, snap⟩ := pr
      obtain ⟨hroot, hsub⟩ := entriesOf_sub hi hent
      let Q : Entry → Prop := fun e => ∃ r, e.path = sk ++ r ∧ WfKey r ∧ alLookup (sk ++ r) s.entries = some e
      refine runIter_noPre_inv Q P snap (copyOpts false) travRoot _ ?_ ?_ ?_ ?_ _ {} s ?_ h0
      · intro e ⟨r, hr, hwr, hl⟩ it hit x hx
        obtain ⟨n, hn⟩ := mkIter_items hit x hx
        rw [hr] at hn
        have hxs := hsub _ _ hn
        rw [List.append_assoc] at hxs
        exact ⟨r ++ [n], hi.path _ _ hxs, (hk.key hxs).right, hxs⟩
      · intro x hx; rw [copyOpts_follow, doFollow_false]; exact hx
      · exact ⟨[], (hi.path _ _ hroot).trans (List.append_nil sk).symm, wfKey_nil,
          (List.append_nil sk).symm ▸ hroot⟩
      · intro e w ⟨r, hr, hwr, hl⟩ hw
        exact hstep sk dk ha hb (hk.key hsrc) e r w hr hwr hl hw
      · exact ⟨fun it hit => (nomatch hit), fun d hd => (nomatch hd)⟩

theorem liftO_panic_bind {α β : Type} (f : α → M β) (s : State) :
    ((M.liftO (.panic : Outcome α)) >>= f) s = (.panic, s) := rfl
theorem liftO_hang_bind {α β : Type} (f : α → M β) (s : State) :
    ((M.liftO (.hang : Outcome α)) >>= f) s = (.hang, s) := rfl

/-- **a copy touches nothing outside the destination**: every key that is neither below the
    destination root, nor the root itself, nor one of its ancestors keeps its entry and its data,
    and the cwd is unchanged — whatever the outcome of the call -/
theorem copyM_frame {env : Env} {a b : Str} {c : CopyOpts} {s : State} {sk dk : FsPath}
    (hi : InvF s) (hk : KeysWf s) (hfollow : c.follow = false)
    (ha : absM env a s = (.ok sk, s)) (hb : absM env b s = (.ok dk, s)) (hdk : WfKey dk) :
    (∀ k, ¬ Cmp (copyDst s sk dk) k →
      alLookup k (copyM env a b c s).2.entries = alLookup k s.entries ∧
      alLookup k (copyM env a b c s).2.files = alLookup k s.files) ∧
    (copyM env a b c s).2.cwd = s.cwd := by
  refine copyM_inv hi hk hfollow (fun σ => (∀ k, ¬ Cmp (copyDst s sk dk) k →
      alLookup k σ.entries = alLookup k s.entries ∧ alLookup k σ.files = alLookup k s.files) ∧
    σ.cwd = s.cwd) ⟨fun _ _ => ⟨rfl, rfl⟩, rfl⟩ ?_
  intro sk' dk' ha' hb' hwsk e r w hr hwr _ hw
  cases ha.symm.trans ha'
  cases hb.symm.trans hb'
  obtain ⟨f1, f2⟩ := frame_copyStep (dk := dk) (rootPath := sk) (D := copyDst s sk dk) (c := c)
    (ci := isDirP s dk) e (fun pre hpre => ⟨r, hr ▸ dstOf_eq_copyDst hdk hwsk hwr hpre⟩) w
  refine ⟨fun k hk' => ?_, f2.trans hw.2⟩
  exact ⟨((f1 k hk').1).trans (hw.1 k hk').1, ((f1 k hk').2).trans (hw.1 k hk').2⟩

theorem mapVal_of_ok {α : Type} {f : α → Val} {m : M α} {s s' : State} {a : α}
    (h : m s = (.ok a, s')) : mapVal f m s = (.ok (f a), s') := by
  unfold mapVal; rw [h]

theorem mapVal_ok {α : Type} {f : α → Val} {m : M α} {s s' : State} {v : Val}
    (h : mapVal f m s = (.ok v, s')) : ∃ a, m s = (.ok a, s') ∧ v = f a := by
  unfold mapVal at h
  cases hm : m s with
  | mk r s1 =>
    rw [hm] at h
    cases r with
    | ok a => cases h; exact ⟨a, rfl, rfl⟩
    | err k => cases h
    | panic => cases h
    | hang => cases h

end Rivia.Lemmas
