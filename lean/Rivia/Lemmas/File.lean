/-
  Rivia.Lemmas.File — helper lemmas for C07 (read/seek handles vs `std::io::Cursor`,
  write/append handles vs the concatenation of the chunks).
-/
import Rivia.Model.File
import Rivia.Spec.Cursor
namespace Rivia.Lemmas
open Rivia Rivia.File Rivia.Spec

/-- the cursor a read handle corresponds to (same as `Props.toCursor`) -/
def cur (f : MFile) : Cursor := ⟨f.pos, f.data⟩

/-- closed form of `File.read`: the early return for `k = 0` is not observable -/
theorem read_eq (f : MFile) (n : Nat) :
    File.read f n = ((f.data.drop f.pos).take n,
      { f with pos := f.pos + ((f.data.drop f.pos).take n).length }) := by
  obtain ⟨pos, data⟩ := f
  have hl : len ⟨pos, data⟩ = data.length - pos := rfl
  simp only [File.read]
  by_cases h : min n (len ⟨pos, data⟩) = 0
  · rw [if_pos h]
    have h1 : (data.drop pos).take n = [] := by
      rw [List.take_eq_nil_iff]
      rcases Nat.lt_or_ge 0 n with hn | hn
      · right; apply List.drop_eq_nil_of_le; omega
      · left; omega
    simp [h1]
  · rw [if_neg h]
    have h1 : (data.drop pos).take (min n (len ⟨pos, data⟩)) = (data.drop pos).take n := by
      rw [List.take_eq_take_iff]; simp [List.length_drop, hl]
    rw [hl] at h1
    simp only [hl, h1, List.length_take, List.length_drop]

theorem read_cursor (f : MFile) (n : Nat) :
    (File.read f n).1 = ((cur f).read n).1 ∧ cur (File.read f n).2 = ((cur f).read n).2 := by
  rw [read_eq]; exact ⟨rfl, rfl⟩

theorem readToEnd_cursor (f : MFile) :
    (File.readToEnd f).1 = ((cur f).readAll).1 ∧
      cur (File.readToEnd f).2 = ((cur f).readAll).2 := by
  simp [File.readToEnd, Cursor.readAll, cur, File.len, List.length_drop]

theorem seek_cursor (f : MFile) (w : Whence) (off : Int) :
    (File.seek f w off).map (fun r => (r.1, cur r.2)) = (cur f).seek w off := by
  cases w
  · rfl
  all_goals
    simp only [File.seek, Cursor.seek, apply_ite (Outcome.map _)]
    rfl

/-- `seek` returns a position or an error, never panics or hangs -/
theorem seek_ok_or_err (f : MFile) (w : Whence) (off : Int) :
    (∃ p f', File.seek f w off = .ok (p, f')) ∨ ∃ k, File.seek f w off = .err k := by
  cases w
  · exact .inl ⟨_, _, rfl⟩
  all_goals
    simp only [File.seek]
    split
    · exact .inr ⟨_, rfl⟩
    · exact .inl ⟨_, _, rfl⟩

theorem runOps_cursor (f : MFile) (ops : List HOp) :
    File.runOps f ops = Cursor.runOps (cur f) ops := by
  induction ops generalizing f with
  | nil => rfl
  | cons op ops ih =>
    cases op with
    | read n =>
      simp only [File.runOps, Cursor.runOps]
      rw [(read_cursor f n).1, ih, (read_cursor f n).2]
    | readAll =>
      simp only [File.runOps, Cursor.runOps]
      rw [(readToEnd_cursor f).1, ih, (readToEnd_cursor f).2]
    | seek w o =>
      simp only [File.runOps, Cursor.runOps]
      rw [← seek_cursor f w o]
      rcases seek_ok_or_err f w o with ⟨p, f', h⟩ | ⟨k, h⟩
      · rw [h]; simp only [Outcome.map]; rw [ih]
      · rw [h]; simp only [Outcome.map]; rw [ih]

theorem runOps_length (f : MFile) (ops : List HOp) : (File.runOps f ops).length = ops.length := by
  induction ops generalizing f with
  | nil => rfl
  | cons op ops ih =>
    cases op with
    | read n => simp only [File.runOps, List.length_cons, ih]
    | readAll => simp only [File.runOps, List.length_cons, ih]
    | seek w o =>
      simp only [File.runOps]
      rcases seek_ok_or_err f w o with ⟨p, f', h⟩ | ⟨k, h⟩
      · rw [h]; simp only [List.length_cons, ih]
      · rw [h]; simp only [List.length_cons, ih]

/-! ### write handles -/

theorem runW_data (h : WHandle) (st : Bytes) (ops : List WOp) :
    (runW h st ops).1.data = h.data ++ chunksOf ops := by
  induction ops generalizing h st with
  | nil => simp [runW, chunksOf]
  | cons op ops ih =>
    cases op with
    | write c => simp only [runW, chunksOf, ih, WHandle.write, List.append_assoc]
    | flush => simp only [runW, chunksOf, ih]

theorem runW_append (h : WHandle) (st : Bytes) (a b : List WOp) :
    runW h st (a ++ b) = runW (runW h st a).1 (runW h st a).2 b := by
  induction a generalizing h st with
  | nil => rfl
  | cons op a ih =>
    cases op with
    | write c => simp only [List.cons_append, runW, ih]
    | flush => simp only [List.cons_append, runW, ih]

theorem runW_flush_last (h : WHandle) (st : Bytes) (ops : List WOp) :
    (runW h st (ops ++ [.flush])).2 = h.data ++ chunksOf ops := by
  rw [runW_append]
  simp only [runW, WHandle.sync, runW_data]

theorem writeSession_eq (append : Bool) (stored : Bytes) (ops : List WOp) :
    writeSession append stored ops = (if append then stored else []) ++ chunksOf ops := by
  simp only [writeSession, WHandle.sync, runW_data]
  cases append <;> rfl

end Rivia.Lemmas
