/-
  Rivia.Lemmas.ContentCopy — `copy` / `move_p` of a single regular file onto a fresh path, reduced to
  the file branch of the loop body (`copyFileAt`) and analysed with the content lemmas.
-/
import Rivia.Lemmas.Content
import Rivia.Lemmas.MovedEntry
import Rivia.Lemmas.InvBAbs

namespace Rivia.Lemmas
open Rivia Rivia.Memfs Rivia.File Rivia.Memfs.M

/-- `copy` and `move_p` start by resolving both paths -/
theorem bind_abs2 {α} {env : Env} {src dst : Str} {s : State} {sk dk : FsPath}
    (K : FsPath → FsPath → M α) (hsrc : absM env src s = (.ok sk, s))
    (hdst : absM env dst s = (.ok dk, s)) :
    (absM env src >>= fun a => absM env dst >>= fun b => K a b) s = K sk dk s := by
  rw [bind_ok hsrc, bind_ok hdst]

/-! ### the traversal of a one-entry snapshot -/

theorem cloneLoop_nil (ents : List (FsPath × Entry)) (f : Nat) (acc : Snap) :
    cloneLoop ents f [] acc = .ok acc := by
  cases f <;> rfl

theorem cloneEntries_file {s : State} {k : FsPath} {e : Entry} (he : alLookup k s.entries = some e)
    (hl : e.link = false) (hfs : e.files = none) :
    cloneEntries s k = .ok [(e.path, e)] := by
  unfold cloneEntries
  have : ∃ f, 4 * (s.entries.length + 1) * (s.entries.length + 1) = f + 1 := by
    refine ⟨4 * (s.entries.length + 1) * (s.entries.length + 1) - 1, ?_⟩
    have : 0 < 4 * (s.entries.length + 1) * (s.entries.length + 1) :=
      Nat.mul_pos (Nat.mul_pos (by decide) (Nat.succ_pos _)) (Nat.succ_pos _)
    omega
  obtain ⟨f, hf⟩ := this
  rw [hf]
  simp only [cloneLoop, he, hfs, hl]
  cases e.alt <;> simp [cloneLoop_nil, alInsert]

theorem entriesOf_file {s : State} {k : FsPath} {e : Entry} (he : alLookup k s.entries = some e)
    (hl : e.link = false) (hfs : e.files = none) :
    entriesOf s k = .ok (e, [(e.path, e)]) := by
  unfold entriesOf
  rw [he]
  simp only [cloneEntries_file he hl hfs]

theorem runIter_single {σ} (snap : Snap) (e : Entry) (hd : e.dir = false)
    (stp : Entry → σ → Outcome Unit × σ) (f : Nat) (w : σ) :
    runIter snap {} noPre e stp (f + 2) {} w = stp e w := by
  have hdf : e.doFollow false = e := by simp [Entry.doFollow]
  have hp : process snap {} (noPre (σ := σ)) { started := true } e w = (some (.ok e), { started := true }, w) := by
    simp [process, hd]
  simp only [runIter, nextE, hdf, hp]
  simp only [Bool.not_false, if_true]
  split
  · rename_i w' h
    simp [h, nextLoop]
  · rfl

/-- the file branch of the `_copy` loop body, for source entry `e` stored under `sk` and
    destination key `dk` -/
def copyFileAt (sk dk : FsPath) (e : Entry) : M Unit := do
  let _ ← add (({ e with path := dk } : Entry).setMode e.mode)
  if (← getFile dk).isNone then fail .isNotFile
  match (← getFile sk) with
  | some b => setFile dk b
  | none => fail .doesNotExist

theorem travFuel_single (x : FsPath × Entry) : travFuel [x] = 574 + 2 := by simp [travFuel]

theorem copyM_file {env : Env} {src dst : Str} {s : State} {sk dk : FsPath} {e pd : Entry}
    (hsrc : absM env src s = (.ok sk, s)) (hdst : absM env dst s = (.ok dk, s))
    (hne : sk ≠ dk)
    (he : alLookup sk s.entries = some e) (hpath : e.path = sk)
    (hf : e.file = true) (hl : e.link = false) (hd : e.dir = false) (hfs : e.files = none)
    (hisdir : isDirP s dk = false) (hdk0 : dk ≠ [])
    (hpar : alLookup dk.dropLast s.entries = some pd)
    (hdstOf : dstOf dk sk sk = dk) :
    copyM env src dst {} s = copyFileAt sk dk e s := by
  have hdf : e.doFollow false = e := by simp [Entry.doFollow]
  have hents : entriesOf s sk = .ok (e, [(sk, e)]) := by
    rw [entriesOf_file he hl hfs, hpath]
  unfold copyM
  rw [bind_abs2 _ hsrc hdst]
  simp only [hne, if_false, get_bind, he, mpure_bind_apply, hdf, hpath, hents, liftO_ok_bind,
    travFuel_single, runIter_single _ _ hd, hisdir, Bool.false_eq_true]
  simp only [Bool.not_false, hl, Bool.false_eq_true, and_false, if_false, getEntry_bind, he,
    mpure_bind_apply, hd, hdstOf, dirOf, hdk0, hpar, Option.isNone_some, Option.getD_none,
    Bool.not_true, hf, hpath, copyFileAt, if_true]
  rfl

/-- the entry `_copy` adds at the destination -/
def dstEntry (e : Entry) (dk : FsPath) : Entry := ({ e with path := dk } : Entry).setMode e.mode

theorem copyFileAt_onFile (sk dk : FsPath) (e : Entry) :
    copyFileAt sk dk e = onFile (dstEntry e dk) (fun o =>
      if o.isNone then fail .isNotFile else do
        match (← getFile sk) with
        | some b => setFile dk b
        | none => fail .doesNotExist) := rfl

theorem copyFileAt_ok {sk dk : FsPath} {e : Entry} {s s' : State} {u : Unit}
    (hne : sk ≠ dk) (hf : e.file = true) (hl : e.link = false) (hd : e.dir = false)
    (h : copyFileAt sk dk e s = (.ok u, s')) :
    (∃ b, content s sk = some b ∧ content s' dk = some b) ∧
    (∀ q, q ≠ dk → content s' q = content s q) ∧ s'.cwd = s.cwd := by
  rw [copyFileAt_onFile] at h
  obtain ⟨s1, b0, (O : Opened dk s s1 b0), hg⟩ :=
    onFile_ok (e := dstEntry e dk) ⟨hf, hl, hd⟩ (fun _ _ _ h => by cases h) h
  simp only [Option.isNone_some, Bool.false_eq_true, if_false, getFile_bind] at hg
  cases hb : alLookup sk s1.files with
  | none => rw [hb] at hg; cases hg
  | some b =>
    rw [hb] at hg; cases hg
    have hF : Frame dk s { s1 with files := alInsert dk b s1.files } :=
      O.frame.trans (Frame.of_files rfl (.inr ⟨b, rfl⟩))
    exact ⟨⟨b, (O.frame.other sk hne).symm.trans hb, alLookup_alInsert_self _ _ _⟩, hF.other, hF.cwd⟩

/-! ### the destination of the traversal root -/

/-- for well-formed keys the destination computed by `_copy`/`move_p` for the root entry of the
    traversal is the destination root itself -/
theorem dstOf_self {dk : FsPath} (sk : FsPath) (h : ∀ n ∈ dk, Wf n) : dstOf dk sk sk = dk := by
  have := InvB.dstOf_append_eq (pre := sk) (r := []) (WfKey.bodyPiece h) (fun _ hp => nomatch hp)
  rwa [List.append_nil, List.append_nil] at this

/-! ### `move_p` of a single entry without children -/

@[simp] theorem removeEntry_bind {β} (p : FsPath) (f : Option Entry → M β) (s : State) :
    (removeEntry p >>= f) s = f (alLookup p s.entries) { s with entries := alErase p s.entries } := rfl
@[simp] theorem removeFile_bind {β} (p : FsPath) (f : Option Bytes → M β) (s : State) :
    (removeFile p >>= f) s = f (alLookup p s.files) { s with files := alErase p s.files } := rfl

/-- a computation that never touches the data map or the working directory -/
def KeepsFiles {α} (m : M α) : Prop := ∀ s, (m s).2.files = s.files ∧ (m s).2.cwd = s.cwd

theorem keeps_bind {α β} {m : M α} {f : α → M β} (hm : KeepsFiles m) (hf : ∀ a, KeepsFiles (f a)) :
    KeepsFiles (m >>= f) := by
  intro s
  rw [bind_apply]
  have h1 := hm s
  rcases hr : m s with ⟨o, s1⟩
  rw [hr] at h1
  cases o with
  | ok a => have h2 := hf a s1; exact ⟨h2.1.trans h1.1, h2.2.trans h1.2⟩
  | err k => exact h1
  | panic => exact h1
  | hang => exact h1

theorem keeps_pure {α} (a : α) : KeepsFiles (Pure.pure a : M α) := fun _ => ⟨rfl, rfl⟩
theorem keeps_mpure {α} (a : α) : KeepsFiles (M.pure a : M α) := fun _ => ⟨rfl, rfl⟩
theorem keeps_fail {α} (k : ErrKind) : KeepsFiles (M.fail k : M α) := fun _ => ⟨rfl, rfl⟩
theorem keeps_liftO {α} (o : Outcome α) : KeepsFiles (M.liftO o) := fun _ => ⟨rfl, rfl⟩
theorem keeps_getEntry (p : FsPath) : KeepsFiles (getEntry p) := fun _ => ⟨rfl, rfl⟩
theorem keeps_setEntry (p : FsPath) (e : Entry) : KeepsFiles (setEntry p e) := fun _ => ⟨rfl, rfl⟩
theorem keeps_dirOf (p : FsPath) : KeepsFiles (dirOf p) := by
  unfold dirOf; split
  · exact keeps_fail _
  · exact keeps_mpure _
theorem keeps_moveLoop_nil (a b : FsPath) (c : Bool) (f : Nat) : KeepsFiles (moveLoop a b c f []) := by
  cases f
  · exact fun _ => ⟨rfl, rfl⟩
  · exact keeps_mpure _

def moveRest (sk dk : FsPath) (f : Nat) : M Unit := do
  let sd ← dirOf sk
  match (← getEntry sd) with
  | some oldParent =>
    let op' ← liftO (oldParent.removeChild (baseName sk))
    setEntry sd op'
    let dd ← dirOf dk
    match (← getEntry dd) with
    | some newParent =>
      let (_, np') ← liftO (newParent.addChild (baseName dk))
      setEntry dd np'
    | none => fail .parentNotFound
  | none => M.pure ()
  moveLoop sk dk false (f + 1) []

theorem keeps_moveRest (sk dk : FsPath) (f : Nat) : KeepsFiles (moveRest sk dk f) := by
  unfold moveRest
  refine keeps_bind (keeps_dirOf _) (fun sd => keeps_bind (keeps_getEntry _) (fun o => ?_))
  cases o with
  | none => exact keeps_bind (keeps_mpure _) (fun _ => keeps_moveLoop_nil _ _ _ _)
  | some op =>
    refine keeps_bind (keeps_liftO _) (fun _ => keeps_bind (keeps_setEntry _ _) (fun _ =>
      keeps_bind (keeps_dirOf _) (fun _ => keeps_bind (keeps_getEntry _) (fun o2 => ?_))))
    cases o2 with
    | none => exact keeps_bind (keeps_fail _) (fun _ => keeps_moveLoop_nil _ _ _ _)
    | some np =>
      exact keeps_bind (keeps_liftO _) (fun _ => keeps_bind (keeps_setEntry _ _)
        (fun _ => keeps_moveLoop_nil _ _ _ _))

theorem moveLoop_single {s : State} {sk dk : FsPath} {e : Entry} (f : Nat)
    (he : alLookup sk s.entries = some e)
    (hfs : e.files = none)
    (hdstOf : dstOf dk sk sk = dk) (hdk0 : dk ≠ []) :
    moveLoop sk dk false (f + 2) [sk] s =
      moveRest sk dk f
        { s with entries := alInsert dk (movedEntry e dk) (alErase sk s.entries),
                 files := match alLookup sk s.files with
                   | some b => alInsert dk b (alErase sk s.files)
                   | none => alErase sk s.files } := by
  rw [show f + 2 = (f + 1) + 1 from rfl, moveLoop_succ_cons]
  simp only [Bool.false_eq_true, if_false, mpure_bind_apply, hdstOf, removeEntry_bind, he,
    movedRelM_eq_pure (movedOk_of_ne hdk0), setEntry_bind, removeFile_bind]
  cases hb : alLookup sk s.files with
  | none =>
    simp only [mpure_bind_apply, hfs, movedEntry, List.reverse_nil, List.nil_append]
    rfl
  | some b =>
    simp only [setFile_bind, hfs, movedEntry, List.reverse_nil, List.nil_append]
    rfl

/-- a `move_p` onto a path that is not a directory that returns `Ok` has passed every check, and
    its result is that of the loop -/
theorem moveM_ok_loop {env : Env} {src dst : Str} {s s' : State} {sk dk : FsPath} {e pd : Entry}
    {u : Unit}
    (hsrc : absM env src s = (.ok sk, s)) (hdst : absM env dst s = (.ok dk, s))
    (hne : sk ≠ dk) (he : alLookup sk s.entries = some e)
    (hisdir : isDirP s dk = false) (hdk0 : dk ≠ [])
    (hpar : alLookup dk.dropLast s.entries = some pd)
    (h : moveM env src dst s = (.ok u, s')) :
    moveLoop sk dk false (8 * (s.entries.length + 2)) [sk] s = (.ok u, s') := by
  unfold moveM at h
  rw [bind_abs2 _ hsrc hdst] at h
  cases hnp : sk.isPrefixOf dk with
  | true =>
    simp only [get_bind, hisdir, getEntry_bind, he, mpure_bind_apply, Bool.false_eq_true, if_false,
      Ne.symm hne, hnp, if_true, fail_bind_apply] at h
    cases h
  | false =>
    simp only [get_bind, hisdir, getEntry_bind, he, mpure_bind_apply, Bool.false_eq_true, if_false,
      Ne.symm hne, hnp, dirOf, hdk0, hpar] at h
    -- each check that is left either fails or goes on in the same state
    split at h
    · simp only [mpure_bind_apply, getEntry_bind] at h
      cases hx : alLookup dk s.entries with
      | none => rw [hx] at h; exact h
      | some x =>
        rw [hx] at h
        by_cases hc : (x.file && !x.link && e.file && !e.link) = true
        · simp only [hc, if_true, mpure_bind_apply] at h; exact h
        · simp only [hc] at h; cases h
    · cases h

/-- a successful `move_p` of a single entry without children onto a fresh key: the data map after
    the call, in closed form -/
theorem moveM_file_ok {env : Env} {src dst : Str} {s s' : State} {sk dk : FsPath} {e pd : Entry}
    {u : Unit}
    (hsrc : absM env src s = (.ok sk, s)) (hdst : absM env dst s = (.ok dk, s))
    (hne : sk ≠ dk) (he : alLookup sk s.entries = some e) (hfs : e.files = none)
    (hisdir : isDirP s dk = false) (hdk0 : dk ≠ [])
    (hpar : alLookup dk.dropLast s.entries = some pd)
    (hdstOf : dstOf dk sk sk = dk) (h : moveM env src dst s = (.ok u, s')) :
    s'.files = (match alLookup sk s.files with
      | some b => alInsert dk b (alErase sk s.files)
      | none => alErase sk s.files) ∧ s'.cwd = s.cwd := by
  have h8 : 8 * (s.entries.length + 2) = (8 * s.entries.length + 14) + 2 := by omega
  have hk := keeps_moveRest sk dk (8 * s.entries.length + 14)
    { s with entries := alInsert dk (movedEntry e dk) (alErase sk s.entries),
             files := match alLookup sk s.files with
               | some b => alInsert dk b (alErase sk s.files)
               | none => alErase sk s.files }
  rw [← moveLoop_single _ he hfs hdstOf hdk0, ← h8, moveM_ok_loop hsrc hdst hne he hisdir hdk0 hpar h] at hk
  exact hk

theorem moveM_file_content {env : Env} {src dst : Str} {s s' : State} {sk dk : FsPath} {e pd : Entry}
    {u : Unit} {b : Bytes}
    (hsrc : absM env src s = (.ok sk, s)) (hdst : absM env dst s = (.ok dk, s))
    (hne : sk ≠ dk) (he : alLookup sk s.entries = some e) (hfs : e.files = none)
    (hisdir : isDirP s dk = false) (hdk0 : dk ≠ [])
    (hpar : alLookup dk.dropLast s.entries = some pd)
    (hdstOf : dstOf dk sk sk = dk) (hb : content s sk = some b)
    (h : moveM env src dst s = (.ok u, s')) :
    content s' dk = some b ∧
    (∀ q, q ≠ dk → q ≠ sk → content s' q = content s q) ∧
    ((s.files.map (·.1)).Nodup → content s' sk = none) := by
  have h1 := (moveM_file_ok hsrc hdst hne he hfs hisdir hdk0 hpar hdstOf h).1
  have hb' : alLookup sk s.files = some b := hb
  rw [hb'] at h1
  simp only at h1
  unfold content
  rw [h1]
  refine ⟨alLookup_alInsert_self _ _ _, fun q hq1 hq2 => ?_, fun hnd => ?_⟩
  · rw [alLookup_alInsert_ne (Ne.symm hq1), alLookup_alErase_ne (Ne.symm hq2)]
  · rw [alLookup_alInsert_ne (Ne.symm hne), alLookup_alErase_self hnd]

end Rivia.Lemmas
