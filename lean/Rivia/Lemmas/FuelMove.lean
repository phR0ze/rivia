/-
  Rivia.Lemmas.FuelMove — `move_p` never exhausts its fuel, provided the destination keys computed
  by `dstOf` lie outside the source subtree (true whenever names are well-formed; stated as an
  explicit decidable hypothesis because `Spec.Inv` says nothing about the characters of names).

  Potential: Φ(l, W) = Σ over the worklist of the number of entries at/under that path.
  Without any hypothesis `move_p` never panics, and it returns when the source has no children.
-/
import Rivia.Lemmas.FuelRemove
import Rivia.Lemmas.MoveP

namespace Rivia.Lemmas
open Rivia Rivia.Memfs Rivia.Memfs.M Rivia.File

/-! ### counting entries under a path -/

/-- number of entries at or under `x` -/
def cnt (l : Ents) (x : FsPath) : Nat := l.countP (fun kv => x <+: kv.1)

theorem mem_alErase {β} {k k0 : FsPath} {v : β} {l : List (FsPath × β)} (h : (k, v) ∈ alErase k0 l) :
    (k, v) ∈ l := by
  induction l with
  | nil => simp [alErase] at h
  | cons kv l ih =>
    obtain ⟨k', v'⟩ := kv
    simp only [alErase] at h
    split at h
    · exact List.mem_cons_of_mem _ h
    · rcases List.mem_cons.1 h with h | h
      · rw [h]; exact List.mem_cons_self
      · exact List.mem_cons_of_mem _ (ih h)

theorem countP_alErase_le {β} (r : FsPath → Bool) (k0 : FsPath) (l : List (FsPath × β)) :
    (alErase k0 l).countP (fun kv => r kv.1) ≤ l.countP (fun kv => r kv.1) := by
  induction l with
  | nil => simp [alErase]
  | cons kv l ih =>
    obtain ⟨k', v'⟩ := kv
    simp only [alErase]
    split
    · rw [List.countP_cons]; omega
    · rw [List.countP_cons, List.countP_cons]; omega

theorem countP_alInsert_not {β} (r : FsPath → Bool) {k0 : FsPath} (h : r k0 = false) (v0 : β)
    (l : List (FsPath × β)) :
    (alInsert k0 v0 l).countP (fun kv => r kv.1) = l.countP (fun kv => r kv.1) := by
  induction l with
  | nil => simp [alInsert, h]
  | cons kv l ih =>
    obtain ⟨k', v'⟩ := kv
    simp only [alInsert]
    split
    · rename_i hk; subst hk
      rw [List.countP_cons, List.countP_cons]
    · rw [List.countP_cons, List.countP_cons, ih]

theorem countP_alInsert_mem {β} (r : FsPath → Bool) {k0 : FsPath} {v : β} (v0 : β)
    {l : List (FsPath × β)} (h : alLookup k0 l = some v) :
    (alInsert k0 v0 l).countP (fun kv => r kv.1) = l.countP (fun kv => r kv.1) := by
  induction l with
  | nil => simp [alLookup] at h
  | cons kv l ih =>
    obtain ⟨k', v'⟩ := kv
    simp only [alLookup] at h
    simp only [alInsert]
    split
    · rename_i hk; subst hk
      rw [List.countP_cons, List.countP_cons]
    · rename_i hk
      rw [if_neg hk] at h
      rw [List.countP_cons, List.countP_cons, ih h]

/-! ### how one iteration may change the entry map, as far as the source subtree can see -/

/-- `l'` has, at/under `root`, only entries of `l` (same `path`, child names a sublist), and no
    more entries under any path below `root` than `l` -/
structure Sub (root : FsPath) (l l' : Ents) : Prop where
  count : ∀ x, root <+: x → cnt l' x ≤ cnt l x
  ents : ∀ k e', (k, e') ∈ l' → root <+: k →
    ∃ e, (k, e) ∈ l ∧ e'.path = e.path ∧ (names e').Sublist (names e)

theorem Sub.erase (root : FsPath) (l : Ents) (w : FsPath) : Sub root l (alErase w l) :=
  ⟨fun x _ => countP_alErase_le (fun k => x <+: k) w l,
   fun _ e' h _ => ⟨e', mem_alErase h, rfl, List.Sublist.refl _⟩⟩

theorem Sub.refl (root : FsPath) (l : Ents) : Sub root l l :=
  ⟨fun _ _ => Nat.le_refl _, fun _ e' h _ => ⟨e', h, rfl, List.Sublist.refl _⟩⟩

theorem prefix_trans_not {root x k : FsPath} (hx : root <+: x) (hk : ¬ root <+: k) : ¬ x <+: k :=
  fun h => hk (hx.trans h)

theorem Sub.insert_out {root : FsPath} {l l0 : Ents} (h : Sub root l l0) {k : FsPath}
    (hk : ¬ root <+: k) (v : Entry) : Sub root l (alInsert k v l0) := by
  refine ⟨fun x hx => ?_, fun k' e' hm hu => ?_⟩
  · have : cnt (alInsert k v l0) x = cnt l0 x :=
      countP_alInsert_not (fun k => x <+: k) (by simpa using prefix_trans_not hx hk) v l0
    rw [this]; exact h.count x hx
  · rcases mem_alInsert hm with heq | hm
    · cases heq; exact absurd hu hk
    · exact h.ents k' e' hm hu

theorem Sub.insert_upd {root : FsPath} {l l0 : Ents} (h : Sub root l l0) {k : FsPath} {e0 v : Entry}
    (hl : alLookup k l0 = some e0) (hp : v.path = e0.path) (hn : (names v).Sublist (names e0)) :
    Sub root l (alInsert k v l0) := by
  refine ⟨fun x hx => ?_, fun k' e' hm hu => ?_⟩
  · have : cnt (alInsert k v l0) x = cnt l0 x := countP_alInsert_mem (fun k => x <+: k) v hl
    rw [this]; exact h.count x hx
  · rcases mem_alInsert hm with heq | hm
    · cases heq
      obtain ⟨e, he, hpe, hne⟩ := h.ents k e0 (alLookup_mem hl) hu
      exact ⟨e, he, hp.trans hpe, hn.trans hne⟩
    · exact h.ents k' e' hm hu

/-! ### invariant and potential of `moveLoop` -/

structure MInv (root : FsPath) (good : FsPath → Prop) (l : Ents) (W : List FsPath) : Prop where
  ents : ∀ k e, (k, e) ∈ l → root <+: k → e.path = k ∧ (names e).Nodup ∧ good k
  under : ∀ w ∈ W, root <+: w

def PhiM (l : Ents) (W : List FsPath) : Nat := (W.map (cnt l)).sum

theorem sum_map_add {α} (a b : α → Nat) (N : List α) :
    (N.map (fun n => a n + b n)).sum = (N.map a).sum + (N.map b).sum := by
  induction N with
  | nil => rfl
  | cons n N ih => simp only [List.map_cons, List.sum_cons, ih]; omega

theorem sum_map_zero {α} (f : α → Nat) (N : List α) (h : ∀ n ∈ N, f n = 0) : (N.map f).sum = 0 := by
  induction N with
  | nil => rfl
  | cons n N ih =>
    simp only [List.map_cons, List.sum_cons, h n List.mem_cons_self,
      ih (fun n hn => h n (List.mem_cons_of_mem _ hn))]

/-- number of listed children of `w` that are a prefix of `k` -/
def kidHits (w : FsPath) (N : List Str) (k : FsPath) : Nat :=
  (N.map (fun n => if w ++ [n] <+: k then 1 else 0)).sum

theorem kidHits_le_one (w k : FsPath) (N : List Str) (nd : N.Nodup) : kidHits w N k ≤ 1 := by
  unfold kidHits
  induction N with
  | nil => simp
  | cons n N ih =>
    rw [List.nodup_cons] at nd
    simp only [List.map_cons, List.sum_cons]
    split
    · rename_i hn
      have : (N.map (fun n => if w ++ [n] <+: k then 1 else 0)).sum = 0 := by
        apply sum_map_zero
        intro n' hn'
        rw [if_neg]
        intro hn2
        have := List.prefix_of_prefix_length_le hn hn2 (by simp)
        have := (snoc_inj (this.eq_of_length (by simp))).2
        exact nd.1 (this ▸ hn')
      omega
    · have := ih nd.2
      omega

theorem kidHits_zero {w k : FsPath} (N : List Str) (h : ¬ w <+: k ∨ k = w) : kidHits w N k = 0 := by
  unfold kidHits
  apply sum_map_zero
  intro n _
  rw [if_neg]
  intro h3
  rcases h with h | h
  · exact h ((List.prefix_append w [n]).trans h3)
  · subst h
    have := h3.length_le
    simp at this
    omega

theorem kids_count_le (l : Ents) (w : FsPath) (N : List Str) (nd : N.Nodup) :
    (N.map (fun n => cnt l (w ++ [n]))).sum + l.countP (fun kv => kv.1 = w) ≤ cnt l w := by
  induction l with
  | nil => simp [cnt, sum_map_zero]
  | cons kv l ih =>
    have hsplit : (N.map (fun n => cnt (kv :: l) (w ++ [n]))).sum =
        kidHits w N kv.1 + (N.map (fun n => cnt l (w ++ [n]))).sum := by
      unfold kidHits
      rw [← sum_map_add]
      congr 1
      apply List.map_congr_left
      intro n _
      unfold cnt
      rw [List.countP_cons]
      simp only [decide_eq_true_eq]
      omega
    have h3 : cnt (kv :: l) w = cnt l w + (if w <+: kv.1 then 1 else 0) := by
      unfold cnt; rw [List.countP_cons]; simp only [decide_eq_true_eq]
    have h4 : (kv :: l).countP (fun kv => kv.1 = w) =
        l.countP (fun kv => kv.1 = w) + (if kv.1 = w then 1 else 0) := by
      rw [List.countP_cons]; simp only [decide_eq_true_eq]
    rw [hsplit, h3, h4]
    have h1 := kidHits_le_one w kv.1 N nd
    by_cases hw : kv.1 = w
    · rw [kidHits_zero N (.inr hw), if_pos hw, if_pos (hw ▸ List.prefix_refl _)]
      omega
    · rw [if_neg hw]
      by_cases hp : w <+: kv.1
      · rw [if_pos hp]; omega
      · rw [kidHits_zero N (.inl hp), if_neg hp]; omega

theorem kids_count_lt (l : Ents) (w : FsPath) (N : List Str) (nd : N.Nodup) {e : Entry}
    (hw : (w, e) ∈ l) : (N.map (fun n => cnt l (w ++ [n]))).sum < cnt l w := by
  have h1 := kids_count_le l w N nd
  have h2 : 0 < l.countP (fun kv => kv.1 = w) :=
    List.countP_pos_iff.2 ⟨(w, e), hw, by simp⟩
  omega

theorem kidsOf_eq (e : Entry) : kidsOf e = (names e).map (fun n => e.path ++ [n]) := by
  unfold kidsOf names
  cases e.files <;> rfl

theorem sum_reverse (L : List Nat) : L.reverse.sum = L.sum := by
  induction L with
  | nil => rfl
  | cons a L ih => simp [ih]; omega

theorem move_post {root : FsPath} {good : FsPath → Prop} {l l' : Ents} {w : FsPath}
    {work : List FsPath} {e : Entry} (inv : MInv root good l (w :: work)) (hw : (w, e) ∈ l)
    (hsub : Sub root l l') :
    MInv root good l' ((kidsOf e).reverse ++ work) ∧
    PhiM l' ((kidsOf e).reverse ++ work) < PhiM l (w :: work) := by
  have hwu : root <+: w := inv.under w List.mem_cons_self
  obtain ⟨hpath, hnd, _⟩ := inv.ents w e hw hwu
  have hkids : kidsOf e = (names e).map (fun n => w ++ [n]) := by rw [kidsOf_eq, hpath]
  have hunder : ∀ x ∈ (kidsOf e).reverse ++ work, root <+: x := by
    intro x hx
    rcases List.mem_append.1 hx with hx | hx
    · rw [List.mem_reverse, hkids] at hx
      obtain ⟨n, _, rfl⟩ := List.mem_map.1 hx
      exact hwu.trans (List.prefix_append _ _)
    · exact inv.under x (List.mem_cons_of_mem _ hx)
  refine ⟨⟨?_, hunder⟩, ?_⟩
  · intro k e' hm hu
    obtain ⟨e0, he0, hp, hn⟩ := hsub.ents k e' hm hu
    obtain ⟨h1, h2, h3⟩ := inv.ents k e0 he0 hu
    exact ⟨hp.trans h1, List.Nodup.sublist hn h2, h3⟩
  · unfold PhiM
    have h1 : (((kidsOf e).reverse ++ work).map (cnt l')).sum ≤
        (((kidsOf e).reverse ++ work).map (cnt l)).sum :=
      sum_map_le _ _ _ (fun x hx => hsub.count x (hunder x hx))
    have h2 : (((kidsOf e).reverse ++ work).map (cnt l)).sum =
        ((names e).map (fun n => cnt l (w ++ [n]))).sum + (work.map (cnt l)).sum := by
      rw [List.map_append, List.sum_append, List.map_reverse, sum_reverse, hkids, List.map_map]
      rfl
    have h3 := kids_count_lt l w (names e) hnd hw
    simp only [List.map_cons, List.sum_cons]
    omega

/-! ### the loop body in pieces -/

theorem bind_assoc {α β γ} (m : M α) (f : α → M β) (g : β → M γ) :
    M.bind (M.bind m f) g = M.bind m fun a => M.bind (f a) g := by
  funext s
  unfold M.bind
  cases m s with
  | mk o s' => cases o <;> rfl

theorem bind_congr {α β} {m : M α} {f f' : α → M β} (h : ∀ a, f a = f' a) : M.bind m f = M.bind m f' :=
  congrArg _ (funext h)

/-- the data of `w` follows it to `dst` -/
def moveData (w dst : FsPath) : M Unit := do
  match (← removeFile w) with
  | some b => setFile dst b
  | none => M.pure ()

/-- `w` leaves the child list of its parent; `dst` joins the child list of its own, which must exist -/
def reparent (w dst : FsPath) : M Unit := do
  let sd ← dirOf w
  match (← getEntry sd) with
  | some oldParent =>
    let op' ← liftO (oldParent.removeChild (baseName w))
    setEntry sd op'
    let dd ← dirOf dst
    match (← getEntry dd) with
    | some newParent =>
      let (_, np') ← liftO (newParent.addChild (baseName dst))
      setEntry dd np'
    | none => fail .parentNotFound
  | none => M.pure ()

theorem moveLoop_succ (sr dr : FsPath) (ci : Bool) (f : Nat) (w : FsPath) (work : List FsPath) :
    moveLoop sr dr ci (f + 1) (w :: work) = (do
      let pre ← (if ci then dirOf sr else M.pure sr : M FsPath)
      match (← removeEntry w) with
      | none => fail .doesNotExist
      | some e =>
        let rel ← movedRelM e (dstOf dr w pre)
        setEntry (dstOf dr w pre) { e with path := dstOf dr w pre, rel := rel }
        moveData w (dstOf dr w pre)
        reparent w (dstOf dr w pre)
        moveLoop sr dr ci f ((kidsOf e).reverse ++ work)) := by
  rw [moveLoop_succ_cons]
  extract_lets body
  have hbody : ∀ pre, body pre = (do
      match (← removeEntry w) with
      | none => fail .doesNotExist
      | some e =>
        let rel ← movedRelM e (dstOf dr w pre)
        setEntry (dstOf dr w pre) { e with path := dstOf dr w pre, rel := rel }
        moveData w (dstOf dr w pre)
        reparent w (dstOf dr w pre)
        moveLoop sr dr ci f ((kidsOf e).reverse ++ work)) := by
    intro pre
    refine bind_congr fun e => ?_
    cases e with
    | none => rfl
    | some e =>
      refine bind_congr fun rel => bind_congr fun _ => ?_
      -- the join points of the `do` block: the recursive call, and re-parenting followed by it
      extract_lets kids loop relink
      have hrelink : ∀ u, relink u = (reparent w (dstOf dr w pre) >>= fun _ =>
          moveLoop sr dr ci f ((kidsOf e).reverse ++ work)) := by
        intro u
        unfold reparent
        simp only [bindM_def, bind_assoc]
        refine bind_congr fun sd => bind_congr fun op => ?_
        cases op with
        | none => rfl
        | some op =>
          simp only [bind_assoc]
          refine bind_congr fun _ => bind_congr fun _ => bind_congr fun _ => bind_congr fun np => ?_
          cases np with
          | none => rfl
          | some np => exact (bind_assoc _ _ _).symm
      unfold moveData
      simp only [bindM_def, bind_assoc]
      refine bind_congr fun b => ?_
      cases b with
      | none => exact bind_congr hrelink
      | some b => exact bind_congr hrelink
  refine Eq.trans ?_ (bind_congr hbody)
  cases ci <;> rfl

section
variable {pn hg : Prop} {s : State}

theorem wpAllow_movedRelM {e : Entry} {dst : FsPath} {Q : Str → State → Prop}
    (h : Q (movedRel e dst) s) : wpAllow pn hg (movedRelM e dst) s Q := by
  rcases movedRelM_cases e dst s with h1 | ⟨_, _, h1⟩
  · exact (wpAllow_congr (m' := M.pure _) h1).2 h
  · exact wpAllow_err (congrArg Prod.fst h1)

theorem wpAllow_moveData {w dst : FsPath} {Q : Unit → State → Prop}
    (h : ∀ s', s'.entries = s.entries → Q () s') : wpAllow pn hg (moveData w dst) s Q := by
  unfold moveData
  simp only [bindM_def, wpAllow_bind, wpAllow_removeFile]
  cases alLookup w s.files with
  | none => exact h _ rfl
  | some b => exact h _ rfl

theorem removeChild_ok {pe pe' : Entry} {b : Str} (h : pe.removeChild b = .ok pe') :
    pe'.path = pe.path ∧ (names pe').Sublist (names pe) := by
  by_cases hd : pe.dir = true
  · rw [removeChild_dir hd] at h
    cases h
    exact ⟨rfl, by rw [names_dropName]; exact List.filter_sublist⟩
  · rw [removeChild_not_dir hd] at h; cases h

/-- re-parenting changes two child lists: as far as a subtree that does not contain the new parent
    can see, the entry map only shrinks -/
theorem wpAllow_reparent {w dst : FsPath} {Q : Unit → State → Prop}
    (h : ∀ s', (∀ root l0, ¬ root <+: dst.dropLast → Sub root l0 s.entries → Sub root l0 s'.entries) →
      Q () s') : wpAllow pn hg (reparent w dst) s Q := by
  unfold reparent
  simp only [bindM_def, wpAllow_bind, wpAllow_dirOf, wpAllow_getEntry]
  intro _
  cases hop : alLookup w.dropLast s.entries with
  | none => exact h s fun _ _ _ hs => hs
  | some op =>
    simp only [wpAllow_bind, wpAllow_liftO (removeChild_fine _ _), wpAllow_setEntry, wpAllow_dirOf,
      wpAllow_getEntry]
    intro op' hop' _
    split
    · simp only [wpAllow_bind, wpAllow_liftO (addChild_fine _ _), wpAllow_setEntry]
      intro x _
      refine h _ fun root l0 hr hs => ?_
      exact Sub.insert_out (Sub.insert_upd hs hop (removeChild_ok hop').1 (removeChild_ok hop').2) hr _
    · trivial

/-- one iteration of `moveLoop`: it fails, or goes on with the children of the moved entry pushed,
    from a state whose entry map, seen from any subtree that does not contain the destination key,
    has only shrunk -/
theorem moveLoop_step {sr dr : FsPath} {ci : Bool} {f : Nat} {w : FsPath} {work : List FsPath}
    {Q : Unit → State → Prop}
    (h : ∀ e s', alLookup w s.entries = some e → (ci = true → sr ≠ []) →
      (∀ root, ¬ root <+: dstOf dr w (if ci = true then sr.dropLast else sr) →
        Sub root s.entries s'.entries) →
      wpAllow pn hg (moveLoop sr dr ci f ((kidsOf e).reverse ++ work)) s' Q) :
    wpAllow pn hg (moveLoop sr dr ci (f + 1) (w :: work)) s Q := by
  rw [moveLoop_succ]
  simp only [bindM_def, wpAllow_bind]
  -- the prefix: the source root, or its parent when copying into a directory
  have hpre : ∀ Q' : FsPath → State → Prop,
      ((ci = true → sr ≠ []) → Q' (if ci = true then sr.dropLast else sr) s) →
      wpAllow pn hg (if ci = true then dirOf sr else M.pure sr) s Q' := by
    intro Q' hQ'
    cases ci
    · exact hQ' (fun hc => by cases hc)
    · exact wpAllow_dirOf.2 fun hne => hQ' fun _ => hne
  refine hpre _ fun hne => ?_
  generalize dstOf dr w (if ci = true then sr.dropLast else sr) = dst at h ⊢
  rw [wpAllow_removeEntry]
  cases he : alLookup w s.entries with
  | none => trivial
  | some e =>
    simp only [wpAllow_bind]
    refine wpAllow_movedRelM ?_
    rw [wpAllow_setEntry]
    refine wpAllow_moveData fun s1 h1 => wpAllow_reparent fun s2 h2 => h e s2 he hne fun root hr => ?_
    refine h2 root _ (fun hd => hr (hd.trans (List.dropLast_prefix dst))) ?_
    rw [h1]
    exact Sub.insert_out (Sub.erase _ _ _) hr _

end

/-! ### the loop -/

/-- `moveLoop` never panics; and its fuel lasts when it exceeds the potential, provided the keys
    the loop computes for the entries under the source (`good`) lie outside the source subtree -/
theorem moveLoop_runs {hg : Prop} (srcRoot dstRoot : FsPath) (ci : Bool) (good : FsPath → Prop)
    (hgood : ¬ hg → ∀ k pre, good k →
      (if ci then srcRoot ≠ [] ∧ pre = srcRoot.dropLast else pre = srcRoot) →
      ¬ srcRoot <+: dstOf dstRoot k pre) :
    ∀ (f : Nat) (s : State) (W : List FsPath),
      (¬ hg → MInv srcRoot good s.entries W ∧ PhiM s.entries W < f) →
      wpAllow False hg (moveLoop srcRoot dstRoot ci f W) s (fun _ _ => True) := by
  intro f
  induction f with
  | zero =>
    intro s W h
    refine wpAllow_hang.2 (Classical.byContradiction fun hn => ?_)
    have := (h hn).2
    omega
  | succ f ih =>
    intro s W h
    cases W with
    | nil => exact wpAllow_pure.2 trivial
    | cons w work =>
      refine moveLoop_step fun e s' he hne hsub => ih s' _ fun hn => ?_
      obtain ⟨inv, hphi⟩ := h hn
      have hwm := alLookup_mem he
      have hout := hgood hn w (if ci = true then srcRoot.dropLast else srcRoot)
        (inv.ents w e hwm (inv.under w List.mem_cons_self)).2.2 (by
          cases ci
          · exact rfl
          · exact ⟨hne rfl, rfl⟩)
      obtain ⟨inv', hlt⟩ := move_post inv hwm (hsub srcRoot hout)
      exact ⟨inv', by omega⟩

/-! ### `move_p` -/

/-- the destination key computed for every entry at/under the source lies outside the source
    subtree (`sk`, `dk` = resolved source and destination; nothing is required when the source is
    the root and the destination a directory: that call fails before moving anything) -/
def MoveDstOutside (st : State) (sk dk : FsPath) : Prop :=
  ∀ kv ∈ st.entries, sk <+: kv.1 → (isDirP st dk = true → sk ≠ []) →
    ¬ sk <+: dstOf dk kv.1 (if isDirP st dk = true then sk.dropLast else sk)

instance (st : State) (sk dk : FsPath) : Decidable (MoveDstOutside st sk dk) := by
  unfold MoveDstOutside; infer_instance

/-- entering the loop of `move_p` -/
theorem moveLoop_start {hg : Prop} {st : State} {sk dk : FsPath}
    (h : ¬ hg → InvFacts st ∧ MoveDstOutside st sk dk) :
    wpAllow False hg (moveLoop sk dk (isDirP st dk) (8 * (st.entries.length + 2)) [sk]) st
      (fun _ _ => True) := by
  refine moveLoop_runs sk dk (isDirP st dk)
    (fun k => (isDirP st dk = true → sk ≠ []) →
      ¬ sk <+: dstOf dk k (if isDirP st dk = true then sk.dropLast else sk)) ?_ _ _ _ fun hn => ⟨⟨?_, ?_⟩, ?_⟩
  · intro _ k pre hg hpre
    by_cases hc : isDirP st dk = true
    · rw [if_pos hc] at hpre hg; rw [hpre.2]; exact hg (fun _ => hpre.1)
    · rw [if_neg hc] at hpre hg; rw [hpre]; exact hg (fun h => absurd h hc)
  · intro k e hke hu
    exact ⟨(h hn).1.pathField k e hke, (h hn).1.namesNodup k e hke, (h hn).2 (k, e) hke hu⟩
  · simp
  · unfold PhiM cnt
    have := List.countP_le_length (p := fun kv : FsPath × Entry => decide (sk <+: kv.1)) (l := st.entries)
    simp only [List.map_cons, List.map_nil, List.sum_cons, List.sum_nil]
    omega

theorem and4_left {a b c d : Bool} (h : (a && b && c && d) = true) : a = true := by
  cases a <;> simp_all

/-- `move_p` up to its loop: it resolves the two paths and then returns at once (an error, or `Ok`
    when source and final destination `D` coincide), or enters the loop on the unchanged state
    after these checks -/
theorem moveM_wp {pn hg : Prop} {env : Env} {src dst : Str} {st : State} {Q : Unit → State → Prop}
    (hQ : Q () st)
    (h : ∀ sk dk e D, absM env src st = (.ok sk, st) → absM env dst st = (.ok dk, st) →
      alLookup sk st.entries = some e →
      D = (if isDirP st dk = true then toPath (mash (renderP dk) (baseName sk)) else dk) →
      D ≠ sk → ¬ sk.isPrefixOf D = true →
      (alLookup D st.entries = none ∨ ∃ x, alLookup D st.entries = some x ∧ x.file = true) →
      wpAllow pn hg (moveLoop sk dk (isDirP st dk) (8 * (st.entries.length + 2)) [sk]) st Q) :
    wpAllow pn hg (moveM env src dst) st Q := by
  rw [moveM_eq]
  refine wpAllow_bind.2 (wpAllow_absM fun sk hsk => wpAllow_bind.2 (wpAllow_absM fun dk hdk => ?_))
  cases he : alLookup sk st.entries with
  | none => exact wpAllow_err (congrArg Prod.fst (moveK_nosrc he))
  | some e =>
    have h := h sk dk e (moveDst st sk dk) hsk hdk he rfl
    let W : Outcome Unit × State → Prop := fun res => wpAllow pn hg (fun _ => res) st Q
    refine (wpAllow_congr (m' := fun _ => _) (s' := st) (moveK_apply he rfl)).2 ?_
    show W (if moveDst st sk dk = sk then _ else _)
    by_cases hne : moveDst st sk dk = sk
    · rw [if_pos hne]; exact hQ
    rw [if_neg hne]
    by_cases hpre : sk.isPrefixOf (moveDst st sk dk) = true
    · rw [if_pos hpre]; trivial
    rw [if_neg hpre]
    by_cases h0 : moveDst st sk dk = []
    · rw [if_pos h0]; trivial
    rw [if_neg h0]
    cases alLookup (moveDst st sk dk).dropLast st.entries with
    | none => trivial
    | some x =>
      show W (if (x.dir && !x.link) = true then _ else _)
      by_cases hx : (x.dir && !x.link) = true
      case neg => rw [if_neg hx]; trivial
      rw [if_pos hx]
      cases hdst : alLookup (moveDst st sk dk) st.entries with
      | none => exact h hne hpre (.inl hdst)
      | some y =>
        show W (if (y.file && !y.link && e.file && !e.link) = true then _ else _)
        by_cases hy : (y.file && !y.link && e.file && !e.link) = true
        · rw [if_pos hy]; exact h hne hpre (.inr ⟨y, hdst, and4_left hy⟩)
        · rw [if_neg hy]; trivial

/-- `move_p` never panics; and on a well-formed state it does not run out of fuel, provided the
    destination keys lie outside the source subtree whenever the call passes its checks -/
theorem moveM_runs {hg : Prop} (env : Env) (src dst : Str) (st : State)
    (h : ¬ hg → Spec.Inv st ∧ ∀ sk dk e D, absM env src st = (.ok sk, st) →
      absM env dst st = (.ok dk, st) → alLookup sk st.entries = some e →
      D = (if isDirP st dk = true then toPath (mash (renderP dk) (baseName sk)) else dk) →
      D ≠ sk → ¬ sk.isPrefixOf D = true →
      (alLookup D st.entries = none ∨ ∃ x, alLookup D st.entries = some x ∧ x.file = true) →
      MoveDstOutside st sk dk) :
    wpAllow False hg (moveM env src dst) st (fun _ _ => True) :=
  moveM_wp trivial fun sk dk e D hsk hdk he hD hne hpre hdst =>
    moveLoop_start fun hn => ⟨inv_facts (h hn).1, (h hn).2 sk dk e D hsk hdk he hD hne hpre hdst⟩

/-! ### the leaf case of `move_p` needs no hypothesis at all -/

theorem moveLoop_leaf {pn hg : Prop} (srcRoot dstRoot : FsPath) (ci : Bool) (f : Nat) (w : FsPath)
    (s : State) (hnames : ∀ e, alLookup w s.entries = some e → names e = []) :
    wpAllow pn hg (moveLoop srcRoot dstRoot ci (f + 2) [w]) s (fun _ _ => True) := by
  refine moveLoop_step fun e s' he _ _ => ?_
  rw [kidsOf_eq, hnames e he]
  exact wpAllow_pure.2 trivial

/-- when the source has no listed children `move_p` returns, from any state -/
theorem moveM_leaf_runs {pn hg : Prop} (env : Env) (src dst : Str) (st : State)
    (hleafSrc : ∀ sk e, absM env src st = (.ok sk, st) → alLookup sk st.entries = some e →
      names e = []) :
    wpAllow pn hg (moveM env src dst) st (fun _ _ => True) := by
  refine moveM_wp trivial fun sk dk _ _ hsk _ _ _ _ _ _ => ?_
  have : 8 * (st.entries.length + 2) = (8 * st.entries.length + 14) + 2 := by omega
  rw [this]
  exact moveLoop_leaf sk dk _ _ sk st fun e he => hleafSrc sk e hsk he

end Rivia.Lemmas
