/-
  Rivia.Lemmas.StdfsWfStepOps — the operations of the Stdfs model other than the traversals
  (StdfsWfStepWalk) keep the tree well-formed.
-/
import Rivia.Lemmas.StdfsWfStepMove

namespace Rivia.Lemmas.StdfsWf
open Rivia Rivia.Memfs Rivia.File Rivia.Spec Rivia.Spec.TreeFs Rivia.Posix Rivia.Stdfs
open Rivia.Lemmas.StdfsL
open Rivia.Stdfs.SM

/-! ### the syscalls as computations -/

instance (k : FsPath) (m : Nat) : Pres (sysM (Posix.mkdir · k m)) := pres_sysM fun _ _ h e => wf_mkdir h e
instance (k : FsPath) (m : Nat) : Pres (sysM (Posix.chmod · k m)) := pres_sysM fun _ _ h e => wf_chmod h e
instance (k : FsPath) (u g : Option Nat) : Pres (sysM (Posix.chown · k u g)) :=
  pres_sysM fun _ _ h e => wf_chown h e
instance (k : FsPath) : Pres (sysM (unlink · k)) := pres_sysM fun _ _ h e => wf_unlink h e
instance (k : FsPath) : Pres (sysM (removeDirAll · k)) := pres_sysM fun _ _ h e => wf_removeDirAll h e
instance (k tg : FsPath) : Pres (sysM (symlinkat · k tg)) := pres_sysM fun _ _ h e => wf_symlinkat h e
instance (k : FsPath) : Pres (sysM (chdir · k)) := pres_sysM fun _ _ h e => wf_chdir h e
instance (s d : FsPath) : Pres (sysM (rename · s d)) := pres_sysM fun _ _ h e => wf_rename h e
instance (s d : FsPath) : Pres (sysM (copyFile · s d)) := pres_sysM fun _ _ h e => wf_copyFile h e
instance (f : Nat) (k : FsPath) : Pres (sysM (createDirAll · f k)) :=
  pres_sysM fun _ _ h e => wf_createDirAll _ _ _ _ h e

instance (k : FsPath) : Pres (sysM fun t => (createFile t k).map (·.2)) :=
  pres_sysM fun t t' h e => by
    cases hc : createFile t k with
    | error er => rw [hc] at e; cases e
    | ok x => rw [hc] at e; cases e; exact wf_createFile h hc

/-- the three places where the model writes a state transformer out instead of using `sysM` -/
instance (k : FsPath) (data : Bytes) :
    Pres (fun t => match createFile t k with
      | .ok (fk, t1) => ((.ok () : Outcome Unit), writeFd t1 fk data)
      | .error e => (.err (ioErr e), t)) := by
  refine ⟨fun t hw => ?_⟩
  split
  · rename_i fk t1 hc; exact wf_of_facts (wf_writeFd (wf_createFile (wf_facts hw) hc) _ _)
  · exact hw

instance (k : FsPath) (data : Bytes) :
    Pres (fun t => match openAppend t k with
      | .ok fk => ((.ok () : Outcome Unit), writeFd t fk data)
      | .error e => (.err (ioErr e), t)) := by
  refine ⟨fun t hw => ?_⟩
  split
  · exact wf_of_facts (wf_writeFd (wf_facts hw) _ _)
  · exact hw

instance (k : FsPath) :
    Pres (fun t => match rmdir t k with
      | .ok t' => ((.ok () : Outcome Unit), t')
      | .error .ENOTEMPTY => (.err .dirContainsFiles, t)
      | .error e => (.err (ioErr e), t)) := by
  refine ⟨fun t hw => ?_⟩
  split
  · rename_i t' hc; exact wf_of_facts (wf_rmdir (wf_facts hw) hc)
  · exact hw
  · exact hw

/-- Instance resolution proves `Pres` of a computation built from binds, `if`s and leaves that have an
    instance.  A `match` stops it: this walks down to the matches and splits them. -/
macro "pres_auto" : tactic => `(tactic| repeat' first
  | infer_instance
  | with_reducible refine Pres.bind (hm := ?_) (hf := fun _ => ?_)
  | with_reducible refine Pres.ite (ha := ?_) (hb := ?_)
  | split
  | dsimp only)

/-! ### the methods -/

instance (env : Env) (p : Str) : Pres (Stdfs.mkfile env p) := by
  unfold Stdfs.mkfile
  pres_auto

instance (env : Env) (p : Str) (m : Nat) : Pres (Stdfs.mkfileM env p m) := by
  unfold Stdfs.mkfileM
  infer_instance

instance (env : Env) (p : Str) (m : Nat) : Pres (Stdfs.mkdirM env p m) := by
  unfold Stdfs.mkdirM
  infer_instance

instance (env : Env) (p : Str) : Pres (Stdfs.mkdirP env p) := by
  unfold Stdfs.mkdirP
  infer_instance

instance (env : Env) (p : Str) (d : Bytes) : Pres (Stdfs.writeAll env p d) := by
  unfold Stdfs.writeAll
  infer_instance

instance (env : Env) (p : Str) (d : Bytes) : Pres (Stdfs.appendAll env p d) := by
  unfold Stdfs.appendAll
  infer_instance

instance (env : Env) (p : Str) (ls : List Str) : Pres (Stdfs.writeLines env p ls) := by
  unfold Stdfs.writeLines
  split <;> infer_instance

instance (env : Env) (p : Str) (ls : List Str) : Pres (Stdfs.appendLines env p ls) := by
  unfold Stdfs.appendLines
  split <;> infer_instance

instance (env : Env) (p : Str) (l : Str) : Pres (Stdfs.appendLine env p l) := by
  unfold Stdfs.appendLine
  infer_instance

instance (env : Env) (p : Str) : Pres (Stdfs.readAll env p) := by
  unfold Stdfs.readAll
  pres_auto

instance (env : Env) (p : Str) : Pres (Stdfs.read env p) := by
  unfold Stdfs.read
  infer_instance

instance (env : Env) (p : Str) : Pres (Stdfs.readLines env p) := by
  unfold Stdfs.readLines
  pres_auto

instance (env : Env) (p : Str) : Pres (Stdfs.remove env p) := by
  unfold Stdfs.remove
  pres_auto

instance (env : Env) (p : Str) : Pres (Stdfs.removeAll env p) := by
  unfold Stdfs.removeAll
  pres_auto

instance (env : Env) (l tg : Str) : Pres (Stdfs.symlink env l tg) := by
  unfold Stdfs.symlink
  infer_instance

instance (env : Env) (p : Str) : Pres (Stdfs.readlinkS env p) := by
  unfold Stdfs.readlinkS
  infer_instance

instance (env : Env) (p : Str) : Pres (Stdfs.setCwd env p) := by
  unfold Stdfs.setCwd
  infer_instance

instance (env : Env) (a b : Str) : Pres (Stdfs.moveP env a b) := by
  unfold Stdfs.moveP
  infer_instance

instance (env : Env) (p : Str) : Pres (Stdfs.readlinkAbs env p) := by
  refine pres_same fun t => ?_
  unfold Stdfs.readlinkAbs
  split <;> rfl

instance (env : Env) (p : Str) (w : SEntry → Bool) : Pres (Stdfs.listing1 env p w) := by
  refine pres_same fun t => ?_
  unfold Stdfs.listing1
  split
  · rfl
  · split <;> rfl

instance (env : Env) (p : Str) (w : SEntry → Bool) : Pres (Stdfs.listingAll env p w) := by
  refine pres_same fun t => ?_
  unfold Stdfs.listingAll
  split
  · split
    · rfl
    · split <;> rfl
  · rfl
  · rfl
  · rfl

end Rivia.Lemmas.StdfsWf
