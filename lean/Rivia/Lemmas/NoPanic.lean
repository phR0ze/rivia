/-
  Rivia.Lemmas.NoPanic — the C12 statements about `step`: no operation panics, on ANY state (the
  only panic branches of the model are those of the path pipeline, unreachable by `absWith_fine`,
  and the ones that propagate a panic of a callee), and the operations with a fuelled loop return on
  well-formed states.
-/
import Rivia.Lemmas.FuelTrav

namespace Rivia.Lemmas
open Rivia Rivia.Memfs Rivia.Memfs.M Rivia.File

/-- `m` never panics -/
structure NoPanic {α} (m : M α) : Prop where
  out : ∀ s, (m s).1 ≠ .panic

theorem NoPanic.listing (env : Env) (path : Str) (maxDepth : Option Nat) (dirs files : Bool) :
    NoPanic (listing env path maxDepth dirs files) :=
  ⟨fun s => (listing_runs (hg := True) env path maxDepth dirs files s
    fun hn => absurd trivial hn).ne_panic⟩

/-- operations whose termination on a well-formed state is proved here: everything except
    `move_p` and `mkfile_m` (separate statements) and the traversals that follow links -/
def TermOp : Op → Bool
  | .moveP .. | .mkfileM .. => false
  | .entries _ r => !r.follow
  | .chmodB _ c => !c.follow
  | .chownB _ c => !c.follow
  | .copyB _ _ c => !c.follow
  | _ => true

/-- the operations with a fuelled loop never panic, and on a well-formed state those of `TermOp`
    do not run out of fuel -/
theorem step_loops_run {hg : Prop} (env : Env) (s : State) (op : Op) (hs : SimpleOp op = false)
    (h : ¬ hg → Spec.Inv s ∧ TermOp op = true) :
    wpAllow False hg (fun s => step env s op) s (fun _ _ => True) := by
  have hinv : ¬ hg → Spec.Inv s := fun hn => (h hn).1
  have hfo : ∀ {b : Bool}, (TermOp op = true → (!b) = true) → ¬ hg → b = false :=
    fun hb hn => by simpa using hb (h hn).2
  -- `move_p` and `mkfile_m` are not in `TermOp`: only "no panic" is claimed
  have hno : TermOp op = false → ∀ {P : Prop}, ¬ hg → P := fun ht _ hn => by
    have := (h hn).2
    rw [ht] at this
    cases this
  cases op
  case mkfileM p mode =>
    refine wpAllow_mapVal (wpAllow_bind.2 ((Safe.mkfileM env p).wp fun r s' _ => wpAllow_bind.2 ?_))
    exact wpAllow_mono (fun _ _ _ => trivial) (chmodM_runs env _ _ s' (hno rfl))
  case removeAll p => exact wpAllow_mapVal (removeAllM_runs env p s hinv)
  case moveP a b => exact wpAllow_mapVal (moveM_runs env a b s (hno rfl))
  case paths p | dirs p | files p | allPaths p | allDirs p | allFiles p =>
    exact wpAllow_mapVal (listing_runs env p _ _ _ s hinv)
  case chmod p mode => exact wpAllow_mapVal (chmodM_runs env p _ s fun hn => ⟨hinv hn, rfl⟩)
  case chmodB p c => exact wpAllow_mapVal (chmodM_runs env p c s fun hn => ⟨hinv hn, hfo id hn⟩)
  case chown p u g => exact wpAllow_mapVal (chownM_runs env p _ s fun hn => ⟨hinv hn, rfl⟩)
  case chownB p c => exact wpAllow_mapVal (chownM_runs env p c s fun hn => ⟨hinv hn, hfo id hn⟩)
  case copy a b => exact wpAllow_mapVal (copyM_runs env a b _ s fun hn => ⟨hinv hn, rfl⟩)
  case copyB a b c => exact wpAllow_mapVal (copyM_runs env a b c s fun hn => ⟨hinv hn, hfo id hn⟩)
  case entries p r => exact travM_runs env p r s fun hn => ⟨hinv hn, hfo id hn⟩
  all_goals cases hs

theorem step_no_panic (env : Env) (s : State) (op : Op) : (step env s op).1 ≠ .panic := by
  cases hs : SimpleOp op with
  | true => exact (step_simple_fine env s op hs).1
  | false => exact (step_loops_run (hg := True) env s op hs fun hn => absurd trivial hn).ne_panic

theorem step_term_no_hang (env : Env) (s : State) (op : Op) (hinv : Spec.Inv s)
    (h : TermOp op = true) : (step env s op).1 ≠ .hang := by
  cases hs : SimpleOp op with
  | true => exact (step_simple_fine env s op hs).2
  | false => exact (step_loops_run env s op hs fun _ => ⟨hinv, h⟩).ne_hang

/-! ### decidable domains for `move_p`, and `mkfile_m` -/

/-- the resolved source of a `move_p` has no listed children (file, link, empty directory) or does
    not exist -/
def MoveSourceIsLeaf (env : Env) (s : State) (a : Str) : Prop :=
  match absM env a s with
  | (.ok sk, _) => (match alLookup sk s.entries with
    | some e => names e = []
    | none => True)
  | _ => True

instance (env : Env) (s : State) (a : Str) : Decidable (MoveSourceIsLeaf env s a) := by
  unfold MoveSourceIsLeaf
  split
  · split <;> infer_instance
  · infer_instance

/-- for the resolved source `sk` and destination `dk`, every destination key that `move_p` computes
    for an entry at/under `sk` lies outside `sk` -/
def MoveOutside (env : Env) (s : State) (a b : Str) : Prop :=
  match absM env a s, absM env b s with
  | (.ok sk, _), (.ok dk, _) => MoveDstOutside s sk dk
  | _, _ => True

instance (env : Env) (s : State) (a b : Str) : Decidable (MoveOutside env s a b) := by
  unfold MoveOutside
  split <;> infer_instance

theorem step_moveP_leaf {env : Env} {s : State} {a : Str} (b : Str) (h : MoveSourceIsLeaf env s a) :
    (step env s (.moveP a b)).1 ≠ .hang := by
  refine (wpAllow_mapVal (pn := True) (moveM_leaf_runs env a b s fun sk e hsk he => ?_)).ne_hang
  unfold MoveSourceIsLeaf at h
  rw [hsk] at h
  simp only [he] at h
  exact h

theorem step_moveP_outside {env : Env} {s : State} {a b : Str} (hinv : Spec.Inv s)
    (h : MoveOutside env s a b) : (step env s (.moveP a b)).1 ≠ .hang := by
  refine (wpAllow_mapVal (moveM_runs env a b s fun _ =>
    ⟨hinv, fun sk dk _ _ hsk hdk _ _ _ _ _ => ?_⟩)).ne_hang
  unfold MoveOutside at h
  rw [hsk, hdk] at h
  exact h

/-- `mkfile_m` = `mkfile` then `chmod`: terminates if the state after the `mkfile` part is
    well-formed (preservation of `Inv` is C03) -/
theorem step_mkfileM_no_hang (env : Env) (p : Str) (mode : Nat) (s : State)
    (h : Spec.Inv (mkfileM env p s).2) : (step env s (.mkfileM p mode)).1 ≠ .hang := by
  refine (wpAllow_mapVal (pn := False) (wpAllow_bind.2
    ((Safe.mkfileM env p).wp fun r s' heq => wpAllow_bind.2 ?_))).ne_hang
  rw [heq] at h
  exact wpAllow_mono (fun _ _ _ => trivial) (chmodM_runs env _ _ s' fun _ => ⟨h, rfl⟩)

end Rivia.Lemmas
