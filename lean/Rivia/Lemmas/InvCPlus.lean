/-
  Rivia.Lemmas.InvCPlus — the two side invariants of the C03 induction for `copy` / `copy_b`:
  keys are lists of well-formed pieces (`KeysWf`), child lists are sorted (`SortedKids`).

  `dstOf_wf`: every key `dst_root.mash(path.trim_prefix(prefix))` consists of `BodyPiece`s, for all
  arguments (`mash` re-collects the components of a rooted string). With it `KeysWf` is the per-entry
  invariant of `InvA.keysWf_ops`, and `_copy` keeps it by `EntryOps.stepCInv`; likewise `SortedKids`.
-/
import Rivia.Lemmas.InvC
import Rivia.Lemmas.InvBAbs
open Rivia Rivia.Memfs Rivia.Spec Rivia.Lemmas

namespace Rivia.Lemmas.InvC

/-! ### keys produced by `dst_root.mash(..)` are well formed -/

def KeyWf (k : FsPath) : Prop := ∀ n ∈ k, BodyPiece n

theorem dstOf_wf (dstRoot path pre : FsPath) : KeyWf (dstOf dstRoot path pre) :=
  (InvB.absKey_mash (d := renderP dstRoot) rfl).toPath_wf

theorem KeyWf.take {k : FsPath} (h : KeyWf k) (n : Nat) : KeyWf (k.take n) :=
  fun x hx => h x (List.mem_of_mem_take hx)

theorem KeyWf.dropLast {k : FsPath} (h : KeyWf k) : KeyWf k.dropLast :=
  fun x hx => h x (List.dropLast_subset _ hx)

theorem KeyWf.prefixes {k : FsPath} (h : KeyWf k) : ∀ q ∈ prefixes k, KeyWf q := by
  intro q hq
  unfold Memfs.prefixes at hq
  obtain ⟨n, _, rfl⟩ := List.mem_map.1 hq
  exact h.take n


/-- every exit of `_add`, without assuming anything about the state -/
theorem add_cases0 (e : Entry) (s : State) :
    (add e s).2 = s ∨ ∃ d b d', alLookup e.path.dropLast s.entries = some d ∧
      d.addChild (baseName e.path) = .ok (b, d') ∧
      (add e s).2 = { s with
        files := if (!e.link && e.file) = true then alInsert e.path [] s.files else s.files
        entries := alInsert e.path.dropLast d' (alInsert e.path e s.entries) } := by
  rcases InvA.add_state_cases e s with h | ⟨d, b, d', hd, _, _, _, _, hac, h⟩
  · exact Or.inl h
  · exact Or.inr ⟨d, b, d', hd, hac, h⟩

section PerEntry
variable (R : FsPath → Entry → Prop) (C : FsPath → Prop)

/-- `R` holds of every stored (key, entry) pair and `C` of the working directory -/
def PG (s : State) : Prop := (∀ kv ∈ s.entries, R kv.1 kv.2) ∧ C s.cwd

end PerEntry

/-! ### the two extra components of the global induction hypothesis, and their preservation by
    group C -/

def KeysWf (s : State) : Prop :=
  (∀ kv ∈ s.entries, ∀ n ∈ kv.1, BodyPiece n) ∧ (∀ n ∈ s.cwd, BodyPiece n)

def SortedKids (s : State) : Prop :=
  ∀ kv ∈ s.entries, ∀ fs, kv.2.files = some fs → fs.Pairwise (fun a b => strLt b a = false)

def InvPlus (s : State) : Prop := Spec.Inv s ∧ KeysWf s ∧ SortedKids s

theorem keysWf_iff (s : State) : KeysWf s ↔ PG (fun k _ => KeyWf k) KeyWf s := Iff.rfl

theorem keysWf_copyM (env : Env) (src dst : Str) (c : CopyOpts) :
    InvA.Pres KeysWf (copyM env src dst c) :=
  (InvA.keysWf_ops.stepCInv (C := KeyWf) dstOf_wf).copyM env src dst c

theorem sortedKids_copyM (env : Env) (src dst : Str) (c : CopyOpts) :
    InvA.Pres SortedKids (copyM env src dst c) :=
  ⟨fun s h => (((InvA.sorted_ops.stepCInv (C := fun _ => True) fun _ _ _ => trivial).copyM
    env src dst c).run s ⟨h, trivial⟩).1⟩

/-- `copy` / `copy_b` keep every key well formed (no hypothesis on the state beyond `KeysWf`) -/
theorem keysWf_step_C (env : Env) (s : State) (op : Op) (hc : CoveredC op) (h : KeysWf s) :
    KeysWf (step env s op).2 :=
  step_C keysWf_copyM env s op hc h

/-- `copy` / `copy_b` keep every child list sorted (no hypothesis on the state beyond `SortedKids`) -/
theorem sortedKids_step_C (env : Env) (s : State) (op : Op) (hc : CoveredC op) (h : SortedKids s) :
    SortedKids (step env s op).2 :=
  step_C sortedKids_copyM env s op hc h

theorem invPlus_step_C (env : Env) (s : State) (op : Op) (hc : CoveredC op) (h : InvPlus s) :
    InvPlus (step env s op).2 :=
  ⟨inv_step_C' env s op hc h.1, keysWf_step_C env s op hc h.2.1, sortedKids_step_C env s op hc h.2.2⟩

theorem invPlus_init : InvPlus Memfs.init := by
  refine ⟨by decide, ⟨?_, ?_⟩, ?_⟩
  · intro kv h
    simp only [Memfs.init, List.mem_singleton] at h
    subst h
    intro n hn; cases hn
  · intro n hn; cases hn
  · intro kv h
    simp only [Memfs.init, List.mem_singleton] at h
    subst h
    intro fs hfs
    cases hfs
    exact List.Pairwise.nil

end Rivia.Lemmas.InvC
