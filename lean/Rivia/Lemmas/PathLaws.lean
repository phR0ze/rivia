/-
  Rivia.Lemmas.PathLaws — helper lemmas for C15 (inverse / containment laws of the path helpers).
-/
import Rivia.Lemmas.PathBasics
import Rivia.Lemmas.Components
import Rivia.Lemmas.Protocol
import Rivia.Spec.PathLaws

namespace Rivia.Lemmas
open Rivia Rivia.Str Rivia.Spec

/-! ### byte slicing -/

theorem byteLen_append (a b : Str) : byteLen (a ++ b) = byteLen a + byteLen b := by
  induction a with
  | nil => exact (Nat.zero_add _).symm
  | cons c cs ih => rw [List.cons_append, byteLen, byteLen, ih, Nat.add_assoc]

theorem dropBytes_zero (s : Str) : dropBytes s 0 = some s := by
  cases s <;> rfl

theorem takeBytes_zero (s : Str) : takeBytes s 0 = some [] := by
  cases s <;> rfl

/-- a character is at least one byte long, so a byte count that covers it is a successor -/
theorem utf8Size_add_eq_succ (c : Char) (n : Nat) :
    ∃ k, c.utf8Size + n = k + 1 ∧ c.utf8Size ≤ k + 1 := by
  obtain ⟨m, hm⟩ := Nat.exists_eq_succ_of_ne_zero (Nat.ne_of_gt (Char.utf8Size_pos c))
  exact ⟨m + n, by rw [hm, Nat.succ_add], by rw [hm]; exact Nat.succ_le_succ (Nat.le_add_right m n)⟩

theorem dropBytes_cons_add (c : Char) (cs : Str) (n : Nat) :
    dropBytes (c :: cs) (c.utf8Size + n) = dropBytes cs n := by
  obtain ⟨k, hk, hle⟩ := utf8Size_add_eq_succ c n
  rw [hk, dropBytes, if_pos hle, ← hk, Nat.add_sub_cancel_left]

theorem takeBytes_cons_add (c : Char) (cs : Str) (n : Nat) :
    takeBytes (c :: cs) (c.utf8Size + n) = (takeBytes cs n).map (c :: ·) := by
  obtain ⟨k, hk, hle⟩ := utf8Size_add_eq_succ c n
  rw [hk, takeBytes, if_pos hle, ← hk, Nat.add_sub_cancel_left]

theorem dropBytes_append (a b : Str) : dropBytes (a ++ b) (byteLen a) = some b := by
  induction a with
  | nil => exact dropBytes_zero b
  | cons c cs ih => rw [List.cons_append, byteLen, dropBytes_cons_add, ih]

theorem takeBytes_append (a b : Str) : takeBytes (a ++ b) (byteLen a) = some a := by
  induction a with
  | nil => exact takeBytes_zero b
  | cons c cs ih => rw [List.cons_append, byteLen, takeBytes_cons_add, ih]; rfl

theorem trimPrefixO_append (s p : Str) : trimPrefixO (s ++ p) s = some p := by
  unfold trimPrefixO
  rw [if_pos (by simp), dropBytes_append]

theorem trimPrefixO_eq_spec (p s : Str) : trimPrefixO p s = some (trimPrefixSpec p s) := by
  unfold trimPrefixSpec
  by_cases h : s.isPrefixOf p = true
  · obtain ⟨t, rfl⟩ := List.isPrefixOf_iff_prefix.1 h
    rw [trimPrefixO_append, if_pos h, List.drop_left]
  · unfold trimPrefixO
    rw [if_neg h, if_neg h]

theorem trimSuffixO_append (p s : Str) : trimSuffixO (p ++ s) s = some p := by
  unfold trimSuffixO
  rw [if_pos (by simp), byteLen_append, Nat.add_sub_cancel, takeBytes_append]

theorem trimSuffixO_eq_spec (p s : Str) : trimSuffixO p s = some (trimSuffixSpec p s) := by
  unfold trimSuffixSpec
  by_cases h : s.isSuffixOf p = true
  · obtain ⟨t, rfl⟩ := List.isSuffixOf_iff_suffix.1 h
    rw [trimSuffixO_append, if_pos h, List.length_append, Nat.add_sub_cancel, List.take_left]
  · unfold trimSuffixO
    rw [if_neg h, if_neg h]

/-! ### has / has_prefix -/

theorem contains_iff (p v : Str) : Str.contains p v = true ↔ IsInfix v p := by
  unfold IsInfix
  induction p with
  | nil =>
    simp only [Str.contains, List.isEmpty_iff]
    constructor
    · rintro rfl; exact ⟨[], [], rfl⟩
    · rintro ⟨a, b, h⟩
      simp at h
      exact h.2.1
  | cons c cs ih =>
    simp only [Str.contains, Bool.or_eq_true, ih, List.isPrefixOf_iff_prefix]
    constructor
    · rintro (⟨t, ht⟩ | ⟨a, b, h⟩)
      · exact ⟨[], t, by simpa using ht.symm⟩
      · exact ⟨c :: a, b, by simp [h]⟩
    · rintro ⟨a, b, h⟩
      cases a with
      | nil => exact Or.inl ⟨b, by simpa using h.symm⟩
      | cons x a' =>
        simp only [List.cons_append, List.cons.injEq] at h
        exact Or.inr ⟨a', b, h.2⟩

theorem hasPrefix_iff (p v : Str) : hasPrefix p v = true ↔ ∃ b, p = v ++ b := by
  simp only [hasPrefix, List.isPrefixOf_iff_prefix]
  exact ⟨fun ⟨t, h⟩ => ⟨t, h.symm⟩, fun ⟨t, h⟩ => ⟨t, h.symm⟩⟩

/-! ### mash -/

theorem mash_components (d p : Str) : components (mash d p) = mashComps d p := by
  unfold mash mashComps
  rw [components_render (components_ok _)]
  by_cases hd : d = []
  · rw [if_pos hd, hd, push_nil_left]
  · rw [if_neg hd, components_push hd (isRooted_stripSlashes p)]
    rfl

theorem mash_canonical (d p : Str) : render (components (mash d p)) = mash d p := by
  unfold mash
  rw [components_render (components_ok _)]

/-! ### parentStr / trimFirst -/

/-- `parent()` removes exactly the last component, which is never the root. -/
theorem parentStr_spec (s : Str) :
    match parentStr s with
    | none => components s = [] ∨ components s = [.root]
    | some d => ∃ c, components s = components d ++ [c] ∧ c ≠ .root := by
  cases hs : splitSlash s with
  | nil => exact absurd hs (splitSlash_ne_nil s)
  | cons p0 rest =>
    have hslash := splitSlash_not_mem s
    rw [hs] at hslash
    have hroot : isRooted s = true ↔ (p0 = [] ∧ rest ≠ []) := by
      rw [isRooted_iff_split, hs]
      exact ⟨fun ⟨r, h1, h2⟩ => ⟨(List.cons.inj h2).1, (List.cons.inj h2).2 ▸ h1⟩,
        fun ⟨h1, h2⟩ => ⟨rest, h2, h1 ▸ rfl⟩⟩
    have hcomp : components s = compsP (p0 :: rest) := by rw [components_eq_compsP, hs]
    have hR := filterMap_dropTrailing bodyComp nb nonbody_none rest
    rcases eq_nil_or_snoc (dropTrailing nb rest) with h0 | ⟨mid, top, h0⟩
    · -- no body piece after the first one
      have hf : rest.filterMap bodyComp = [] := by rw [← hR, h0]; rfl
      rw [parentStr_nobody hs h0, hcomp]
      by_cases hr : isRooted s = true
      · rw [if_pos hr]
        obtain ⟨rfl, hne⟩ := hroot.1 hr
        exact Or.inr (by simp [compsP, hne, bodyComp_nil, hf])
      · have h1 : compsP (p0 :: rest) = compsP [p0] := by
          rw [compsP_cons_eq (rest' := []) (B := []) (fun h => iff_of_true
            (Classical.byContradiction fun hne => hr (hroot.2 ⟨h, hne⟩)) rfl) (by rw [hf]; rfl),
            List.append_nil]
        rw [if_neg hr, h1]
        by_cases hp0 : p0 = []
        · rw [if_pos hp0, hp0]
          exact Or.inl (by decide)
        · rw [if_neg hp0]
          by_cases hdot : p0 = ['.']
          · subst hdot
            exact ⟨.cur, by decide, by simp⟩
          · obtain ⟨c, hc⟩ := isBody_bodyComp (isBody_eq_true hp0 hdot)
            exact ⟨c, by simp [compsP, hp0, hdot, hc, components_nil], bodyComp_ne_root hc⟩
    · -- `top` is the last body piece
      obtain ⟨c, hc⟩ := isBody_bodyComp (by simpa [nb] using dropTrailing_snoc_last nb h0)
      have hne : rest ≠ [] := by
        rintro rfl
        exact List.append_ne_nil_of_right_ne_nil mid (List.cons_ne_nil top []) h0.symm
      have hf : rest.filterMap bodyComp = (dropTrailing nb mid).filterMap bodyComp ++ [c] := by
        rw [← hR, h0, List.filterMap_append, List.filterMap_cons_some hc,
          filterMap_dropTrailing bodyComp nb nonbody_none mid]
        rfl
      rw [parentStr_body hs h0, hcomp]
      by_cases hcase : dropTrailing nb mid = [] ∧ isRooted s = true
      · rw [if_pos hcase]
        refine ⟨c, ?_, bodyComp_ne_root hc⟩
        obtain ⟨rfl, _⟩ := hroot.1 hcase.2
        rw [hcase.1] at hf
        simp [compsP, hne, bodyComp_nil, hf, show components ['/'] = [.root] by decide]
      · rw [if_neg hcase]
        refine ⟨c, ?_, bodyComp_ne_root hc⟩
        have hsl : ∀ p ∈ p0 :: dropTrailing nb mid, '/' ∉ p := by
          intro p hp
          rcases List.mem_cons.1 hp with rfl | hp
          · exact hslash _ List.mem_cons_self
          · exact hslash p (List.mem_cons_of_mem _ ((dropTrailing_prefix nb rest).subset
              (h0 ▸ List.mem_append_left _ ((dropTrailing_prefix nb mid).subset hp))))
        rw [components_joinWith (List.cons_ne_nil _ _) hsl]
        exact compsP_cons_eq
          (fun h => iff_of_false hne fun h2 => hcase ⟨h2, hroot.2 ⟨h, hne⟩⟩) hf

theorem trimFirst_is_tail (p : Str) : components (trimFirst p) = (components p).tail := by
  cases hs : splitSlash p with
  | nil => exact absurd hs (splitSlash_ne_nil p)
  | cons p0 rest =>
    have hslash := splitSlash_not_mem p
    rw [hs] at hslash
    rw [components_eq_compsP p, hs, compsP_tail]
    unfold trimFirst
    rw [hs]
    show components (joinWith '/' (dropTrailing nb (rest.dropWhile nb))) = _
    have hpre := dropTrailing_prefix nb (rest.dropWhile nb)
    rw [← filterMap_dropWhile bodyComp nb nonbody_none rest,
      ← filterMap_dropTrailing bodyComp nb nonbody_none]
    cases hR : dropTrailing nb (rest.dropWhile nb) with
    | nil => decide
    | cons r0 R' =>
      rw [hR] at hpre
      -- the first kept piece is the first piece that `dropWhile` did not drop
      have hr0 : nb r0 = false := by
        obtain ⟨t, ht⟩ := hpre
        have := List.head?_dropWhile_not nb rest
        rw [← ht] at this
        exact this
      have h1 : r0 ≠ [] := by rintro rfl; exact absurd hr0 (by decide)
      have h2 : r0 ≠ ['.'] := by rintro rfl; exact absurd hr0 (by decide)
      have hsl : ∀ q ∈ r0 :: R', '/' ∉ q := fun q hq =>
        hslash q (List.mem_cons_of_mem _ ((List.dropWhile_sublist nb).subset (hpre.subset hq)))
      rw [components_joinWith (List.cons_ne_nil _ _) hsl]
      simp [compsP, h1, h2]

/-! ### ext / trim_ext / name -/

theorem fileName_some {p n : Str} (h : fileName p = some n) :
    (components p).getLast? = some (.normal n) := by
  unfold fileName at h
  split at h
  · next c heq => rw [← Option.some.inj h]; exact heq
  · cases h

theorem extension_some {p e : Str} (h : extension p = some e) :
    ∃ stem, fileName p = some (stem ++ '.' :: e) ∧ stem ≠ [] := by
  unfold extension at h
  cases hn : fileName p with
  | none => rw [hn] at h; cases h
  | some n =>
    rw [hn] at h
    simp only at h
    have htd := List.takeWhile_append_dropWhile (p := fun x => decide (x ≠ '.')) (l := n.reverse)
    have hx := List.head?_dropWhile_not (fun x => decide (x ≠ '.')) n.reverse
    cases hd : n.reverse.dropWhile (fun x => decide (x ≠ '.')) with
    | nil => rw [hd] at h; cases h
    | cons x beforeRev =>
      rw [hd] at h htd hx
      simp only at h
      split at h
      · cases h
      · next hne =>
        obtain rfl : x = '.' := by simpa using hx
        refine ⟨beforeRev.reverse, ?_, by simpa using hne⟩
        have h2 := congrArg List.reverse htd
        simp only [List.reverse_append, List.reverse_cons, List.reverse_reverse] at h2
        rw [← h2, Option.some.inj h]
        simp

theorem trimExt_of_extension {p e n : Str} (he : extension p = some e)
    (hn : fileName p = some n) (hsuf : n <:+ p) :
    ∃ X stem, p = X ++ stem ++ '.' :: e ∧ stem ≠ [] ∧ n = stem ++ '.' :: e ∧
      trimExt p = .ok (X ++ stem) := by
  obtain ⟨stem, h1, h2⟩ := extension_some he
  obtain rfl : n = stem ++ '.' :: e := Option.some.inj (hn.symm.trans h1)
  obtain ⟨X, rfl⟩ := hsuf
  refine ⟨X, stem, (List.append_assoc _ _ _).symm, h2, rfl, ?_⟩
  unfold trimExt
  rw [he]
  simp only
  rw [← List.append_assoc, trimSuffixO_append]
  rfl

theorem ext_ok {p e : Str} (h : ext p = .ok e) : extension p = some e := by
  unfold ext at h
  cases he : extension p with
  | none => rw [he] at h; cases h
  | some e' => rw [he] at h; rw [Outcome.ok.inj h]

theorem name_of_no_ext {p : Str} (h : extension p = none) : name p = nameSpec p := by
  have ht : trimExt p = .ok p := by unfold trimExt; rw [h]
  unfold name nameSpec base
  rw [ht, h]
  cases hl : (components p).getLast? <;> simp [hl]

theorem name_of_ext {p e n : Str} (he : extension p = some e)
    (hn : fileName p = some n) (hsuf : n <:+ p)
    (hs : nameSpec p ≠ .ok ['.'] ∨ (components p).length < 2) : name p = nameSpec p := by
  obtain ⟨X, stem, hp, hstem, hnn, ht⟩ := trimExt_of_extension he hn hsuf
  have hlast := fileName_some hn
  have hbc : BodyC (.normal n) := by
    rcases mem_compsOK (components_ok p) (List.mem_of_getLast? hlast) with h | h | h
    · cases h
    · cases h
    · exact h
  have hnslash : '/' ∉ n := hbc.2
  have hbn : bodyComp n = some (.normal n) := hbc.1
  have hspec : nameSpec p = .ok stem := by
    unfold nameSpec
    rw [hlast, he]
    simp [Comp.str, hnn]
  have hstslash : '/' ∉ stem := fun h => hnslash (by rw [hnn]; exact List.mem_append_left _ h)
  obtain ⟨init, l, _, hsplit⟩ := splitOn_append_of_not_mem '/' X
  have hpX : p = X ++ n := by rw [hp, hnn, List.append_assoc]
  -- the last piece of `p` is exactly `n`: nothing of `X` precedes it
  obtain rfl : l = [] := by
    have h1 : splitSlash p = init ++ [l ++ n] := by rw [hpX]; exact hsplit n hnslash
    have hb := bodyPiece_of_bodyComp hnslash hbn
    obtain ⟨c, hc⟩ := isBody_bodyComp (isBody_eq_true (p := l ++ n) (by simp [hb.1]) (by
      intro h
      cases l with
      | nil => exact hb.2.1 h
      | cons a l' => exact hb.1 (List.append_eq_nil_iff.1 (List.cons.inj h).2).2))
    have h2 : (components p).getLast? = some c := by
      rw [components_eq_compsP, h1]; exact getLast?_compsP_snoc hc
    rw [hlast] at h2
    rw [← Option.some.inj h2] at hc
    simpa [Comp.str] using bodyComp_str hc
  have hsp1 : splitSlash p = init ++ [n] := by rw [hpX]; exact hsplit n hnslash
  have hsp2 : splitSlash (X ++ stem) = init ++ [stem] := hsplit stem hstslash
  unfold name
  rw [ht, hspec]
  simp only
  unfold base
  rw [components_eq_compsP, hsp2]
  by_cases hdot : stem = ['.']
  · subst hdot
    cases init with
    | nil => rfl
    | cons i0 irest =>
      -- `p` has the two components of `i0` and `n`
      exfalso
      have hlen := hs.resolve_left (fun h => h hspec)
      have := congrArg List.length (compsP_tail i0 (irest ++ [n]))
      rw [components_eq_compsP, hsp1, List.cons_append] at hlen
      rw [List.length_tail, List.filterMap_append, List.filterMap_cons_some hbn,
        List.length_append] at this
      simp at this
      omega
  · obtain ⟨c, hc⟩ := isBody_bodyComp (isBody_eq_true hstem hdot)
    rw [getLast?_compsP_snoc hc]
    simp only
    rw [bodyComp_str hc]

end Rivia.Lemmas
