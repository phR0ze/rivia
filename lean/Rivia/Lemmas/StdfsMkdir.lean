/-
  Rivia.Lemmas.StdfsMkdir — C02: `mkdir_p` (`fs::create_dir_all`) and `mkdir_m` against the
  reference `mkdir` (every prefix top-down).  A key is split at its deepest existing prefix `b`: above `b`
  nothing happens, below `b` everything is missing and is created one directory after the other.
-/
import Rivia.Lemmas.StdfsMut

namespace Rivia.Lemmas.StdfsL
open Rivia Rivia.Memfs Rivia.File Rivia.Spec Rivia.Spec.TreeFs Rivia.Posix Rivia.Stdfs
open Rivia.Lemmas.RefineA (TEquiv get_put chainFrom)
open Rivia.Stdfs.SM

variable {env : Env} {t : T}

/-! ### prefixes and chains -/

theorem mem_prefixes {q k : FsPath} : q ∈ prefixes k ↔ ∃ i, i ≤ k.length ∧ q = k.take i := by
  unfold prefixes
  simp only [List.mem_map, List.mem_range]
  constructor
  · rintro ⟨i, hi, rfl⟩; exact ⟨i, by omega, rfl⟩
  · rintro ⟨i, hi, rfl⟩; exact ⟨i, by omega, rfl⟩

theorem self_mem_prefixes (k : FsPath) : k ∈ prefixes k :=
  mem_prefixes.2 ⟨k.length, Nat.le_refl _, by simp⟩

theorem prefixes_snoc (d : FsPath) (x : Str) : prefixes (d ++ [x]) = prefixes d ++ [d ++ [x]] := by
  unfold prefixes
  simp only [List.length_append, List.length_cons, List.length_nil, Nat.zero_add]
  rw [List.range_succ, List.map_append]
  congr 1
  · apply List.map_congr_left
    intro n hn
    rw [List.mem_range] at hn
    rw [List.take_append_of_le_length (by omega)]
  · simp only [List.map_cons, List.map_nil]
    rw [List.take_of_length_le (by simp)]

theorem prefixes_append : ∀ (ns : List Str) (b : FsPath), prefixes (b ++ ns) = prefixes b ++ chainFrom b ns
  | [], b => by simp [chainFrom]
  | n :: ns, b => by
    rw [List.append_cons, prefixes_append ns, prefixes_snoc, List.append_assoc]; rfl

theorem chainFrom_snoc : ∀ (ns : List Str) (b : FsPath) (x : Str),
    chainFrom b (ns ++ [x]) = chainFrom b ns ++ [b ++ ns ++ [x]]
  | [], b, x => by simp [chainFrom]
  | n :: ns, b, x => by
    simp only [List.cons_append, chainFrom, chainFrom_snoc ns, List.append_assoc, List.cons_append,
      List.nil_append]

theorem self_mem_chainFrom {ns : List Str} (hne : ns ≠ []) (b : FsPath) : b ++ ns ∈ chainFrom b ns := by
  rw [← List.dropLast_concat_getLast hne, chainFrom_snoc, ← List.append_assoc]
  exact List.mem_append_right _ (List.mem_singleton.2 rfl)

theorem prefixes_dropLast {k : FsPath} (hne : k ≠ []) : prefixes k = prefixes k.dropLast ++ [k] := by
  have := List.dropLast_concat_getLast hne
  conv => lhs; rw [← this]
  rw [prefixes_snoc, this]

theorem prefixes_dirs {t : T} (h : WfFacts t) {d : FsPath} (hd : isDir t d = true) :
    ∀ q ∈ prefixes d, isDir t q = true := by
  intro q hq
  obtain ⟨i, _, rfl⟩ := mem_prefixes.1 hq
  exact isDir_take h hd i

theorem deepest_split (t : T) : ∀ (ns : List Str) (b : FsPath) (nd : Node), get t b = some nd →
    ∃ b' ns' nd', b ++ ns = b' ++ ns' ∧ get t b' = some nd' ∧
      ∀ n, ns'.head? = some n → get t (b' ++ [n]) = none
  | [], b, nd, hb => ⟨b, [], nd, rfl, hb, nofun⟩
  | n :: ns, b, nd, hb => by
    cases hg : get t (b ++ [n]) with
    | none => exact ⟨b, n :: ns, nd, rfl, hb, fun n' hn' => by cases hn'; exact hg⟩
    | some nd1 =>
      obtain ⟨b', ns', nd', h1, h2, h3⟩ := deepest_split t ns (b ++ [n]) nd1 hg
      exact ⟨b', ns', nd', by rw [← h1, List.append_assoc]; rfl, h2, h3⟩

theorem chain_missing {t : T} (h : WfFacts t) : ∀ (ns : List Str) (b : FsPath),
    (∀ n, ns.head? = some n → get t (b ++ [n]) = none) → ∀ q ∈ chainFrom b ns, get t q = none
  | [], _, _, q, hq => by cases hq
  | n :: ns, b, hm, q, hq => by
    rw [chainFrom, List.mem_cons] at hq
    rcases hq with rfl | hq
    · exact hm n rfl
    · exact chain_missing h ns (b ++ [n]) (fun n' _ => get_child_none h (hm n rfl) n') q hq

theorem length_of_mem_chainFrom : ∀ (ns : List Str) (b q : FsPath), q ∈ chainFrom b ns →
    b.length < q.length ∧ q.length ≤ b.length + ns.length
  | [], _, _, hq => by cases hq
  | n :: ns, b, q, hq => by
    rw [chainFrom, List.mem_cons] at hq
    rcases hq with rfl | hq
    · simp
    · have := length_of_mem_chainFrom ns _ _ hq
      simp only [List.length_append, List.length_cons, List.length_nil] at this ⊢
      omega

theorem not_mem_chainFrom_self (ns : List Str) (b : FsPath) : b ∉ chainFrom b ns :=
  fun hb => Nat.lt_irrefl _ (length_of_mem_chainFrom ns b b hb).1

/-! ### what the kernel's `mkdir` does on a well-formed tree -/

theorem applyUmask_777 : applyUmask 0o777 = 0o755 := by decide

theorem mkdir_new {t : T} (h : WfFacts t) {k : FsPath} (hne : k ≠ []) (hd : isDir t k.dropLast = true)
    (hg : get t k = none) (mode : Nat) :
    Posix.mkdir t k mode = .ok (put t k (newDir (applyUmask mode))) := by
  unfold Posix.mkdir
  simp only [hne, if_false, walkErr_of_dir h hd, hg]

theorem mkdir_walk_err {t : T} {k : FsPath} (hne : k ≠ []) {e : Errno} (hw : walkErr t k = some e) (mode : Nat) :
    Posix.mkdir t k mode = .error e := by
  unfold Posix.mkdir; rw [if_neg hne, hw]

/-! ### the reference's loop -/

theorem mkdirLoop_append (perm : Nat) (l1 l2 : List FsPath) (t : T) :
    mkdirLoop perm (l1 ++ l2) t =
      match mkdirLoop perm l1 t with
      | (none, t1) => mkdirLoop perm l2 t1
      | (some e, t1) => (some e, t1) := by
  induction l1 generalizing t with
  | nil => simp [mkdirLoop]
  | cons q qs ih =>
    simp only [List.cons_append, mkdirLoop]
    cases hg : get t q with
    | none => simp only [ih]
    | some n =>
      by_cases hk : n.kind = .dir
      · simp only [hk, if_true, ih]
      · simp only [hk, if_false]

theorem mkdirLoop_all_dirs (perm : Nat) (qs : List FsPath) (t : T) (h : ∀ q ∈ qs, isDir t q = true) :
    mkdirLoop perm qs t = (none, t) := by
  induction qs with
  | nil => rfl
  | cons q qs ih =>
    obtain ⟨n, hn, hk⟩ := isDir_iff.1 (h q List.mem_cons_self)
    simp only [mkdirLoop, hn, hk, if_true]
    exact ih (fun q' hq' => h q' (List.mem_cons_of_mem _ hq'))

theorem fresh_step {t : T} (h : WfFacts t) {b : FsPath} (hb : isDir t b = true) {n : Str} {ns : List Str}
    (hm : ∀ q ∈ chainFrom b (n :: ns), get t q = none) (x : Node) (hx : x.kind = .dir) :
    WfFacts (put t (b ++ [n]) x) ∧ isDir (put t (b ++ [n]) x) (b ++ [n]) = true ∧
      ∀ q ∈ chainFrom (b ++ [n]) ns, get (put t (b ++ [n]) x) q = none := by
  have hg : get t (b ++ [n]) = none := hm _ List.mem_cons_self
  refine ⟨wf_put_new h x hg (fun _ => by rw [List.dropLast_concat]; exact hb),
    isDir_of_get (get_put_self _ _ _) hx, fun q hq => ?_⟩
  have hne : b ++ [n] ≠ q := fun e => not_mem_chainFrom_self ns _ (e ▸ hq)
  rw [get_put, if_neg hne]
  exact hm q (List.mem_cons_of_mem _ hq)

theorem mkdirLoop_fresh (perm : Nat) : ∀ (ns : List Str) (b : FsPath) (t : T), WfFacts t → isDir t b = true →
    (∀ q ∈ chainFrom b ns, get t q = none) →
    (mkdirLoop perm (chainFrom b ns) t).1 = none ∧ WfFacts (mkdirLoop perm (chainFrom b ns) t).2 ∧
      isDir (mkdirLoop perm (chainFrom b ns) t).2 (b ++ ns) = true ∧
      ∀ q, q ∉ chainFrom b ns → get (mkdirLoop perm (chainFrom b ns) t).2 q = get t q
  | [], b, t, h, hb, _ => ⟨rfl, h, (List.append_nil b).symm ▸ hb, fun _ _ => rfl⟩
  | n :: ns, b, t, h, hb, hm => by
    obtain ⟨h', hb', hm'⟩ := fresh_step h hb hm (newDir perm) rfl
    obtain ⟨r1, r2, r3, r4⟩ := mkdirLoop_fresh perm ns (b ++ [n]) _ h' hb' hm'
    simp only [chainFrom, mkdirLoop, hm _ List.mem_cons_self]
    refine ⟨r1, r2, by simpa using r3, fun q hq => ?_⟩
    rw [List.mem_cons, not_or] at hq
    rw [r4 q hq.2, get_put, if_neg (Ne.symm hq.1)]

theorem spec_mkdir_split {t : T} (h : WfFacts t) {b : FsPath} {ns : List Str} {nd : Node}
    (hb : get t b = some nd) (hm : ∀ q ∈ chainFrom b ns, get t q = none)
    (hl : isLinkToDir t (b ++ ns) = false) (perm : Nat) :
    TreeFs.mkdir t (b ++ ns) perm =
      if nd.kind = .dir then (.ok (b ++ ns), (mkdirLoop perm (chainFrom b ns) t).2)
      else (.err (some .isNotDir), t) := by
  unfold TreeFs.mkdir
  rw [if_neg (by rw [hl]; nofun), prefixes_append]
  dsimp only
  split
  · rename_i q hf
    have hp := List.find?_some hf
    rcases List.mem_append.1 (List.mem_of_find?_eq_some hf) with hq | hq
    · by_cases hk : nd.kind = .dir
      · obtain ⟨n, hn, hnk⟩ := isDir_iff.1 (prefixes_dirs h (isDir_of_get hb hk) q hq)
        simp [hn, hnk] at hp
      · rw [if_neg hk]
    · simp [hm q hq] at hp
  · rename_i hf
    have hk : nd.kind = .dir := by
      have := List.find?_eq_none.1 hf b (List.mem_append_left _ (self_mem_prefixes b))
      simpa [hb] using this
    have hd := isDir_of_get hb hk
    rw [if_pos hk, mkdirLoop_append, mkdirLoop_all_dirs _ _ _ (prefixes_dirs h hd)]
    dsimp only
    obtain ⟨r1, _⟩ := mkdirLoop_fresh perm ns b t h hd hm
    generalize mkdirLoop perm (chainFrom b ns) t = res at r1 ⊢
    obtain ⟨e1, t1⟩ := res
    cases r1; rfl

/-! ### create_dir_all -/

theorem dropLast_append_snoc (b ms : List Str) (x : Str) : (b ++ (ms ++ [x])).dropLast = b ++ ms := by
  rw [← List.append_assoc, List.dropLast_concat]

theorem createDirAll_fresh {t : T} (h : WfFacts t) {b : FsPath} (hb : isDir t b = true) :
    ∀ (f : Nat) (ns : List Str), ns ≠ [] → ns.length < f → (∀ q ∈ chainFrom b ns, get t q = none) →
      createDirAll t f (b ++ ns) = .ok (mkdirLoop 0o755 (chainFrom b ns) t).2 := by
  intro f
  induction f with
  | zero => intro ns _ hlen; cases hlen
  | succ f ih =>
    intro ns hne hlen hm
    obtain ⟨nd, hgb, hbk⟩ := isDir_iff.1 hb
    rw [← List.dropLast_concat_getLast hne] at hm hlen ⊢
    generalize ns.dropLast = ms at hm hlen ⊢
    generalize ns.getLast hne = x at hm hlen ⊢
    have hk0 : b ++ (ms ++ [x]) ≠ [] := by simp
    have hgk : get t (b ++ (ms ++ [x])) = none := hm _ (self_mem_chainFrom (by simp) b)
    rw [createDirAll, chainFrom_snoc, mkdirLoop_append]
    cases ms with
    | nil =>
      rw [mkdir_new h hk0 (by rw [dropLast_append_snoc]; simpa using hb) hgk, applyUmask_777]
      simp only [chainFrom, mkdirLoop, List.append_nil, List.nil_append] at hgk ⊢
      rw [hgk]
    | cons n ms' =>
      have hm' : ∀ q ∈ chainFrom b (n :: ms'), get t q = none := fun q hq =>
        hm q (by rw [chainFrom_snoc]; exact List.mem_append_left _ hq)
      -- the parent is missing: `ENOENT`, create it first
      have hw : walkErr t (b ++ (n :: ms' ++ [x])) = some .ENOENT := by
        rw [List.cons_append, walkErr_below h hgb, if_pos hbk]
        cases hr : ms' ++ [x] with
        | nil => simp at hr
        | cons y r => simp only [walkFrom, hm' _ List.mem_cons_self]
      obtain ⟨r1, r2, r3, r4⟩ := mkdirLoop_fresh 0o755 (n :: ms') b t h hb hm'
      rw [mkdir_walk_err hk0 hw, dropLast_append_snoc]
      simp only [hk0, if_false, ih (n :: ms') (by simp) (by simp at hlen ⊢; omega) hm']
      generalize mkdirLoop 0o755 (chainFrom b (n :: ms')) t = res at r1 r2 r3 r4 ⊢
      obtain ⟨e1, t1⟩ := res
      cases r1
      have hgk1 : get t1 (b ++ (n :: ms' ++ [x])) = none := by
        rw [r4 _ (fun hq => by have := (length_of_mem_chainFrom _ _ _ hq).2; simp at this; omega), hgk]
      rw [mkdir_new r2 hk0 (by rw [dropLast_append_snoc]; exact r3) hgk1, applyUmask_777]
      simp only [mkdirLoop, hgk1, List.append_assoc]

theorem createDirAll_bad (h : Ctx env t) {b : FsPath} {nd : Node} (hb : get t b = some nd)
    (hk : nd.kind ≠ .dir) {ns : List Str} (hne : ns ≠ []) (hm : ∀ q ∈ chainFrom b ns, get t q = none)
    (f : Nat) : ∃ e, createDirAll t f (b ++ ns) = .error e := by
  cases f with
  | zero => exact ⟨_, rfl⟩
  | succ f =>
    have hgk := hm _ (self_mem_chainFrom hne b)
    obtain ⟨n, rest, rfl⟩ := List.exists_cons_of_ne_nil hne
    have hm1 : Posix.mkdir t (b ++ n :: rest) 0o777 = .error .ENOTDIR :=
      mkdir_walk_err (by simp) (by rw [walkErr_below h.wf hb, if_neg hk]) _
    have hs : statIsDir t (b ++ n :: rest) = false := by rw [statIsDir_eq h.wf h.links, hgk]
    rw [createDirAll, hm1]
    simp only [hs, Bool.false_eq_true, if_false]
    exact ⟨_, rfl⟩

theorem sim_mkdirP (h : Ctx env t) (p : Str) :
    Sim (Stdfs.step env t (.mkdirP p)) (withPath env t p fun a => liftR .path (TreeFs.mkdir t a 0o755)) := by
  show Sim (Stdfs.mapVal .path (Stdfs.mkdirP env p) t) _
  unfold Stdfs.mkdirP
  refine sim_withPath h.cwd p _ _ _ fun a _ => ?_
  obtain ⟨r, hr, _⟩ := isDir_iff.1 h.wf.root
  obtain ⟨b, ns, nd, rfl, hb, hhead⟩ := deepest_split t a [] r hr
  have hm := chain_missing h.wf ns b hhead
  cases hl : isLinkToDir t (b ++ ns) with
  | true => unfold TreeFs.mkdir; rw [if_pos hl]; exact sim_unspec _ _
  | false =>
    rw [spec_mkdir_split h.wf hb hm hl]
    ssimp [exists_eq_isSome h.wf h.links, statIsDir_eq h.wf h.links]
    cases ns with
    | nil =>
      unfold isLinkToDir at hl
      simp only [List.append_nil, hb] at hl ⊢
      cases hk : nd.kind with
      | dir => exact sim_ok _ (TEquiv.refl _)
      | file => exact sim_err _ _ (TEquiv.refl _)
      | link c =>
        rw [hk] at hl
        cases c with
        | true => cases hl
        | false => exact sim_err _ _ (TEquiv.refl _)
    | cons n ns =>
      rw [hm _ (self_mem_chainFrom (by simp) b)]
      by_cases hk : nd.kind = .dir
      · ssimp [if_pos hk, Option.isSome_none,
          createDirAll_fresh h.wf (isDir_of_get hb hk) ((b ++ n :: ns).length + 1) (n :: ns) (by simp)
            (by simp; omega) hm]
        exact sim_ok _ (TEquiv.refl _)
      · obtain ⟨e, he⟩ := createDirAll_bad h hb hk (List.cons_ne_nil n ns) hm ((b ++ n :: ns).length + 1)
        ssimp [if_neg hk, Option.isSome_none, he]
        exact sim_err _ _ (TEquiv.refl _)

/-! ### mkdir_m -/

theorem sforM_nil_apply (f : FsPath → SM Unit) (t : T) : ([] : List FsPath).forM f t = (.ok (), t) := rfl

theorem sforM_cons_apply (f : FsPath → SM Unit) (q : FsPath) (qs : List FsPath) (t : T) :
    (q :: qs).forM f t = match f q t with
      | (.ok _, t') => qs.forM f t'
      | (.err k, t') => (.err k, t')
      | (.panic, t') => (.panic, t')
      | (.hang, t') => (.hang, t') := by
  show (f q >>= fun _ => qs.forM f) t = _
  rw [SM_bind_apply]
  rcases f q t with ⟨o, t'⟩
  cases o <;> rfl

theorem sforM_append_apply (f : FsPath → SM Unit) (l1 l2 : List FsPath) (t : T) :
    (l1 ++ l2).forM f t = match l1.forM f t with
      | (.ok _, t') => l2.forM f t'
      | (.err k, t') => (.err k, t')
      | (.panic, t') => (.panic, t')
      | (.hang, t') => (.hang, t') := by
  induction l1 generalizing t with
  | nil => simp only [List.nil_append, sforM_nil_apply]
  | cons q qs ih =>
    simp only [List.cons_append, sforM_cons_apply]
    rcases f q t with ⟨o, t'⟩
    cases o <;> simp only [ih]

/-- the body of the loop of `Stdfs::mkdir_m` -/
def mkStepS (mode : Nat) (q : FsPath) : SM Unit := do
  let t ← getT
  if !(Posix.exists t q) then
    sysM (Posix.mkdir · q 0o777)
    sysM (Posix.chmod · q mode)
  else if !(statIsDir t q) then SM.fail .isNotDir

theorem mkdirM_eq (p : Str) (mode : Nat) :
    Stdfs.mkdirM env p mode = (do
      let k ← Stdfs.absM env p
      (prefixes k).forM (mkStepS mode)
      return k) := rfl

theorem and_7777 {m : Nat} (h : m < 0o10000) : m &&& 0o7777 = m := by
  have := Nat.and_two_pow_sub_one_eq_mod m 12
  simp at this
  omega

theorem exists_missing {t : T} {k : FsPath} (hg : get t k = none) : Posix.exists t k = false := by
  unfold Posix.exists
  obtain ⟨e, he⟩ := stat_missing hg
  rw [he]

theorem mkStepS_skip {t : T} {q : FsPath} (mode : Nat) (hx : Posix.exists t q = true)
    (hd : statIsDir t q = true) : mkStepS mode q t = (.ok (), t) := by
  unfold mkStepS
  ssimp [hx, hd]

theorem mkStepS_notDir {t : T} {q : FsPath} (mode : Nat) (hx : Posix.exists t q = true)
    (hd : statIsDir t q = false) : mkStepS mode q t = (.err .isNotDir, t) := by
  unfold mkStepS
  ssimp [hx, hd]

theorem mkStepS_mkdir_err {t : T} {q : FsPath} {e : Errno} (mode : Nat) (hg : get t q = none)
    (hm : Posix.mkdir t q 0o777 = .error e) : mkStepS mode q t = (.err (ioErr e), t) := by
  unfold mkStepS
  ssimp [exists_missing hg, hm]

theorem mkStepS_new {t : T} (h : WfFacts t) {q : FsPath} {mode : Nat} (hm : mode < 0o10000)
    (hne : q ≠ []) (hd : isDir t q.dropLast = true) (hg : get t q = none) :
    mkStepS mode q t = (.ok (), put t q (newDir mode)) := by
  unfold mkStepS
  have hwf' := wf_put_new h (newDir 0o755) hg (fun _ => hd)
  have hch : Posix.chmod (put t q (newDir 0o755)) q mode = .ok (put t q (newDir mode)) := by
    unfold Posix.chmod linkFuel
    rw [followFinal_nonlink hwf' (get_put_self _ _ _) rfl]
    simp only [get_put_self, put_put, and_7777 hm]
    rfl
  ssimp [exists_missing hg, mkdir_new h hne hd hg, applyUmask_777, hch]

theorem sforM_skip (h : Ctx env t) (mode : Nat) : ∀ qs : List FsPath, (∀ q ∈ qs, isDir t q = true) →
    qs.forM (mkStepS mode) t = (.ok (), t)
  | [], _ => rfl
  | q :: qs, hq => by
    obtain ⟨n, hn, hk⟩ := isDir_iff.1 (hq q List.mem_cons_self)
    rw [sforM_cons_apply, mkStepS_skip mode (by rw [exists_eq_isSome h.wf h.links, hn]; rfl)
      (by rw [statIsDir_of_get h.wf h.links hn, hk]; rfl)]
    exact sforM_skip h mode qs (fun q' hq' => hq q' (List.mem_cons_of_mem _ hq'))

theorem sforM_fresh {mode : Nat} (hmode : mode < 0o10000) : ∀ (ns : List Str) (b : FsPath) (t : T),
    WfFacts t → isDir t b = true → (∀ q ∈ chainFrom b ns, get t q = none) →
    (chainFrom b ns).forM (mkStepS mode) t = (.ok (), (mkdirLoop mode (chainFrom b ns) t).2)
  | [], _, _, _, _, _ => rfl
  | n :: ns, b, t, h, hb, hm => by
    obtain ⟨h', hb', hm'⟩ := fresh_step h hb hm (newDir mode) rfl
    have hg := hm _ List.mem_cons_self
    rw [chainFrom, sforM_cons_apply,
      mkStepS_new h hmode (by simp) (by rw [List.dropLast_concat]; exact hb) hg]
    simp only [mkdirLoop, hg]
    exact sforM_fresh hmode ns (b ++ [n]) _ h' hb' hm'

theorem mkdirM_loop_dir (h : Ctx env t) {mode : Nat} (hmode : mode < 0o10000) {b : FsPath} {ns : List Str}
    (hd : isDir t b = true) (hm : ∀ q ∈ chainFrom b ns, get t q = none) :
    (prefixes (b ++ ns)).forM (mkStepS mode) t = (.ok (), (mkdirLoop mode (chainFrom b ns) t).2) := by
  rw [prefixes_append, sforM_append_apply, sforM_skip h mode _ (prefixes_dirs h.wf hd)]
  exact sforM_fresh hmode ns b t h.wf hd hm

theorem mkdirM_loop_bad (h : Ctx env t) (mode : Nat) {b : FsPath} {ns : List Str} {nd : Node}
    (hb : get t b = some nd) (hk : nd.kind ≠ .dir) (hm : ∀ q ∈ chainFrom b ns, get t q = none)
    (hl : isLinkToDir t (b ++ ns) = false) :
    ∃ e, (prefixes (b ++ ns)).forM (mkStepS mode) t = (.err e, t) := by
  have hne := ne_nil_of_not_dir h hb hk
  have hx : Posix.exists t b = true := by rw [exists_eq_isSome h.wf h.links, hb]; rfl
  -- everything above `b` is a directory and is skipped
  rw [prefixes_append, sforM_append_apply, prefixes_dropLast hne, sforM_append_apply,
    sforM_skip h mode _ (prefixes_dirs h.wf (h.wf.parent b nd hb hne))]
  simp only [sforM_cons_apply, sforM_nil_apply]
  by_cases hlt : nd.kind = .link true
  · -- a link to a directory is skipped as well; `mkdir` below it then fails in the walk
    cases ns with
    | nil => unfold isLinkToDir at hl; simp [hb, hlt] at hl
    | cons n ns =>
      have hm1 : Posix.mkdir t (b ++ [n]) 0o777 = .error .ENOTDIR :=
        mkdir_walk_err (by simp) (by rw [walkErr_below h.wf hb, if_neg hk]) _
      rw [mkStepS_skip mode hx (by rw [statIsDir_of_get h.wf h.links hb, hlt]; rfl)]
      simp only [chainFrom, sforM_cons_apply, mkStepS_mkdir_err mode (hm _ List.mem_cons_self) hm1]
      exact ⟨_, rfl⟩
  · rw [mkStepS_notDir mode hx (by rw [statIsDir_of_get h.wf h.links hb]; simp [hk, hlt])]
    exact ⟨_, rfl⟩

theorem sim_mkdirM (h : Ctx env t) (p : Str) (m : Nat) (hm : permOk m = true) :
    Sim (Stdfs.step env t (.mkdirM p m)) (withPath env t p fun a => liftR .path (TreeFs.mkdir t a m)) := by
  have hm' : m < 0o10000 := by simpa [permOk] using hm
  show Sim (Stdfs.mapVal .path (Stdfs.mkdirM env p m) t) _
  rw [mkdirM_eq]
  refine sim_withPath h.cwd p _ _ _ fun a _ => ?_
  obtain ⟨r, hr, _⟩ := isDir_iff.1 h.wf.root
  obtain ⟨b, ns, nd, rfl, hb, hhead⟩ := deepest_split t a [] r hr
  have hmiss := chain_missing h.wf ns b hhead
  cases hl : isLinkToDir t (b ++ ns) with
  | true => unfold TreeFs.mkdir; rw [if_pos hl]; exact sim_unspec _ _
  | false =>
    rw [spec_mkdir_split h.wf hb hmiss hl]
    by_cases hk : nd.kind = .dir
    · ssimp [if_pos hk, mkdirM_loop_dir h hm' (isDir_of_get hb hk) hmiss]
      exact sim_ok _ (TEquiv.refl _)
    · obtain ⟨e, he⟩ := mkdirM_loop_bad h m hb hk hmiss hl
      ssimp [if_neg hk, he]
      exact sim_err _ _ (TEquiv.refl _)

end Rivia.Lemmas.StdfsL
