/-
  Rivia.Lemmas.MoveRefine — the Memfs `move_p` refines `TreeFs.moveP` (abstraction `absS`).
-/
import Rivia.Lemmas.MoveP
import Rivia.Lemmas.AbsWf
import Rivia.Spec.CopySpec

namespace Rivia.Lemmas
open Rivia Rivia.Str Rivia.Memfs Rivia.Spec Rivia.Spec.TreeFs Rivia.Memfs.M

theorem kindOf_dir_iff (e : Entry) : (kindOf e = Kind.dir) ↔ (e.dir = true ∧ e.link = false) := by
  unfold kindOf
  cases e.link <;> cases e.dir <;> simp

theorem kindOf_file_iff (e : Entry) : (kindOf e = Kind.file) ↔ (e.dir = false ∧ e.link = false) := by
  unfold kindOf
  cases e.link <;> cases e.dir <;> simp

theorem isDir_absS (σ : State) (p : FsPath) : isDir (absS σ) p = isDirP σ p := by
  unfold isDir isDirP
  rw [get_absS_nodeAt]
  unfold nodeAt
  cases alLookup p σ.entries with
  | none => rfl
  | some e =>
    simp only [Option.map_some, absNode]
    have := kindOf_dir_iff e
    cases hd : e.dir <;> cases hl : e.link <;> simp_all

/-- the reference `move_p` on the abstraction of a validated pre-state -/
theorem treeMoveP_of_setup {s0 : State} {sk dk D pre : FsPath} {srcE : Entry} (hkind : KindWf s0)
    (hs : MoveSetup s0 sk dk D pre srcE) :
    TreeFs.moveP (absS s0) sk dk = (.ok (), ⟨
      (absS s0).nodes.filter (fun kv => !(isPrefixOrEq sk kv.1) && kv.1 ≠ D) ++
      reKey sk D id (absS s0).nodes, s0.cwd⟩) := by
  have hget : get (absS s0) sk = some (absNode s0 sk srcE) := (get_absS_nodeAt s0 sk).trans (nodeAt_some hs.src)
  have hD : (if isDir (absS s0) dk = true then dk ++ [baseName sk] else dk) = D := by
    rw [isDir_absS, hs.dform]
  have h1 : ¬ sk = D := fun h => inc_left hs.hinc [] ((List.append_nil sk).trans h)
  have h2 : isPrefixOrEq sk D = false :=
    (isPrefixOrEq_false_iff _ _).2 fun r h => inc_left hs.hinc r h.symm
  obtain ⟨pe, hpe, hped, hpel⟩ := hs.dparent
  have h3 : isDir (absS s0) D.dropLast = true := by
    rw [isDir_absS]; simp [isDirP, hpe, hped, hpel]
  unfold TreeFs.moveP
  rw [hget]
  simp only [hD, hs.skne, h1, h2, hs.dne, h3, if_false, Bool.false_eq_true, Bool.not_true, moved_eq_reKey]
  rcases hs.dfree with h | ⟨x, hx, hxd, hxf, hxl, hsf, hsl⟩
  · simp only [get_absS_nodeAt, nodeAt, h, Option.map_none, Bool.not_true, Bool.false_eq_true, if_false]
    rfl
  · have hsd : srcE.dir = false := by
      have := hkind.at hs.src
      rw [hsf] at this
      simpa using this
    have k1 : kindOf srcE = Kind.file := (kindOf_file_iff _).2 ⟨hsd, hsl⟩
    have k2 : kindOf x = Kind.file := (kindOf_file_iff _).2 ⟨hxd, hxl⟩
    simp only [get_absS_nodeAt, nodeAt, hx, Option.map_some, absNode, k1, k2, decide_true, Bool.and_self,
      Bool.not_true, Bool.false_eq_true, if_false]
    rfl

/-- **refinement**: a state related to the pre-state as `moveLoop_spec` says abstracts to the
    result of the reference `move_p` -/
theorem move_refines {s0 σ' : State} {sk dk D pre : FsPath} {srcE : Entry} (hi : InvF s0)
    (hkind : KindWf s0) (hs : MoveSetup s0 sk dk D pre srcE)
    (hcwd : σ'.cwd = s0.cwd)
    (hnone : ∀ r, alLookup (sk ++ r) σ'.entries = none)
    (hdst : ∀ r, nodeAt σ' (D ++ r) = nodeAt s0 (sk ++ r))
    (hother : ∀ k, (∀ r, k ≠ sk ++ r) → (∀ r, k ≠ D ++ r) → nodeAt σ' k = nodeAt s0 k) :
    (TreeFs.moveP (absS s0) sk dk).1 = .ok () ∧
    TEquiv (absS σ') (TreeFs.moveP (absS s0) sk dk).2 := by
  rw [treeMoveP_of_setup hkind hs]
  exact ⟨rfl, hcwd, fun k => (get_absS_nodeAt σ' k).trans
    (nodeAt_moved hs.hinc (fun r hr => hs.below hi hr) hnone hdst hother k)⟩

/-! ### `move_p` as a whole -/

/-- the result of `abs` on a path argument is a well-formed key -/
def ResolvesWf (env : Env) (s : State) (p : Str) : Prop := ∀ k, absM env p s = (.ok k, s) → WfKey k

/-- ... which holds as soon as the cwd is well formed (`Lemmas.absM_wf`) -/
theorem resolvesWf_of_keysWf {s : State} (hk : KeysWf s) (env : Env) (p : Str) : ResolvesWf env s p :=
  fun _ h => absM_wf hk.2 h

/-- the `src == dst` shortcut agrees with the reference -/
theorem treeMoveP_same {s : State} {sk dk : FsPath} {srcE : Entry} (hk : KeysWf s) (hdk : WfKey dk)
    (hsrc : alLookup sk s.entries = some srcE) (hne : sk ≠ []) (hsame : moveDst s sk dk = sk) :
    TreeFs.moveP (absS s) sk dk = (.ok (), absS s) := by
  have hget : get (absS s) sk = some (absNode s sk srcE) := (get_absS_nodeAt s sk).trans (nodeAt_some hsrc)
  have hD : (if isDir (absS s) dk = true then dk ++ [baseName sk] else dk) = sk := by
    rw [isDir_absS, ← moveDst_eq (hk.key hsrc) hne hdk, hsame]
  unfold TreeFs.moveP
  rw [hget]
  simp only [hD, hne, if_false, if_true]

/-- **`move_p`, total description** (pre-state satisfies the invariant, names are well formed, no
    entry is both file and directory):
    either nothing happened and the call did not succeed; or source and destination coincide and
    nothing happened; or the call succeeded and the post-state is the re-keyed pre-state -/
theorem moveM_total {env : Env} {a b : Str} {s : State} (hinv : Spec.Inv s) (hk : KeysWf s)
    (hkind : KindWf s) :
    (∃ r : Outcome Unit, moveM env a b s = (r, s) ∧ ∀ u, r ≠ .ok u) ∨
    (∃ sk dk srcE, absM env a s = (.ok sk, s) ∧ absM env b s = (.ok dk, s) ∧
      alLookup sk s.entries = some srcE ∧ moveDst s sk dk = sk ∧ moveM env a b s = (.ok (), s)) ∨
    (∃ sk dk srcE s', absM env a s = (.ok sk, s) ∧ absM env b s = (.ok dk, s) ∧
      MoveValid s sk dk srcE ∧ moveM env a b s = (.ok (), s') ∧ s'.cwd = s.cwd ∧
      (∀ r, alLookup (sk ++ r) s'.entries = none) ∧
      (∀ r, nodeAt s' (moveDst s sk dk ++ r) = nodeAt s (sk ++ r)) ∧
      (∀ k, (∀ r, k ≠ sk ++ r) → (∀ r, k ≠ moveDst s sk dk ++ r) → nodeAt s' k = nodeAt s k) ∧
      (TreeFs.moveP (absS s) sk dk).1 = .ok () ∧
      TEquiv (absS s') (TreeFs.moveP (absS s) sk dk).2) := by
  have hi := invF_of_inv hinv
  have hdk : ResolvesWf env s b := resolvesWf_of_keysWf hk env b
  rcases moveM_cases env a b s with h | h | ⟨sk, dk, srcE, ha, hb, hv, hrun⟩
  · exact Or.inl h
  · exact Or.inr (Or.inl h)
  · have hs := moveSetup_of_valid hi hk hkind (hdk dk hb) hv
    obtain ⟨s', hloop, hcwd, hnone, hdst, hother⟩ := moveLoop_spec hi hk hs
    have href := move_refines hi hkind hs hcwd hnone hdst hother
    exact Or.inr (Or.inr ⟨sk, dk, srcE, s', ha, hb, hv, hrun.trans hloop, hcwd, hnone, hdst, hother,
      href.1, href.2⟩)

end Rivia.Lemmas
