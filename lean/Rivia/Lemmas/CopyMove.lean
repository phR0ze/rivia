/-
  Rivia.Lemmas.CopyMove — what C09 (copy / move_p on the Memfs model) starts from: the string-level
  computation of destination keys (`dstOf`), the invariant in lookup form, and the state monad `M`
  run step by step.
-/
import Rivia.Lemmas.MemfsBase

namespace Rivia.Lemmas
open Rivia Rivia.Str Rivia.Memfs Rivia.Spec Rivia.Memfs.M

/-! ### `trimPrefix` on rendered keys -/

theorem trimPrefix_renderP {pre r : FsPath} (hpre : pre ≠ []) (hr : r ≠ []) :
    trimPrefix (renderP (pre ++ r)) (renderP pre) = '/' :: joinWith '/' r := by
  have : renderP (pre ++ r) = renderP pre ++ '/' :: joinWith '/' r := by
    unfold renderP
    rw [joinWith_append '/' hpre hr]
    rfl
  rw [this, trimPrefix_append]

theorem trimPrefix_renderP_self (pre : FsPath) : trimPrefix (renderP pre) (renderP pre) = [] := by
  have := trimPrefix_append (renderP pre) []
  simpa using this

theorem trimPrefix_renderP_root (r : FsPath) :
    trimPrefix (renderP r) (renderP []) = joinWith '/' r := by
  show trimPrefix (['/'] ++ joinWith '/' r) ['/'] = _
  exact trimPrefix_append _ _

/-! ### `mash` of a rendered key and a relative body -/

theorem stripSlashes_joinWith {r : FsPath} (h : WfKey r) :
    stripSlashes (joinWith '/' r) = joinWith '/' r := by
  cases r with
  | nil => rfl
  | cons x xs =>
    have hx := h x (by simp)
    obtain ⟨X, hX⟩ := joinWith_cons_eq_append '/' x xs
    rw [hX]
    cases x with
    | nil => exact absurd rfl hx.1
    | cons c cs =>
      have hc : c ≠ '/' := fun e => hx.2.1 (by simp [e])
      show stripSlashes (c :: (cs ++ X)) = _
      unfold stripSlashes
      split
      · rename_i heq
        simp only [List.cons.injEq] at heq
        exact absurd heq.1 hc
      · rfl

theorem stripSlashes_slash_joinWith {r : FsPath} (h : WfKey r) :
    stripSlashes ('/' :: joinWith '/' r) = joinWith '/' r := by
  rw [stripSlashes]
  exact stripSlashes_joinWith h

theorem render_components_renderP {p : FsPath} (h : WfKey p) :
    render (components (renderP p)) = renderP p := by
  rw [renderP_eq_bufOf, components_abs h, render_root_normals h]

theorem mash_renderP_rel {d r : FsPath} (hd : WfKey d) (hr : WfKey r) (hne : r ≠ []) :
    mash (renderP d) (joinWith '/' r) = renderP (d ++ r) := by
  unfold mash
  rw [stripSlashes_joinWith hr]
  have : push (renderP d) (joinWith '/' r) = renderP (d ++ r) := by
    have := push_abs_rel hd.bodyPiece hr.bodyPiece hne
    simpa [renderP_eq_bufOf, bufOf] using this
  rw [this, render_components_renderP (hd.append hr)]

theorem mash_renderP_slash_rel {d r : FsPath} (hd : WfKey d) (hr : WfKey r) (hne : r ≠ []) :
    mash (renderP d) ('/' :: joinWith '/' r) = renderP (d ++ r) := by
  have := mash_renderP_rel hd hr hne
  unfold mash at this ⊢
  rw [stripSlashes_slash_joinWith hr]
  rw [stripSlashes_joinWith hr] at this
  exact this

theorem mash_renderP_nil {d : FsPath} (hd : WfKey d) : mash (renderP d) [] = renderP d := by
  unfold mash
  show render (components (push (renderP d) [])) = _
  rw [components_push_nil (renderP_ne_nil d), render_components_renderP hd]

theorem mash_renderP_name {d : FsPath} {n : Str} (hd : WfKey d) (hn : Wf n) :
    toPath (mash (renderP d) n) = d ++ [n] := by
  have h := mash_renderP_rel hd (wfKey_singleton hn) (List.cons_ne_nil _ _)
  rw [show joinWith '/' [n] = n from rfl] at h
  rw [h, toPath_renderP (hd.append (wfKey_singleton hn))]

/-! ### `dstOf` -/

theorem dstOf_append {dstRoot pre r : FsPath} (hd : WfKey dstRoot) (hr : WfKey r) :
    dstOf dstRoot (pre ++ r) pre = dstRoot ++ r := by
  unfold dstOf
  by_cases hr0 : r = []
  · subst hr0
    rw [List.append_nil, trimPrefix_renderP_self, mash_renderP_nil hd, toPath_renderP hd,
      List.append_nil]
  · by_cases hp0 : pre = []
    · subst hp0
      rw [List.nil_append, trimPrefix_renderP_root, mash_renderP_rel hd hr hr0,
        toPath_renderP (hd.append hr)]
    · rw [trimPrefix_renderP hp0 hr0, mash_renderP_slash_rel hd hr hr0,
        toPath_renderP (hd.append hr)]

theorem dstOf_self {dstRoot pre : FsPath} (hd : WfKey dstRoot) : dstOf dstRoot pre pre = dstRoot := by
  have := dstOf_append (pre := pre) hd wfKey_nil
  rwa [List.append_nil, List.append_nil] at this

/-- `move_p` and `_copy` cut off the source root `sk` itself, or its parent when the subtree goes
    *into* an existing directory `dk` (`ci`): either way `sk ++ r` lands below the destination root -/
theorem dstOf_sub {dk sk pre r : FsPath} {ci : Bool} (hdk : WfKey dk) (hsk : WfKey sk) (hr : WfKey r)
    (hpre : if ci = true then sk ≠ [] ∧ pre = sk.dropLast else pre = sk) :
    dstOf dk (sk ++ r) pre = (if ci = true then dk ++ [baseName sk] else dk) ++ r := by
  cases ci with
  | false => rw [if_neg Bool.false_ne_true] at hpre ⊢; rw [hpre]; exact dstOf_append hdk hr
  | true =>
    rw [if_pos rfl] at hpre ⊢
    obtain ⟨hne, rfl⟩ := hpre
    have hb : WfKey [baseName sk] := wfKey_singleton (hsk _ (baseName_mem hne))
    have := dstOf_append (pre := sk.dropLast) hdk (hb.append hr)
    rwa [← List.append_assoc, ← List.append_assoc, dropLast_append_baseName hne] at this

/-! ### the invariant, clause by clause -/

/-- every name in every key and in cwd is a well-formed component name -/
def KeysWf (s : State) : Prop := (∀ kv ∈ s.entries, WfKey kv.1) ∧ WfKey s.cwd

instance (s : State) : Decidable (KeysWf s) := by unfold KeysWf; infer_instance

theorem KeysWf.key {s : State} (h : KeysWf s) {k : FsPath} {e : Entry}
    (hk : alLookup k s.entries = some e) : WfKey k := h.1 (k, e) (alLookup_mem hk)

/-- the clauses of `Spec.Inv` in lookup form -/
structure InvF (s : State) : Prop where
  nodup : (s.entries.map (·.1)).Nodup
  root : ∃ e, alLookup [] s.entries = some e ∧ e.dir = true ∧ e.link = false
  parent : ∀ k e, alLookup k s.entries = some e → k ≠ [] →
    ∃ pe fs, alLookup k.dropLast s.entries = some pe ∧ pe.dir = true ∧ pe.link = false ∧
      pe.files = some fs ∧ baseName k ∈ fs
  child : ∀ k e fs n, alLookup k s.entries = some e → e.files = some fs → n ∈ fs →
    ∃ c, alLookup (k ++ [n]) s.entries = some c
  data : ∀ k e, alLookup k s.entries = some e → (alLookup k s.files).isSome = (e.file && !e.link)
  dangling : ∀ k b, alLookup k s.files = some b → ∃ e, alLookup k s.entries = some e
  fnodup : (s.files.map (·.1)).Nodup
  path : ∀ k e, alLookup k s.entries = some e → e.path = k
  childset : ∀ k e, alLookup k s.entries = some e → e.files.isSome = e.dir
  childnodup : ∀ k e fs, alLookup k s.entries = some e → e.files = some fs → fs.Nodup

theorem ite_some_eq_none {α : Type} {c : Prop} [Decidable c] {a : α} {b : Option α}
    (h : (if c then some a else b) = none) : ¬ c ∧ b = none := by
  split at h
  · cases h
  · exact ⟨‹_›, h⟩

theorem invF_of_inv {s : State} (h : Spec.Inv s) : InvF s := by
  unfold Spec.Inv invViolation at h
  obtain ⟨h1, h⟩ := ite_some_eq_none h
  obtain ⟨h2, h⟩ := ite_some_eq_none h
  obtain ⟨-, h⟩ := ite_some_eq_none h
  split at h
  · cases h
  rename_i h4
  split at h
  · cases h
  rename_i h5
  split at h
  · cases h
  rename_i h6
  split at h
  · cases h
  rename_i h7
  obtain ⟨h8, h⟩ := ite_some_eq_none h
  split at h
  · cases h
  rename_i h9
  split at h
  · cases h
  rename_i h10
  split at h
  · cases h
  rename_i h11
  simp only [Bool.not_eq_eq_eq_not, Bool.not_true, decide_eq_false_iff_not,
    Decidable.not_not] at h1
  have hn : (s.entries.map (·.1)).Nodup := h1
  rw [List.find?_eq_none] at h4 h5 h6 h7 h9 h10
  rw [List.find?_eq_none] at h11
  refine ⟨hn, ?_, ?_, ?_, ?_, ?_, ?_, ?_, ?_, ?_⟩
  · cases hr : alLookup [] s.entries with
    | none => simp [hr] at h2
    | some e =>
      refine ⟨e, rfl, ?_⟩
      simp [hr] at h2
      exact h2
  · intro k e hk hne
    have := h4 (k, e) (alLookup_mem hk)
    cases hp : alLookup k.dropLast s.entries with
    | none => simp [hp, hne] at this
    | some pe =>
      cases hf : pe.files with
      | none => simp [hp, hf, hne] at this
      | some fs =>
        simp [hp, hf, hne] at this
        exact ⟨pe, fs, rfl, this.1.1, this.1.2, hf, this.2⟩
  · intro k e fs n hk hf hn'
    have := h5 (k, e) (alLookup_mem hk)
    simp only [hf, List.any_eq_true, Option.isNone_iff_eq_none, not_exists, not_and] at this
    have := this n hn'
    cases hc : alLookup (k ++ [n]) s.entries with
    | none => exact absurd hc this
    | some c => exact ⟨c, rfl⟩
  · intro k e hk
    have := h6 (k, e) (alLookup_mem hk)
    simp at this
    exact this.symm
  · intro k b hk
    have := h7 (k, b) (alLookup_mem hk)
    cases hc : alLookup k s.entries with
    | none => simp [hc] at this
    | some c => exact ⟨c, rfl⟩
  · simpa using h8
  · intro k e hk
    have := h9 (k, e) (alLookup_mem hk)
    simpa using this
  · intro k e hk
    have := h10 (k, e) (alLookup_mem hk)
    simpa using this
  · intro k e fs hk hf
    have := h11 (k, e) (alLookup_mem hk)
    simpa [hf] using this

theorem InvF.files_of_dir {s : State} (hi : InvF s) {k : FsPath} {e : Entry}
    (hk : alLookup k s.entries = some e) (hd : e.dir = true) : ∃ fs, e.files = some fs := by
  have := hi.childset k e hk
  rw [hd] at this
  exact Option.isSome_iff_exists.1 this

theorem InvF.no_files_of_not_dir {s : State} (hi : InvF s) {k : FsPath} {e : Entry}
    (hk : alLookup k s.entries = some e) (hd : e.dir = false) : e.files = none := by
  have := hi.childset k e hk
  rw [hd] at this
  cases hf : e.files with
  | none => rfl
  | some fs => rw [hf] at this; cases this

theorem InvF.bytes_of_file {s : State} (hi : InvF s) {k : FsPath} {e : Entry}
    (hk : alLookup k s.entries = some e) (hf : e.file = true) (hl : e.link = false) :
    ∃ b, alLookup k s.files = some b := by
  have := hi.data k e hk
  rw [hf, hl] at this
  exact Option.isSome_iff_exists.1 this

theorem InvF.no_bytes_of_not_file {s : State} (hi : InvF s) {k : FsPath} {e : Entry}
    (hk : alLookup k s.entries = some e) (hf : e.file = false) : alLookup k s.files = none := by
  have := hi.data k e hk
  rw [hf] at this
  cases hb : alLookup k s.files with
  | none => rfl
  | some b => rw [hb] at this; cases this

theorem InvF.ne_root_of_not_dir {s : State} (hi : InvF s) {k : FsPath} {e : Entry}
    (hk : alLookup k s.entries = some e) (hd : e.dir = false) : k ≠ [] := by
  rintro rfl
  obtain ⟨e', he', hed, _⟩ := hi.root
  rw [hk] at he'; cases he'
  rw [hd] at hed; cases hed

/-! ### running the state monad `M` step by step -/

section Monad
variable {α β : Type}

theorem bind_apply (m : M α) (f : α → M β) (s : State) :
    (m >>= f) s = match m s with
      | (.ok a, s') => f a s'
      | (.err k, s') => (.err k, s')
      | (.panic, s') => (.panic, s')
      | (.hang, s') => (.hang, s') := rfl

theorem bind_ok {m : M α} {f : α → M β} {s s' : State} {a : α} (h : m s = (.ok a, s')) :
    (m >>= f) s = f a s' := by rw [bind_apply, h]

theorem bind_err {m : M α} {f : α → M β} {s s' : State} {k : ErrKind} (h : m s = (.err k, s')) :
    (m >>= f) s = (.err k, s') := by rw [bind_apply, h]

@[simp] theorem pure_bind' (a : α) (f : α → M β) : ((Pure.pure a : M α) >>= f) = f a := rfl
@[simp] theorem mpure_bind (a : α) (f : α → M β) : (M.pure a >>= f) = f a := rfl
@[simp] theorem fail_bind (k : ErrKind) (f : α → M β) : ((M.fail k : M α) >>= f) = M.fail k := rfl
@[simp] theorem hang_bind (f : α → M β) : ((M.hang : M α) >>= f) = M.hang := rfl
@[simp] theorem liftO_ok_bind (a : α) (f : α → M β) : (M.liftO (.ok a) >>= f) = f a := rfl
@[simp] theorem liftO_err_bind (k : ErrKind) (f : α → M β) : ((M.liftO (.err k) : M α) >>= f) = M.fail k := rfl
@[simp] theorem pure_apply (a : α) (s : State) : (Pure.pure a : M α) s = (.ok a, s) := rfl
@[simp] theorem mpure_apply (a : α) (s : State) : (M.pure a : M α) s = (.ok a, s) := rfl
@[simp] theorem fail_apply (k : ErrKind) (s : State) : (M.fail k : M α) s = (.err k, s) := rfl
@[simp] theorem hang_apply (s : State) : (M.hang : M α) s = (.hang, s) := rfl

@[simp] theorem get_bind_apply (f : State → M β) (s : State) : (M.get >>= f) s = f s s := rfl
@[simp] theorem getEntry_bind_apply (p : FsPath) (f : Option Entry → M β) (s : State) :
    (getEntry p >>= f) s = f (alLookup p s.entries) s := rfl
@[simp] theorem getFile_bind_apply (p : FsPath) (f : Option File.Bytes → M β) (s : State) :
    (getFile p >>= f) s = f (alLookup p s.files) s := rfl
@[simp] theorem setEntry_bind_apply (p : FsPath) (e : Entry) (f : Unit → M β) (s : State) :
    (setEntry p e >>= f) s = f () { s with entries := alInsert p e s.entries } := rfl
@[simp] theorem setFile_bind_apply (p : FsPath) (b : File.Bytes) (f : Unit → M β) (s : State) :
    (setFile p b >>= f) s = f () { s with files := alInsert p b s.files } := rfl
@[simp] theorem removeEntry_bind_apply (p : FsPath) (f : Option Entry → M β) (s : State) :
    (removeEntry p >>= f) s = f (alLookup p s.entries) { s with entries := alErase p s.entries } := rfl
@[simp] theorem removeFile_bind_apply (p : FsPath) (f : Option File.Bytes → M β) (s : State) :
    (removeFile p >>= f) s = f (alLookup p s.files) { s with files := alErase p s.files } := rfl
@[simp] theorem setEntry_apply (p : FsPath) (e : Entry) (s : State) :
    setEntry p e s = (.ok (), { s with entries := alInsert p e s.entries }) := rfl
@[simp] theorem setFile_apply (p : FsPath) (b : File.Bytes) (s : State) :
    setFile p b s = (.ok (), { s with files := alInsert p b s.files }) := rfl
@[simp] theorem getEntry_apply (p : FsPath) (s : State) :
    getEntry p s = (.ok (alLookup p s.entries), s) := rfl
@[simp] theorem getFile_apply (p : FsPath) (s : State) :
    getFile p s = (.ok (alLookup p s.files), s) := rfl

theorem dirOf_ne_nil {p : FsPath} (h : p ≠ []) : dirOf p = M.pure p.dropLast := by
  unfold dirOf; rw [if_neg h]

theorem dirOf_nil : dirOf [] = M.fail .parentNotFound := rfl

/-- the prefix `move_p` / `_copy` cut off each path: the parent of the source root when the subtree
    goes *into* an existing directory (`ci`), else the source root itself (see `dstOf_sub`) -/
def preOf (ci : Bool) (root : FsPath) : FsPath := if ci = true then root.dropLast else root

theorem preOf_spec {ci : Bool} {root : FsPath} (h : ci = true → root ≠ []) :
    if ci = true then root ≠ [] ∧ preOf ci root = root.dropLast else preOf ci root = root := by
  cases ci with
  | false => exact rfl
  | true => exact ⟨h rfl, rfl⟩

theorem cutPrefix_bind {ci : Bool} {root pre : FsPath}
    (h : if ci = true then root ≠ [] ∧ pre = root.dropLast else pre = root) (f : FsPath → M β) :
    (if ci = true then dirOf root >>= f else M.pure root >>= f) = f pre := by
  cases ci with
  | false => rw [if_neg Bool.false_ne_true] at h ⊢; rw [h, mpure_bind]
  | true => rw [if_pos rfl] at h ⊢; rw [h.2, dirOf_ne_nil h.1, mpure_bind]

end Monad

/-! ### `add` -/

/-- `_add` of a new entry under an existing real directory -/
theorem add_new {s : State} {e d : Entry} {fs : List Str} (hp : e.path ≠ [])
    (hd : alLookup e.path.dropLast s.entries = some d) (hdir : d.dir = true) (hlink : d.link = false)
    (hfs : d.files = some fs) (hnew : alLookup e.path s.entries = none)
    (hname : baseName e.path ∉ fs) :
    add e s = (.ok e.path,
      { s with
        entries := alInsert e.path.dropLast { d with files := some (insertName (baseName e.path) fs).2 }
                    (alInsert e.path e s.entries)
        files := if (!e.link && e.file) = true then alInsert e.path [] s.files else s.files }) := by
  unfold add
  simp only [hp, if_false, getEntry_bind_apply, hd, hdir, hlink, Bool.not_true, Bool.or_self,
    Bool.false_eq_true, hnew]
  have hne : e.path ≠ e.path.dropLast := fun h => dropLast_ne_self hp h.symm
  by_cases hf : (!e.link && e.file) = true
  · simp only [hf, if_true, setFile_bind_apply, setEntry_bind_apply, getEntry_bind_apply,
      alLookup_alInsert_ne hne, hd, Entry.addChild, hdir, Bool.not_true, Bool.false_eq_true, if_false, hfs,
      liftO_ok_bind, insertName_fst_of_not_mem hname, pure_apply]
    simp [hlink]
  · simp only [hf, if_false, setEntry_bind_apply, getEntry_bind_apply,
      alLookup_alInsert_ne hne, hd, Entry.addChild, hdir, Bool.not_true, Bool.false_eq_true, hfs,
      liftO_ok_bind, insertName_fst_of_not_mem hname, pure_apply]
    simp [hlink]

end Rivia.Lemmas
