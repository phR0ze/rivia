/-
  Rivia.Lemmas.InvBAbs — C03 (group B), the string side:
  * every key produced by `absM` has well-formed names (given a well-formed cwd)
  * `dstOf dstRoot (pre ++ r) pre = dstRoot ++ r` on well-formed keys
-/
import Rivia.Lemmas.InvBBase
import Rivia.Lemmas.User
import Rivia.Lemmas.Relative
import Rivia.Lemmas.PathLaws

namespace Rivia.Lemmas.InvB
open Rivia Rivia.Str Rivia.Memfs Rivia.File Rivia.Spec Rivia.Lemmas

/-- `a` is the string form of a key with well-formed names -/
def AbsKey (a : Str) : Prop := ∃ ps : List Str, (∀ p ∈ ps, BodyPiece p) ∧ a = bufOf true ps

theorem toPath_renderP {k : FsPath} (h : ∀ p ∈ k, BodyPiece p) : toPath (renderP k) = k := by
  rw [renderP_eq_bufOf, toPath_bufOf h]

theorem absKey_renderP {k : FsPath} (h : ∀ p ∈ k, BodyPiece p) : AbsKey (renderP k) :=
  ⟨k, h, renderP_eq_bufOf k⟩

theorem AbsKey.rooted {a : Str} (h : AbsKey a) : isRooted a = true := by
  obtain ⟨ps, hps, rfl⟩ := h
  exact isRooted_bufOf hps

theorem AbsKey.toPath_wf {a : Str} (h : AbsKey a) : ∀ n ∈ toPath a, BodyPiece n := by
  obtain ⟨ps, hps, rfl⟩ := h
  rw [toPath_bufOf hps]; exact hps

theorem absKey_render_components {x : Str} (hx : isRooted x = true) : AbsKey (render (components x)) := by
  have hc : components x = .root :: (splitSlash x).filterMap bodyComp := by
    unfold components; rw [hx]; rfl
  have hb := bodyC_filterMap (splitSlash_not_mem x)
  rw [hc, render_root_body hb]
  exact ⟨_, bodyPiece_map_str hb, rfl⟩

theorem absKey_mash {d p : Str} (hd : isRooted d = true) : AbsKey (mash d p) := by
  unfold mash
  exact absKey_render_components (isRooted_push_of_rooted hd _)

theorem absKey_clean {x c : Str} (h : cleanO x = some c) (ha : isAbsolute c = true) : AbsKey c := by
  rw [cleanO_eq_goClean] at h
  cases h
  have hr : isRooted x = true := by rw [← goClean_rooted]; exact ha
  rw [goClean_eq] at ha ⊢
  split
  · next h0 => rw [if_pos h0] at ha; cases ha
  · rw [hr]; exact ⟨_, goStack_rev_bodyPiece x, rfl⟩

theorem absKey_dir {curr d : Str} (hc : AbsKey curr) (h : dir curr = .ok d) : AbsKey d := by
  obtain ⟨ps, hps, rfl⟩ := hc
  unfold dir at h
  cases hp : parentStr (bufOf true ps) with
  | none => rw [hp] at h; cases h
  | some q =>
    rw [hp] at h; cases h
    rcases eq_nil_or_snoc ps with rfl | ⟨mid, t, rfl⟩
    · have : parentStr (bufOf true []) = none := by decide
      rw [this] at hp; cases hp
    · have := pop_bufOf (rooted := true) hps
      unfold pop at this
      rw [hp] at this
      exact ⟨mid, fun q hq => hps q (by simp [hq]), this⟩

theorem absKey_absLoop : ∀ (f : Nat) (curr p a : Str), AbsKey curr → absLoop f curr p = .ok a → AbsKey a := by
  intro f
  induction f with
  | zero => intro curr p a hc h; simp only [absLoop] at h; cases h; exact hc
  | succ f ih =>
    intro curr p a hc h
    rw [absLoop] at h
    split at h
    · cases h; exact hc
    · exact ih _ _ _ hc h
    · split at h
      · cases h
      · split at h
        · next d hd => exact ih _ _ _ (absKey_dir hc hd) h
        · cases h
        · cases h
        · cases h
    · cases h; exact absKey_mash hc.rooted

theorem absKey_absWith {env : Env} {cwd s a : Str} (hc : AbsKey cwd) (h : absWith env cwd s = .ok a) : AbsKey a := by
  unfold absWith at h
  split at h
  · cases h
  · split at h
    · split at h
      · cases h
      · next c hcl =>
        split at h
        · next ha => cases h; exact absKey_clean hcl ha
        · exact absKey_absLoop _ _ _ _ hc h
    · cases h
    · cases h
    · cases h

/-- `_abs` relative to a well-formed cwd only returns well-formed keys -/
theorem absWith_wf {env : Env} {cwd : FsPath} {raw a : Str} (hc : ∀ n ∈ cwd, BodyPiece n)
    (h : absWith env (renderP cwd) raw = .ok a) : ∀ n ∈ toPath a, BodyPiece n :=
  (absKey_absWith (absKey_renderP hc) h).toPath_wf

theorem absM_wf {env : Env} {str : Str} {s s' : State} {p : FsPath} (h : absM env str s = (.ok p, s'))
    (hc : ∀ n ∈ s.cwd, BodyPiece n) : ∀ n ∈ p, BodyPiece n := by
  unfold absM at h
  split at h
  · next a ha =>
    cases h
    exact (absKey_absWith (absKey_renderP hc) ha).toPath_wf
  · cases h
  · cases h
  · cases h

/-! ### `mash` / `dstOf` on well-formed keys -/

theorem toPath_render_components_bufOf {l : List Str} (h : ∀ p ∈ l, BodyPiece p) {y : Str}
    (hy : components y = components (bufOf true l)) : toPath (render (components y)) = l := by
  have hb := bodyC_filterMap fun p hp => (h p hp).2.2
  rw [hy, components_bufOf h]
  simp only [if_true, List.singleton_append]
  rw [render_root_body hb, map_str_filterMap_bodyComp h, toPath_bufOf h]

theorem toPath_mash_key {d r : FsPath} (hd : ∀ p ∈ d, BodyPiece p) (hr : ∀ p ∈ r, BodyPiece p) {t : Str}
    (ht : stripSlashes t = bufOf false r) : toPath (mash (renderP d) t) = d ++ r := by
  have hdr : ∀ p ∈ d ++ r, BodyPiece p := by
    intro p hp; rcases List.mem_append.1 hp with hp | hp
    · exact hd p hp
    · exact hr p hp
  unfold mash
  rw [ht, renderP_eq_bufOf]
  apply toPath_render_components_bufOf hdr
  by_cases hne : r = []
  · subst hne
    rw [List.append_nil]
    exact components_push_nil (List.append_ne_nil_of_left_ne_nil (List.cons_ne_nil _ _) _)
  · rw [push_abs_rel hd hr hne]

/-- the destination key that `move_p` / `_copy` compute; `pre` itself is arbitrary -/
theorem dstOf_append_eq {D pre r : FsPath} (hD : ∀ p ∈ D, BodyPiece p) (hr : ∀ p ∈ r, BodyPiece p) :
    dstOf D (pre ++ r) pre = D ++ r := by
  unfold dstOf
  apply toPath_mash_key hD hr
  by_cases h1 : pre = []
  · subst h1
    have : renderP ([] ++ r) = renderP [] ++ bufOf false r := by simp [renderP, bufOf, joinWith]
    rw [this, trimPrefix_append, stripSlashes_of_not_rooted (isRooted_bufOf hr)]
  · by_cases h2 : r = []
    · subst h2
      have : renderP (pre ++ []) = renderP pre ++ [] := by simp
      rw [this, trimPrefix_append]; decide
    · have : renderP (pre ++ r) = renderP pre ++ '/' :: bufOf false r := by
        simp [renderP, bufOf, joinWith_append '/' h1 h2]
      rw [this, trimPrefix_append]
      show stripSlashes (bufOf false r) = _
      exact stripSlashes_of_not_rooted (isRooted_bufOf hr)

theorem dstOf_append {D pre r : FsPath} (hD : ∀ p ∈ D, BodyPiece p) (hpre : ∀ p ∈ pre, BodyPiece p)
    (hr : ∀ p ∈ r, BodyPiece p) : dstOf D (pre ++ r) pre = D ++ r :=
  dstOf_append_eq hD hr

/-- `dst.mash(src.base())` on well-formed keys -/
theorem toPath_mash_baseName {d s : FsPath} (hd : ∀ p ∈ d, BodyPiece p) (hs : ∀ p ∈ s, BodyPiece p)
    (hne : s ≠ []) : toPath (mash (renderP d) (baseName s)) = d ++ [baseName s] := by
  have hb : BodyPiece (baseName s) := by
    rcases eq_nil_or_snoc s with rfl | ⟨mid, t, rfl⟩
    · exact absurd rfl hne
    · have : baseName (mid ++ [t]) = t := by simp [baseName]
      rw [this]; exact hs t (by simp)
  apply toPath_mash_key hd (r := [baseName s]) (by simpa using hb)
  have : bufOf false [baseName s] = baseName s := by simp [bufOf, joinWith]
  rw [this]
  exact stripSlashes_of_not_rooted (isRooted_of_not_mem hb.2.2)

end Rivia.Lemmas.InvB
