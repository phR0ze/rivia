/-
  Rivia.Lemmas.InvBOps — C03 (group B): `remove`, `removeAll`, `symlink` preserve the invariant.
-/
import Rivia.Lemmas.InvBBase
import Rivia.Lemmas.InvBAbs
import Rivia.Model.MemfsOps
namespace Rivia.Lemmas.InvB
open Rivia Rivia.Memfs Rivia.File Rivia.Spec Rivia.Lemmas Rivia.Memfs.M

/-! ### running the monad -/

theorem bind_apply {α β} (m : M α) (f : α → M β) (s : State) :
    (m >>= f) s = match m s with
      | (.ok a, s') => f a s'
      | (.err k, s') => (.err k, s')
      | (.panic, s') => (.panic, s')
      | (.hang, s') => (.hang, s') := rfl

theorem pure_apply {α} (a : α) (s : State) : (Pure.pure a : M α) s = (.ok a, s) := rfl
theorem mpure_apply {α} (a : α) (s : State) : (M.pure a : M α) s = (.ok a, s) := rfl
theorem fail_apply {α} (k : ErrKind) (s : State) : (M.fail k : M α) s = (.err k, s) := rfl
theorem liftO_apply {α} (o : Outcome α) (s : State) : (M.liftO o : M α) s = (o, s) := rfl
theorem getEntry_apply (p : FsPath) (s : State) : getEntry p s = (.ok (alLookup p s.entries), s) := rfl
theorem getFile_apply (p : FsPath) (s : State) : getFile p s = (.ok (alLookup p s.files), s) := rfl
theorem setEntry_apply (p : FsPath) (e : Entry) (s : State) :
    setEntry p e s = (.ok (), { s with entries := alInsert p e s.entries }) := rfl
theorem setFile_apply (p : FsPath) (b : Bytes) (s : State) :
    setFile p b s = (.ok (), { s with files := alInsert p b s.files }) := rfl
theorem removeEntry_apply (p : FsPath) (s : State) :
    removeEntry p s = (.ok (alLookup p s.entries), { s with entries := alErase p s.entries }) := rfl
theorem removeFile_apply (p : FsPath) (s : State) :
    removeFile p s = (.ok (alLookup p s.files), { s with files := alErase p s.files }) := rfl
theorem get_apply (s : State) : M.get s = (.ok s, s) := rfl
theorem dirOf_apply (p : FsPath) (s : State) :
    dirOf p s = if p = [] then (.err .parentNotFound, s) else (.ok p.dropLast, s) := by
  unfold dirOf; split <;> rfl

theorem mapVal_hang {α} (f : α → Val) (m : M α) (s : State) : (mapVal f m s).1 = .hang ↔ (m s).1 = .hang := by
  unfold mapVal; split <;> simp_all

/-! ### deleting a childless entry -/

theorem removeLeaf_entry {E E' : FsPath → Option Entry} {p k : FsPath} {e' : Entry}
    (hE : ∀ k, E' k = if k = p then none else if k = p.dropLast then (E k).map (dropName (baseName p)) else E k)
    (hk : E' k = some e') : k ≠ p ∧ ∃ e, E k = some e ∧ e'.path = e.path ∧ e'.dir = e.dir ∧
      e'.link = e.link ∧ e'.file = e.file ∧
      ((k ≠ p.dropLast ∧ e' = e) ∨
        (k = p.dropLast ∧ e'.files = e.files.map (fun fs => fs.filter (· ≠ baseName p)))) := by
  rw [hE] at hk
  by_cases h1 : k = p
  · rw [if_pos h1] at hk; cases hk
  · refine ⟨h1, ?_⟩
    rw [if_neg h1] at hk
    by_cases h2 : k = p.dropLast
    · rw [if_pos h2] at hk
      cases he : E k with
      | none => rw [he] at hk; cases hk
      | some e => rw [he] at hk; cases hk; exact ⟨e, rfl, rfl, rfl, rfl, rfl, Or.inr ⟨h2, rfl⟩⟩
    · rw [if_neg h2] at hk
      exact ⟨e', hk, rfl, rfl, rfl, rfl, Or.inl ⟨h2, rfl⟩⟩

theorem invL_removeLeaf {E E' : FsPath → Option Entry} {F F' : FsPath → Option Bytes} {p : FsPath}
    (h : InvL E F) (hp : p ≠ [])
    (hleaf : ∀ e, E p = some e → e.files = none ∨ e.files = some [])
    (hE : ∀ k, E' k = if k = p then none else if k = p.dropLast then (E k).map (dropName (baseName p)) else E k)
    (hF : ∀ k, F' k = if k = p then none else F k) : InvL E' F' := by
  have some' : ∀ k, k ≠ p → (E k).isSome = true → (E' k).isSome = true := by
    intro k h1 h2
    rw [hE]
    simp only [h1, if_false]
    split
    · cases hx : E k <;> simp [hx] at h2 ⊢
    · exact h2
  have nochild : ∀ k e, E k = some e → k ≠ [] → k.dropLast ≠ p := by
    intro k e hk hne hd
    obtain ⟨pe, fs, h1, _, _, h4, h5⟩ := h.parent k e hk hne
    rw [hd] at h1
    rcases hleaf pe h1 with h6 | h6
    · rw [h6] at h4; cases h4
    · rw [h6] at h4; cases h4; simp at h5
  constructor
  · obtain ⟨e, he, hd, hl⟩ := h.root
    have : (E' []).isSome = true := some' [] (fun hh => hp hh.symm) (by simp [he])
    cases hx : E' [] with
    | none => simp [hx] at this
    | some e' =>
      obtain ⟨_, e0, h0, _, h2, h3, _⟩ := removeLeaf_entry hE hx
      rw [he] at h0; cases h0
      exact ⟨e', rfl, by rw [h2, hd], by rw [h3, hl]⟩
  · intro k e' hk hne
    obtain ⟨hkp, e, he, -, -, -, -, -⟩ := removeLeaf_entry hE hk
    obtain ⟨pe, fs, h1, h2, h3, h4, h5⟩ := h.parent k e he hne
    have hdp : k.dropLast ≠ p := nochild k e he hne
    by_cases hd : k.dropLast = p.dropLast
    · refine ⟨dropName (baseName p) pe, fs.filter (· ≠ baseName p), ?_, h2, h3, by simp [dropName, h4], ?_⟩
      · rw [hE, if_neg hdp, if_pos hd, h1]; rfl
      · simp only [ne_eq, decide_not, List.mem_filter, h5, Bool.not_eq_eq_eq_not, Bool.not_true,
          decide_eq_false_iff_not, true_and]
        intro hb
        apply hkp
        rw [← dropLast_append_baseName hne, ← dropLast_append_baseName hp, hd, hb]
    · refine ⟨pe, fs, ?_, h2, h3, h4, h5⟩
      rw [hE, if_neg hdp, if_neg hd, h1]
  · intro k e' fs' n hk hf hn
    obtain ⟨hkp, e, he, -, -, -, -, hcase⟩ := removeLeaf_entry hE hk
    have hne : k ++ [n] ≠ p := by
      intro hh
      rcases hcase with ⟨h1, h2⟩ | ⟨h1, h2⟩
      · apply h1; rw [← hh]; simp
      · rw [hf] at h2
        cases hfe : e.files with
        | none => simp [hfe] at h2
        | some fs =>
          simp only [hfe, Option.map_some, Option.some.injEq] at h2
          subst h2
          simp only [ne_eq, decide_not, List.mem_filter, Bool.not_eq_eq_eq_not, Bool.not_true,
            decide_eq_false_iff_not] at hn
          apply hn.2
          rw [← hh, InvA.baseName_concat]
    apply some' _ hne
    rcases hcase with ⟨h1, h2⟩ | ⟨h1, h2⟩
    · subst h2; exact h.kids k e' fs' n he hf hn
    · rw [hf] at h2
      cases hfe : e.files with
      | none => simp [hfe] at h2
      | some fs =>
        simp only [hfe, Option.map_some, Option.some.injEq] at h2
        subst h2
        exact h.kids k e fs n he hfe (List.mem_filter.1 hn).1
  · intro k e' hk
    obtain ⟨hkp, e, he, -, -, h3, h4, -⟩ := removeLeaf_entry hE hk
    rw [hF]; simp only [hkp, if_false, h3, h4]
    exact h.data k e he
  · intro k hk
    rw [hF] at hk
    by_cases hkp : k = p
    · simp [hkp] at hk
    · simp only [hkp, if_false] at hk
      exact some' k hkp (h.dangling k hk)
  · intro k e' hk
    obtain ⟨hkp, e, he, h1, -⟩ := removeLeaf_entry hE hk
    rw [h1]; exact h.path k e he
  · intro k e' hk
    obtain ⟨hkp, e, he, -, h2, -, -, hcase⟩ := removeLeaf_entry hE hk
    rw [h2, ← h.dirflag k e he]
    rcases hcase with ⟨_, h2⟩ | ⟨_, h2⟩
    · rw [h2]
    · rw [h2]; cases e.files <;> simp
  · intro k e' fs' hk hf
    obtain ⟨hkp, e, he, -, -, -, -, hcase⟩ := removeLeaf_entry hE hk
    rcases hcase with ⟨_, h2⟩ | ⟨_, h2⟩
    · subst h2; exact h.nodupKids k e' fs' he hf
    · rw [hf] at h2
      cases hfe : e.files with
      | none => simp [hfe] at h2
      | some fs =>
        simp only [hfe, Option.map_some, Option.some.injEq] at h2
        subst h2
        exact (h.nodupKids k e fs he hfe).filter _



theorem extL_removeLeaf {E E' : FsPath → Option Entry} {p : FsPath} (hx : ExtL E)
    (hE : ∀ k, E' k = if k = p then none else if k = p.dropLast then (E k).map (dropName (baseName p)) else E k) :
    ExtL E' := by
  constructor
  · intro k e' hk
    obtain ⟨-, e, he, -⟩ := removeLeaf_entry hE hk
    exact hx.keysWf k e he
  · intro k e' fs' hk hf
    obtain ⟨-, e, he, -, -, -, -, hcase⟩ := removeLeaf_entry hE hk
    rcases hcase with ⟨_, rfl⟩ | ⟨_, h2⟩
    · exact hx.sorted k e' fs' he hf
    · rw [hf] at h2
      cases hfe : e.files with
      | none => rw [hfe] at h2; cases h2
      | some fs => rw [hfe] at h2; cases h2; exact (hx.sorted k e fs he hfe).filter _
  · intro k e' hk
    obtain ⟨-, e, he, -, h2, -, h4, -⟩ := removeLeaf_entry hE hk
    rw [h2, h4]; exact hx.flags k e he

/-- `hfiles`: `remove_all` always erases the data at `p`, `remove` only when the entry is a file -/
theorem good_erased {b : Prop} {s : State} {p : FsPath} {e pe : Entry} (h : Good b s) (hp : p ≠ [])
    (he : EL s p = some e) (hleaf : e.files = none ∨ e.files = some []) (hpe : EL s p.dropLast = some pe)
    (files' : List (FsPath × Bytes)) (hfiles : files' = alErase p s.files ∨ (files' = s.files ∧ FL s p = none)) :
    Good b { s with entries := alErase p (alInsert p.dropLast (dropName (baseName p) pe) s.entries),
                    files := files' } := by
  obtain ⟨⟨hnd, hnf, hr, hI⟩, hX⟩ := h
  have hnd' : (keys (alInsert p.dropLast (dropName (baseName p) pe) s.entries)).Nodup := nodup_alInsert hnd
  have hleaf' : ∀ x, EL s p = some x → x.files = none ∨ x.files = some [] := by
    intro x hx; rw [he] at hx; cases hx; exact hleaf
  have hE : ∀ k, alLookup k (alErase p (alInsert p.dropLast (dropName (baseName p) pe) s.entries)) =
      if k = p then none else if k = p.dropLast then (EL s k).map (dropName (baseName p)) else EL s k := by
    intro k
    rw [alLookup_alErase hnd', alLookup_alInsert]
    by_cases hk : k = p
    · rw [if_pos hk.symm, if_pos hk]
    · rw [if_neg (Ne.symm hk), if_neg hk]
      by_cases hd : k = p.dropLast
      · rw [if_pos hd.symm, if_pos hd, hd, hpe]; rfl
      · rw [if_neg (Ne.symm hd), if_neg hd]; rfl
  have hF : ∀ k, alLookup k files' = if k = p then none else FL s k := by
    intro k
    rcases hfiles with h1 | ⟨h1, h2⟩ <;> rw [h1]
    · rw [alLookup_alErase hnf]
      by_cases hk : k = p
      · rw [if_pos hk.symm, if_pos hk]
      · rw [if_neg (Ne.symm hk), if_neg hk]; rfl
    · by_cases hk : k = p
      · rw [if_pos hk, hk]; exact h2
      · rw [if_neg hk]; rfl
  refine ⟨⟨nodup_alErase hnd', ?_, hr, invL_removeLeaf hI hp hleaf' hE hF⟩,
    fun hb => ⟨extL_removeLeaf (hX hb).1 hE, (hX hb).2⟩⟩
  rcases hfiles with h1 | ⟨h1, _⟩ <;> rw [h1]
  · exact nodup_alErase hnf
  · exact hnf

/-- what `remove` does once its checks have passed -/
def removeTail (p : FsPath) : M Unit := do
  let d ← dirOf p
  match (← getEntry d) with
  | some pe =>
    let pe' ← liftO (pe.removeChild (baseName p))
    setEntry d pe'
  | none => M.pure ()
  match (← getEntry p) with
  | some e => if e.file then do let _ ← removeFile p
  | none => M.pure ()
  let _ ← removeEntry p
  return ()

theorem good_removeTail {b : Prop} {p : FsPath} {s : State} {e : Entry} (h : Good b s)
    (he : alLookup p s.entries = some e) (hleaf : e.files = none ∨ e.files = some []) :
    Good b (removeTail p s).2 := by
  unfold removeTail
  simp only [bind_apply, dirOf_apply]
  by_cases hp : p = []
  · simp only [hp, if_true]; exact h
  · obtain ⟨pe, _, h1, h2, -⟩ := h.1.2.2.2.parent p e he hp
    have h1' : alLookup p.dropLast s.entries = some pe := h1
    simp only [hp, if_false, getEntry_apply, h1', bind_apply, liftO_apply, removeChild_dir h2, setEntry_apply,
      alLookup_alInsert, dropLast_ne_self hp, he]
    by_cases hf : e.file = true
    · simp only [hf, if_true, bind_apply, removeFile_apply, removeEntry_apply, pure_apply]
      exact good_erased h hp he hleaf h1 _ (Or.inl rfl)
    · simp only [hf, Bool.false_eq_true, if_false, bind_apply, pure_apply, removeEntry_apply]
      refine good_erased h hp he hleaf h1 _ (Or.inr ⟨rfl, ?_⟩)
      -- no data without the file flag
      cases hy : FL s p with
      | none => rfl
      | some _ => exact absurd ((h.1.2.2.2.data p e he).2 (by rw [hy]; rfl)).1 hf

theorem good_removeM {b : Prop} (env : Env) (path : Str) (s : State) (h : Good b s) : Good b (removeM env path s).2 := by
  unfold removeM
  refine (InvA.Pres.bind (InvA.Pres.absM env path) (fun p => ⟨fun s h => ?_⟩)).run s h
  simp only [bind_apply, getEntry_apply]
  cases hx : alLookup p s.entries with
  | none =>
    simp only [bind_apply, mpure_apply, getEntry_apply, hx, Option.isNone_none, if_true]
    exact h
  | some e =>
    dsimp only
    cases hf : e.files with
    | none =>
      simp only [bind_apply, mpure_apply, getEntry_apply, hx, Option.isNone_some, Bool.false_eq_true, if_false]
      exact good_removeTail h hx (Or.inl hf)
    | some fs =>
      cases fs with
      | nil =>
        simp only [List.isEmpty_nil, Bool.not_true, Bool.false_eq_true, if_false, bind_apply, mpure_apply,
          getEntry_apply, hx, Option.isNone_some]
        exact good_removeTail h hx (Or.inr hf)
      | cons n ns =>
        simp only [List.isEmpty_cons, Bool.not_false, if_true, bind_apply, fail_apply]
        exact h

theorem good_removeAllLoop {b : Prop} (f : Nat) : ∀ (W : List FsPath) (s : State), Good b s → Good b (removeAllLoop f W s).2 := by
  induction f with
  | zero => intro W s h; exact h
  | succ f ih =>
    intro W s h
    cases W with
    | nil => exact h
    | cons p work =>
      rw [removeAllLoop]
      simp only [bind_apply, getEntry_apply]
      cases hx : alLookup p s.entries with
      | none => exact ih _ _ h
      | some e =>
        dsimp only
        have hleaf_case : (e.files = none ∨ e.files = some []) →
            Good b ((do
              let d ← dirOf p
              match (← getEntry d) with
              | some pe =>
                let pe' ← liftO (pe.removeChild (baseName p))
                setEntry d pe'
              | none => M.pure ()
              let _ ← removeFile p
              let _ ← removeEntry p
              removeAllLoop f work : M Unit) s).2 := by
          intro hl
          simp only [bind_apply, dirOf_apply]
          by_cases hp : p = []
          · simp only [hp, if_true]; exact h
          · obtain ⟨pe, _, h1, h2, -⟩ := h.1.2.2.2.parent p e hx hp
            have h1' : alLookup p.dropLast s.entries = some pe := h1
            simp only [hp, if_false, getEntry_apply, h1', bind_apply, liftO_apply, removeChild_dir h2,
              setEntry_apply, removeFile_apply, removeEntry_apply]
            exact ih _ _ (good_erased h hp hx hl h1 _ (Or.inl rfl))
        cases hf : e.files with
        | none => exact hleaf_case (Or.inl hf)
        | some fs =>
          cases fs with
          | nil => exact hleaf_case (Or.inr hf)
          | cons n ns => exact ih _ _ h

theorem good_removeAllM {b : Prop} (env : Env) (path : Str) (s : State) (h : Good b s) : Good b (removeAllM env path s).2 := by
  unfold removeAllM
  exact (InvA.Pres.bind (InvA.Pres.absM env path) (fun p => InvA.Pres.bind InvA.Pres.get
    (fun _ => ⟨fun s h => good_removeAllLoop _ _ s h⟩))).run s h

/-! ### `add`, `symlink` -/

/-- `MemfsEntry::add(name)` only touches the child list -/
theorem addChild_flags {d d' : Entry} {n : Str} {b : Bool} (h : d.addChild n = .ok (b, d')) :
    d'.file = d.file ∧ d'.dir = d.dir := by
  unfold Entry.addChild at h
  split at h
  · cases h
  · split at h <;> (cases h; exact ⟨rfl, rfl⟩)

/-- `_add` of a childless entry: the invariant by group A's lemma, the three extras entry by entry -/
theorem good_add {b : Prop} (e : Entry) (s : State) (h : Good b s)
    (hfl : e.files = if e.dir = true then some [] else none)
    (hwf : b → ∀ n ∈ e.path, BodyPiece n) (hfd : ¬ (e.file = true ∧ e.dir = true)) : Good b (add e s).2 := by
  have hP : InvP (add e s).2 := (invP_iff_A _).2 ((InvA.Pres.add e hfl).run s ((invP_iff_A s).1 h.1))
  refine ⟨hP, fun hb => (extS_iff hP.1).2 ?_⟩
  obtain ⟨hk, hs, hf⟩ := (extS_iff h.1.1).1 (h.2 hb)
  refine ⟨(InvA.KeysWf.add e (hwf hb)).run s hk, (InvA.SortedKids.add e ?_).run s hs, ?_⟩
  · intro fs hfs
    rw [hfl] at hfs
    split at hfs <;> cases hfs
    exact List.Pairwise.nil
  · exact (InvA.add_allE (P := fun _ x => ¬ (x.file = true ∧ x.dir = true)) e hf hfd
      (fun d _ d' hm hadd => by rw [(addChild_flags hadd).1, (addChild_flags hadd).2]; exact hf _ hm)).1

theorem good_symlinkM {b : Prop} (env : Env) (link target : Str) (s : State) (h : Good b s) :
    Good b (symlinkM env link target s).2 := by
  unfold symlinkM
  -- only `_add` touches the state; the key it gets comes from `_abs`
  refine InvA.absM_bind_run (Q := fun l => b → ∀ n ∈ l, BodyPiece n) h
    (fun l s' ho hb => absM_wf ho (h.2 hb).2) (fun l hl => ?_)
  refine InvA.Pres.bind (InvA.Pres.getEntry l) (fun x => ?_)
  split
  · exact InvA.Pres.fail _
  · extract_lets tail
    have htail : ∀ tstr, InvA.Pres (Good b) (tail tstr) := by
      intro tstr
      refine InvA.Pres.bind (InvA.Pres.absM env tstr) (fun t => ?_)
      refine InvA.Pres.bind (InvA.Pres.dirOf l) (fun ldir => ?_)
      refine InvA.Pres.bind (InvA.Pres.getEntry t) (fun y => ?_)
      refine InvA.Pres.bind ⟨fun s hs => good_add _ s hs rfl hl ?_⟩ (fun _ => InvA.Pres.pure _)
      cases (match y with | some x => x.dir | none => false) <;> simp
    split
    · exact InvA.Pres.bind (InvA.Pres.pure' _) htail
    · exact InvA.Pres.bind (InvA.Pres.dirOf l) (fun _ => InvA.Pres.bind (InvA.Pres.pure' _) htail)

end Rivia.Lemmas.InvB
