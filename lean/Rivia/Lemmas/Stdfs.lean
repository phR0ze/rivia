/-
  Rivia.Lemmas.Stdfs — C02: the Stdfs model (`Rivia.Model.Stdfs` over the syscalls of
  `Rivia.Model.Posix`) refines the reference tree filesystem on well-formed trees.  Here: the domain, the
  simulation relation `Sim`, what the syscalls do on a well-formed tree (`lstat` = lookup, `stat` = lookup
  through one link) and resolution (`absK` = `Spec.resolve`); the files above this one hold one simulation
  lemma per covered operation.
-/
import Rivia.Model.Stdfs
import Rivia.Spec.MemfsJudge
import Rivia.Lemmas.Abs
import Rivia.Lemmas.RefineA
import Rivia.Lemmas.MemfsBase

namespace Rivia.Lemmas.StdfsL
open Rivia Rivia.Memfs Rivia.File Rivia.Spec Rivia.Spec.TreeFs Rivia.Posix Rivia.Stdfs
open Rivia.Lemmas.RefineA (TEquiv)

theorem strLt_asymm : ∀ (a b : Str), strLt a b = true → strLt b a = false := Lemmas.strLt_asymm

/-! ## domains -/

/-- tree well-formedness: distinct keys, `/` is a directory, the parent of every other key is a directory -/
def wfB (t : T) : Bool :=
  decide (t.nodes.map (·.1)).Nodup && isDir t [] &&
    t.nodes.all (fun kv => decide (kv.1 = []) || isDir t kv.1.dropLast)

def Wf (t : T) : Prop := wfB t = true
instance (t : T) : Decidable (Wf t) := by unfold Wf; infer_instance

def isLinkKind : Kind → Bool
  | .link _ => true
  | _ => false

/-- every link has a target that exists and is not a link; its recorded flag says whether that
    target is a directory; nothing but links has a target -/
def linksOkB (t : T) : Bool :=
  t.nodes.all (fun kv =>
    match kv.2.kind with
    | .link b =>
      (match kv.2.target with
       | some tg => (match get t tg with
          | some m => !isLinkKind m.kind && decide (b = decide (m.kind = .dir))
          | none => false)
       | none => false)
    | _ => true)

def LinksOk (t : T) : Prop := linksOkB t = true
instance (t : T) : Decidable (LinksOk t) := by unfold LinksOk; infer_instance

/-- the text of every link leads `StdfsEntry::from` back to the target key
    (`abs(dir(link).mash(text))` = the target) -/
def linkTextOkB (env : Env) (t : T) : Bool :=
  t.nodes.all (fun kv =>
    match kv.2.kind, kv.2.target with
    | .link _, some tg =>
      let text := linkText kv.1 tg
      let tstr := if isAbsolute text then text else mash (renderP kv.1.dropLast) text
      (match absK env t tstr with
       | .ok a => decide (a = tg)
       | _ => false)
    | _, _ => true)

/-- no proper ancestor of the key is a link -/
def noLinkAncestor (t : T) (a : FsPath) : Bool :=
  ((prefixes a).dropLast).all (fun q => !isLink t q)

/-- a path argument, resolved lexically, does not pass through a link -/
def argOk (env : Env) (t : T) (p : Str) : Bool :=
  match resolve env t p with
  | .ok a => noLinkAncestor t a
  | _ => true

/-- the path arguments of an operation -/
def opArgs : Op → List Str
  | .mkfile p | .mkfileM p _ | .mkdirP p | .mkdirM p _ | .writeAll p _ | .appendAll p _
  | .writeLines p _ | .appendLines p _ | .appendLine p _ | .readAll p | .readLines p | .read p
  | .remove p | .removeAll p | .readlink p | .readlinkAbs p | .setCwd p | .abs p
  | .exists p | .isFile p | .isDir p | .isSymlink p | .isSymlinkDir p | .isSymlinkFile p
  | .isExec p | .isReadonly p | .mode p | .uid p | .gid p | .owner p | .entry p
  | .paths p | .dirs p | .files p | .allPaths p | .allDirs p | .allFiles p
  | .chmod p _ | .chmodB p _ | .chown p _ _ | .chownB p _ | .entries p _
  | .hWrite _ p | .hAppend _ p => [p]
  | .symlink l _ => [l]
  | .copy a b | .copyB a b _ | .moveP a b => [a, b]
  | .cwd | .root | .hPut _ _ | .hFlush _ | .hDrop _ => []

/-- the destination `move_p` computes, on keys -/
def moveDst (t : T) (sa da : FsPath) : FsPath := if isDir t da then da ++ [baseName sa] else da

/-- the part of the domain of `move_p` that concerns one (source, destination) pair:
    * the string computation `dst_root.mash(src.base())` yields the key `da ++ [base sa]`;
    * no link is moved (a moved relative link is re-resolved by the kernel: finding S8);
    * the process cwd is not inside the moved subtree (the kernel's cwd moves along: finding S14);
    * the destination is not a link (`rename` replaces it, the reference refuses: finding S13) -/
def moveOkB (t : T) (sa da : FsPath) : Bool :=
  decide (isDir t da = true → toPath (mash (renderP da) (baseName sa)) = da ++ [baseName sa]) &&
  t.nodes.all (fun kv => !(isPrefixOrEq sa kv.1) || !isLinkKind kv.2.kind) &&
  !(isPrefixOrEq sa t.cwd) &&
  !(isLink t (moveDst t sa da))

/-- every key of the tree, rendered, is resolved by `abs` to itself (`DirEntry::path()` goes through
    `Stdfs::abs` again: a name containing `~` or `$` would be re-expanded) -/
def keysRT (env : Env) (t : T) : Bool :=
  t.nodes.all (fun kv => decide (resolve env t (renderP kv.1) = .ok kv.1))

/-- the domain of a listing: keys round-trip through `abs`.  (No clause about links is needed: since the
    repair of finding S7 the collecting loop of `dirs`/`files`/`all_dirs`/`all_files` skips link entries.) -/
def listOkB (env : Env) (t : T) : Bool := keysRT env t

/-- the keys the walk from `a` visits: `a` itself and, when recursing into a real directory, everything below -/
def vis (t : T) (rc : Bool) (a k : FsPath) : Bool := k == a || (rc && isDir t a && isProperPrefix a k)

/-- the domain of `chown` on one argument: `abs` is idempotent on the resolved path, keys round-trip,
    and no visited node is a link (`chown(2)` follows links: finding S16) -/
def chownOkB (env : Env) (t : T) (p : Str) (rc : Bool) : Bool :=
  keysRT env t &&
  (match resolve env t p with
   | .ok a =>
     decide (resolve env t (renderP a) = .ok a) &&
     t.nodes.all (fun kv => !(vis t rc a kv.1) || !isLinkKind kv.2.kind)
   | _ => true)

/-- the domain of an octal `chmod` on one argument: keys round-trip and `abs` is idempotent on the
    resolved path (links may be anywhere: they are skipped by both sides) -/
def chmodOkB (env : Env) (t : T) (p : Str) : Bool :=
  keysRT env t &&
  (match resolve env t p with
   | .ok a => decide (resolve env t (renderP a) = .ok a)
   | _ => true)

/-- the resolved argument is not a link -/
def notLinkArg (env : Env) (t : T) (p : Str) : Bool :=
  match resolve env t p with
  | .ok a => !isLink t a
  | _ => true

/-- operation-specific part of the domain (each clause excludes a documented finding; the clauses for
    S1–S5 are gone with the repairs 0b4a978, 07b9520, fb609ee, 65f3327, 1506af7) -/
def opOk (env : Env) (t : T) : Op → Bool
  -- S6: `is_exec` / `is_readonly` / `uid` / `gid` / `owner` go through `fs::metadata`, which follows links
  | .isExec p | .isReadonly p | .uid p | .gid p | .owner p => notLinkArg env t p
  -- S12 (shared with Memfs, class `empty_lines_noop`): an empty text is not written at all
  | .writeLines _ ls | .appendLines _ ls => (joinLines ls).isSome
  | .appendLine _ l => decide (l ≠ [])
  -- S11 (shared with Memfs, class `chmod_zero`): mode 0 is read as "not given"; symbolic modes: OPEN
  | .chmod p m => decide (m ≠ 0) && chmodOkB env t p
  | .chmodB p c => decide (c.sym = []) && chmodOkB env t p
  -- S16: `chown(2)` follows links
  | .chown p _ _ => chownOkB env t p true
  | .chownB p c => chownOkB env t p c.recursive
  -- listings: only `keysRT` (S7, listings of links, and S15 are repaired)
  | .paths _ | .dirs _ | .files _ | .allPaths _ | .allDirs _ | .allFiles _ => listOkB env t
  -- S8, S13, S14: `move_p` of links, onto links, of the directory the process is in
  | .moveP a b => (match resolve env t a, resolve env t b with
      | .ok sa, .ok da => moveOkB t sa da
      | _, _ => true)
  | _ => true

/-- the domain of the per-step theorem -/
def d2B (env : Env) (t : T) (op : Op) : Bool :=
  linksOkB t && linkTextOkB env t && isDir t t.cwd && (opArgs op).all (argOk env t) && opOk env t op

def D2 (env : Env) (t : T) (op : Op) : Prop := d2B env t op = true
instance (env : Env) (t : T) (op : Op) : Decidable (D2 env t op) := by unfold D2; infer_instance

/-- ok-vs-err agreement; on ok the value -/
def ResMatchOkErr : Outcome Val → R Val → Prop
  | _, .unspecified => True
  | .ok v, .ok w => v = w
  | .err _, .err _ => True
  | _, _ => False

@[simp] theorem rmoe_unspec (o : Outcome Val) : ResMatchOkErr o .unspecified := by
  cases o <;> simp [ResMatchOkErr]
@[simp] theorem rmoe_ok (v w : Val) : ResMatchOkErr (.ok v) (.ok w) ↔ v = w := by simp [ResMatchOkErr]
@[simp] theorem rmoe_err (k : ErrKind) (k' : Option ErrKind) : ResMatchOkErr (.err k) (.err k') := by
  simp [ResMatchOkErr]

/-- one step of the Stdfs model simulates one step of the reference -/
def Sim (m : Outcome Val × T) (x : SR) : Prop :=
  ResMatchOkErr m.1 x.1 ∧ (x.1 ≠ .unspecified → TEquiv m.2 x.2)

theorem sim_unspec (m : Outcome Val × T) (t : T) : Sim m (.unspecified, t) :=
  ⟨rmoe_unspec _, fun h => absurd rfl h⟩

theorem sim_err {t t' : T} (k : ErrKind) (k' : Option ErrKind) (h : TEquiv t t') :
    Sim (.err k, t) (.err k', t') := ⟨rmoe_err _ _, fun _ => h⟩

theorem sim_ok {t t' : T} (v : Val) (h : TEquiv t t') : Sim (.ok v, t) (.ok v, t') :=
  ⟨rfl, fun _ => h⟩

/-! ## the syscalls on a well-formed tree -/

theorem isDir_iff {t : T} {k : FsPath} : isDir t k = true ↔ ∃ n, get t k = some n ∧ n.kind = .dir := by
  unfold isDir
  cases get t k with
  | none => simp
  | some n => simp

theorem isDir_of_get {t : T} {k : FsPath} {n : Node} (h : get t k = some n) (hk : n.kind = .dir) :
    isDir t k = true := isDir_iff.2 ⟨n, h, hk⟩

theorem isDir_false_of_kind {t : T} {a : FsPath} {n : Node} (hg : get t a = some n) (hk : n.kind ≠ .dir) :
    isDir t a = false := by
  unfold isDir; rw [hg]; exact decide_eq_false hk

theorem isSome_of_isDir {t : T} {k : FsPath} (h : isDir t k = true) : (get t k).isSome = true := by
  obtain ⟨n, hn, _⟩ := isDir_iff.1 h
  rw [hn]; rfl

theorem isLink_of_get {t : T} {k : FsPath} {n : Node} (hg : get t k = some n) :
    isLink t k = isLinkKind n.kind := by
  unfold isLink; rw [hg]; dsimp only; cases n.kind <;> rfl

theorem isLinkKind_dir {n : Node} (hk : n.kind = .dir) : isLinkKind n.kind = false := by rw [hk]; rfl
theorem isLinkKind_file {n : Node} (hk : n.kind = .file) : isLinkKind n.kind = false := by rw [hk]; rfl

theorem kind_of_not_link {n : Node} (h : isLinkKind n.kind = false) : n.kind = .dir ∨ n.kind = .file := by
  cases hk : n.kind with
  | link b => rw [hk] at h; cases h
  | dir => exact Or.inl rfl
  | file => exact Or.inr rfl

structure WfFacts (t : T) : Prop where
  nodup : (t.nodes.map (·.1)).Nodup
  root : isDir t [] = true
  parent : ∀ k n, get t k = some n → k ≠ [] → isDir t k.dropLast = true

theorem wf_facts {t : T} (h : Wf t) : WfFacts t := by
  unfold Wf wfB at h
  simp only [Bool.and_eq_true, decide_eq_true_eq, List.all_eq_true, Bool.or_eq_true] at h
  obtain ⟨⟨h1, h2⟩, h3⟩ := h
  refine ⟨h1, h2, fun k n hk hne => ?_⟩
  rcases h3 _ (alLookup_mem hk) with h4 | h4
  · exact absurd h4 hne
  · exact h4

/-- the state hypotheses shared by every simulation lemma -/
structure Ctx (env : Env) (t : T) : Prop where
  wf : WfFacts t
  links : LinksOk t
  text : linkTextOkB env t = true
  cwd : isDir t t.cwd = true

theorem isDir_take {t : T} (h : WfFacts t) {q : FsPath} (hd : isDir t q = true) (i : Nat) :
    isDir t (q.take i) = true := by
  induction hn : q.length generalizing q with
  | zero => rw [List.eq_nil_of_length_eq_zero hn] at hd ⊢; simpa using hd
  | succ n ih =>
    by_cases hi : q.length ≤ i
    · rw [List.take_of_length_le hi]; exact hd
    · have hne : q ≠ [] := by intro h0; subst h0; simp at hn
      obtain ⟨nd, hg, _⟩ := isDir_iff.1 hd
      have := ih (h.parent q nd hg hne) (by simp [hn])
      rwa [List.dropLast_eq_take, List.take_take, Nat.min_eq_left (by omega)] at this

theorem ancestor_isDir {t : T} (h : WfFacts t) {a q : FsPath} {n : Node} (hq : get t q = some n)
    (hp : isProperPrefix a q = true) : isDir t a = true := by
  unfold isProperPrefix at hp
  simp only [Bool.and_eq_true, decide_eq_true_eq, beq_iff_eq] at hp
  have hne : q ≠ [] := by intro h0; subst h0; simp at hp
  have := isDir_take h (h.parent q n hq hne) a.length
  rwa [List.dropLast_eq_take, List.take_take, Nat.min_eq_left (by omega), hp.2] at this

theorem get_child_none {t : T} (h : WfFacts t) {q : FsPath} (hq : get t q = none) (x : Str) :
    get t (q ++ [x]) = none := by
  cases hg : get t (q ++ [x]) with
  | none => rfl
  | some nd =>
    have := isSome_of_isDir (h.parent _ nd hg (by simp))
    rw [List.dropLast_concat, hq] at this
    cases this

theorem get_below_none {t : T} (h : WfFacts t) {a q : FsPath} (hd : isDir t a = false)
    (hp : isProperPrefix a q = true) : get t q = none := by
  cases hg : get t q with
  | none => rfl
  | some n => rw [ancestor_isDir h hg hp] at hd; cases hd

theorem walkFrom_append (t : T) (r1 r2 : List Str) (cur : FsPath) :
    walkFrom t cur (r1 ++ r2) =
      match walkFrom t cur r1 with
      | some e => some e
      | none => walkFrom t (cur ++ r1) r2 := by
  induction r1 generalizing cur with
  | nil => simp [walkFrom]
  | cons n r ih =>
    simp only [List.cons_append, walkFrom]
    cases get t cur with
    | none => rfl
    | some nd =>
      by_cases hk : nd.kind = .dir
      · simp only [hk, if_true, ih]; simp
      · simp only [hk, if_false]

theorem walkErr_snoc (t : T) (d : FsPath) (x : Str) :
    walkErr t (d ++ [x]) =
      match walkErr t d with
      | some e => some e
      | none => match get t d with
        | none => some .ENOENT
        | some nd => if nd.kind = .dir then none else some .ENOTDIR := by
  unfold walkErr
  rw [walkFrom_append]
  simp only [List.nil_append, walkFrom]
  cases walkFrom t [] d with
  | some e => rfl
  | none => dsimp only; cases get t d <;> rfl

theorem walkErr_of_get {t : T} (h : WfFacts t) {k : FsPath} {n : Node} (hg : get t k = some n) :
    walkErr t k = none := by
  induction hn : k.length generalizing k n with
  | zero => rw [List.eq_nil_of_length_eq_zero hn]; rfl
  | succ m ih =>
    have hne : k ≠ [] := by intro h0; subst h0; simp at hn
    obtain ⟨nd, hgd, hk⟩ := isDir_iff.1 (h.parent k n hg hne)
    rw [← List.dropLast_concat_getLast hne, walkErr_snoc, ih hgd (by simp [hn]), hgd]
    exact if_pos hk

theorem walkErr_none_iff {t : T} (h : WfFacts t) (k : FsPath) :
    walkErr t k = none ↔ (k = [] ∨ isDir t k.dropLast = true) := by
  by_cases hne : k = []
  · subst hne; exact ⟨fun _ => Or.inl rfl, fun _ => rfl⟩
  · obtain ⟨d, x, rfl⟩ : ∃ d x, k = d ++ [x] := ⟨_, _, (List.dropLast_concat_getLast hne).symm⟩
    rw [walkErr_snoc, List.dropLast_concat]
    constructor
    · intro hw
      cases hwd : walkErr t d with
      | some e => rw [hwd] at hw; cases hw
      | none =>
        rw [hwd] at hw
        cases hgd : get t d with
        | none => rw [hgd] at hw; cases hw
        | some nd =>
          rw [hgd] at hw
          dsimp only at hw
          exact Or.inr (isDir_of_get hgd (Decidable.byContradiction fun hk => by rw [if_neg hk] at hw; cases hw))
    · rintro (h0 | hd)
      · exact absurd h0 hne
      · obtain ⟨nd, hgd, hk⟩ := isDir_iff.1 hd
        rw [walkErr_of_get h hgd, hgd]
        exact if_pos hk

theorem walkErr_of_dir {t : T} (h : WfFacts t) {k : FsPath} (hd : isDir t k.dropLast = true) :
    walkErr t k = none := (walkErr_none_iff h k).2 (Or.inr hd)

theorem walkErr_below {t : T} (h : WfFacts t) {b : FsPath} {nd : Node} (hb : get t b = some nd) (n : Str)
    (rest : List Str) :
    walkErr t (b ++ n :: rest) = if nd.kind = .dir then walkFrom t (b ++ [n]) rest else some .ENOTDIR := by
  have hw := walkErr_of_get h hb
  unfold walkErr at hw ⊢
  rw [walkFrom_append, hw]
  simp only [List.nil_append, walkFrom, hb]

theorem lstat_eq {t : T} (h : WfFacts t) (k : FsPath) :
    lstat t k = match get t k with
      | some n => .ok n
      | none => .error ((walkErr t k).getD .ENOENT) := by
  unfold lstat
  cases hg : get t k with
  | some n => rw [walkErr_of_get h hg]
  | none => cases walkErr t k <;> rfl

theorem lstat_of_get {t : T} (h : WfFacts t) {k : FsPath} {n : Node} (hg : get t k = some n) :
    lstat t k = .ok n := by
  rw [lstat_eq h, hg]

theorem lstat_of_none {t : T} {k : FsPath} (hg : get t k = none) : ∃ e, lstat t k = .error e := by
  unfold lstat
  cases walkErr t k with
  | some e => exact ⟨e, rfl⟩
  | none => exact ⟨.ENOENT, by simp [hg]⟩

theorem lstat_ok_iff {t : T} (h : WfFacts t) {k : FsPath} {n : Node} :
    lstat t k = .ok n ↔ get t k = some n := by
  rw [lstat_eq h]
  cases get t k <;> simp

theorem isDirK_eq {t : T} (h : WfFacts t) (k : FsPath) : isDirK t k = isDir t k := by
  unfold isDirK isDir
  rw [lstat_eq h]
  cases get t k <;> rfl

theorem isFileK_eq {t : T} (h : WfFacts t) (k : FsPath) : isFileK t k = isFile t k := by
  unfold isFileK isFile
  rw [lstat_eq h]
  cases get t k <;> rfl

theorem linksOk_lookup {t : T} (h : LinksOk t) {k : FsPath} {n : Node} {b : Bool}
    (hg : get t k = some n) (hk : n.kind = .link b) :
    ∃ tg m, n.target = some tg ∧ get t tg = some m ∧ isLinkKind m.kind = false ∧
      b = decide (m.kind = .dir) := by
  unfold LinksOk linksOkB at h
  rw [List.all_eq_true] at h
  have := h _ (alLookup_mem hg)
  simp only [hk] at this
  cases ht : n.target with
  | none => simp [ht] at this
  | some tg =>
    simp only [ht] at this
    cases hm : get t tg with
    | none => simp [hm] at this
    | some m =>
      simp only [hm, Bool.and_eq_true, Bool.not_eq_true', decide_eq_true_eq] at this
      exact ⟨tg, m, rfl, hm, this.1, this.2⟩

theorem followFinal_nonlink {t : T} (h : WfFacts t) {k : FsPath} {n : Node} (hg : get t k = some n)
    (hk : isLinkKind n.kind = false) (f : Nat) : followFinal t (f + 1) k = .ok k := by
  simp only [followFinal, walkErr_of_get h hg, hg]
  cases hkk : n.kind with
  | link b => rw [hkk] at hk; cases hk
  | dir => rfl
  | file => rfl

theorem followFinal_link {t : T} (h : WfFacts t) {k tg : FsPath} {n m : Node} {b : Bool}
    (hg : get t k = some n) (hk : n.kind = .link b) (ht : n.target = some tg)
    (hm : get t tg = some m) (hnl : isLinkKind m.kind = false) (f : Nat) :
    followFinal t (f + 2) k = .ok tg := by
  rw [followFinal]
  simp only [walkErr_of_get h hg, hg, hk, ht]
  exact followFinal_nonlink h hm hnl f

theorem followFinal_missing {t : T} {k : FsPath} (hg : get t k = none) (f : Nat) :
    followFinal t (f + 1) k = match walkErr t k with
      | some e => .error e
      | none => .ok k := by
  simp only [followFinal, hg]
  cases walkErr t k <;> rfl

theorem stat_nonlink {t : T} (h : WfFacts t) {k : FsPath} {n : Node} (hg : get t k = some n)
    (hk : isLinkKind n.kind = false) : stat t k = .ok n := by
  unfold stat linkFuel
  rw [followFinal_nonlink h hg hk]
  simp only [hg]

theorem stat_link {t : T} (h : WfFacts t) {k tg : FsPath} {n m : Node} {b : Bool}
    (hg : get t k = some n) (hk : n.kind = .link b) (ht : n.target = some tg)
    (hm : get t tg = some m) (hnl : isLinkKind m.kind = false) : stat t k = .ok m := by
  unfold stat linkFuel
  rw [followFinal_link h hg hk ht hm hnl]
  simp only [hm]

theorem stat_missing {t : T} {k : FsPath} (hg : get t k = none) : ∃ e, stat t k = .error e := by
  unfold stat linkFuel
  rw [followFinal_missing hg]
  cases walkErr t k with
  | some e => exact ⟨e, rfl⟩
  | none => exact ⟨.ENOENT, by simp only [hg]⟩

theorem stat_eq_of_not_link {t : T} (h : WfFacts t) {k : FsPath} (hl : isLink t k = false) :
    ∃ e, stat t k = match get t k with
      | some n => .ok n
      | none => .error e := by
  cases hg : get t k with
  | none => exact stat_missing hg
  | some n => exact ⟨.ENOENT, stat_nonlink h hg (by rw [← isLink_of_get hg]; exact hl)⟩

theorem exists_eq_isSome {t : T} (h : WfFacts t) (hl : LinksOk t) (k : FsPath) :
    Posix.exists t k = (get t k).isSome := by
  unfold Posix.exists
  cases hg : get t k with
  | none => obtain ⟨e, he⟩ := stat_missing hg; rw [he]; rfl
  | some n =>
    cases hk : n.kind with
    | link b =>
      obtain ⟨tg, m, ht, hm, hnl, _⟩ := linksOk_lookup hl hg hk
      rw [stat_link h hg hk ht hm hnl]; rfl
    | dir => rw [stat_nonlink h hg (isLinkKind_dir hk)]; rfl
    | file => rw [stat_nonlink h hg (isLinkKind_file hk)]; rfl

/-- what `stat(k).is_dir()` says = what the reference records for a link to `k` -/
theorem statIsDir_eq {t : T} (h : WfFacts t) (hl : LinksOk t) (k : FsPath) :
    statIsDir t k = (match get t k with
      | some n => decide (n.kind = .dir) || decide (n.kind = .link true)
      | none => false) := by
  unfold statIsDir
  cases hg : get t k with
  | none => obtain ⟨e, he⟩ := stat_missing hg; rw [he]
  | some n =>
    cases hk : n.kind with
    | dir => rw [stat_nonlink h hg (isLinkKind_dir hk)]; dsimp only; rw [hk]; rfl
    | file => rw [stat_nonlink h hg (isLinkKind_file hk)]; dsimp only; rw [hk]; rfl
    | link b =>
      obtain ⟨tg, m, ht, hm, hnl, hb⟩ := linksOk_lookup hl hg hk
      rw [stat_link h hg hk ht hm hnl]; dsimp only; rw [hk, hb]
      cases decide (m.kind = Kind.dir) <;> rfl

theorem statIsDir_of_get {t : T} (h : WfFacts t) (hl : LinksOk t) {k : FsPath} {n : Node}
    (hg : get t k = some n) : statIsDir t k = (decide (n.kind = .dir) || decide (n.kind = .link true)) := by
  rw [statIsDir_eq h hl, hg]

/-! ## the monad, resolution -/

theorem SM_bind_apply {α β} (m : SM α) (f : α → SM β) (t : T) :
    (m >>= f) t = match m t with
      | (.ok a, t') => f a t'
      | (.err k, t') => (.err k, t')
      | (.panic, t') => (.panic, t')
      | (.hang, t') => (.hang, t') := rfl
theorem SM_pure_apply {α} (a : α) (t : T) : (Pure.pure a : SM α) t = (.ok a, t) := rfl

set_option hygiene false in
/-- unfold the monad plumbing of the Stdfs model (and rewrite with the given equations); without hygiene,
    and with the names in full, a call elaborates like the written-out `simp only` -/
macro "ssimp" "[" ls:Lean.Parser.Tactic.simpLemma,* "]" : tactic =>
  `(tactic| simp only [Rivia.Stdfs.mapVal, Rivia.Lemmas.StdfsL.SM_bind_apply, Rivia.Lemmas.StdfsL.SM_pure_apply,
  Rivia.Stdfs.SM.pure, Rivia.Stdfs.SM.fail, Rivia.Stdfs.SM.liftO, Rivia.Stdfs.SM.getT, Rivia.Stdfs.SM.qry,
  Rivia.Stdfs.SM.sysM, Rivia.Stdfs.absM, Rivia.Stdfs.dirOf, Rivia.Stdfs.io,
  Bool.not_true, Bool.not_false, Bool.false_eq_true, if_true, if_false, $ls,*])

theorem absP_eq {env : Env} {t : T} (hc : isDir t t.cwd = true) (p : Str) :
    absP env t p = absWith env (renderP t.cwd) p := by
  unfold absP
  rw [if_pos hc, Rivia.Lemmas.absStdWith_eq]

theorem absK_eq {env : Env} {t : T} (hc : isDir t t.cwd = true) (p : Str) :
    absK env t p = resolve env t p := by
  unfold absK resolve
  rw [absP_eq hc]
  cases absWith env (renderP t.cwd) p <;> rfl

theorem absK_congr {env : Env} (t t' : T) (hc : t'.cwd = t.cwd) (hd : isDir t' t'.cwd = isDir t t.cwd)
    (p : Str) : absK env t' p = absK env t p := by
  unfold absK absP
  rw [hd, hc]

theorem sim_withPath {α} {env : Env} {t : T} (hc : isDir t t.cwd = true) (p : Str) (v : α → Val)
    (m : FsPath → SM α) (k : FsPath → SR) (h : ∀ a, resolve env t p = .ok a → Sim (Stdfs.mapVal v (m a) t) (k a)) :
    Sim (Stdfs.mapVal v (Stdfs.absM env p >>= m) t) (withPath env t p k) := by
  unfold withPath Stdfs.mapVal
  simp only [SM_bind_apply, Stdfs.absM, absK_eq hc]
  cases hr : resolve env t p with
  | ok a => exact h a hr
  | err e => exact sim_err _ _ (TEquiv.refl _)
  | panic => exact sim_unspec _ _
  | hang => exact sim_unspec _ _

/-! ### TEquiv helpers -/

theorem get_put_self (t : T) (k : FsPath) (a : Node) : get (put t k a) k = some a :=
  alLookup_alInsert_self k a t.nodes

theorem put_put (t : T) (k : FsPath) (a b : Node) : put (put t k a) k b = put t k b := by
  simp only [put, alInsert_alInsert]

theorem tequiv_put_put (t : T) (k : FsPath) (a b : Node) : TEquiv (put (put t k a) k b) (put t k b) := by
  rw [put_put]; exact TEquiv.refl _

/-- the operations for which the refinement is proved -/
def CoveredS : Op → Bool
  | .cwd | .root | .abs _ | .exists _ | .isDir _ | .isFile _ | .isSymlink _ | .isSymlinkDir _
  | .isSymlinkFile _ | .isExec _ | .isReadonly _ | .mode _ | .uid _ | .gid _ | .owner _
  | .readAll _ | .read _ | .readlink _ | .readlinkAbs _
  | .setCwd _ | .mkfile _ | .writeAll _ _ | .appendAll _ _ | .remove _ | .removeAll _ | .symlink _ _
  | .writeLines _ _ | .appendLines _ _ | .appendLine _ _ | .readLines _ | .mkdirP _ | .mkdirM _ _ | .moveP _ _
  | .paths _ | .dirs _ | .files _ | .allPaths _ | .allDirs _ | .allFiles _
  | .chown _ _ _ | .chownB _ _ | .chmod _ _ | .chmodB _ _ => true
  | _ => false

end Rivia.Lemmas.StdfsL
