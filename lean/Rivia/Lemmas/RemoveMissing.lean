/-
  Rivia.Lemmas.RemoveMissing — `remove` of a path that does not exist, on both backend models
  (repair of finding `remove_below_file`, property C02).
-/
import Rivia.Lemmas.RefineB.Remove
import Rivia.Lemmas.RefineCList
import Rivia.Lemmas.StdfsMut

namespace Rivia.Lemmas.RemoveMissing
open Rivia Rivia.Memfs Rivia.Spec Rivia.Spec.TreeFs

/-! ### Memfs -/

/-- `Memfs::remove` of a resolved key that is not an entry: `Ok(())`, nothing is touched — whatever the
    parent of the key is (missing, a directory, a regular file, a link) -/
theorem removeM_absent {env : Env} {s : State} {p : Str} {k : FsPath}
    (ha : absM env p s = (.ok k, s)) (hk : alLookup k s.entries = none) :
    removeM env p s = (.ok (), s) := by
  rw [RefineB.removeM_eq]
  simp only [RefineB.bind_apply, ha]
  exact RefineB.removeK_absent hk

theorem step_remove_absent {env : Env} {s : State} {p : Str} {k : FsPath}
    (ha : absM env p s = (.ok k, s)) (hk : alLookup k s.entries = none) :
    step env s (.remove p) = (.ok .unit, s) := by
  show mapVal (fun _ => Val.unit) (removeM env p) s = _
  unfold mapVal
  rw [removeM_absent ha hk]

theorem absM_snd (env : Env) (p : Str) (s : State) : (absM env p s).2 = s := absM_state env p s

theorem absWith_of_absM {env : Env} {s : State} {p : Str} {k : FsPath} (ha : absM env p s = (.ok k, s)) :
    ∃ a, absWith env (renderP s.cwd) p = .ok a ∧ toPath a = k := by
  unfold absM at ha
  cases h : absWith env (renderP s.cwd) p with
  | ok a => rw [h] at ha; exact ⟨a, rfl, by cases ha; rfl⟩
  | err e => rw [h] at ha; cases ha
  | panic => rw [h] at ha; cases ha
  | hang => rw [h] at ha; cases ha

/-! ### Stdfs -/

open Rivia.Stdfs Rivia.Posix Rivia.Lemmas.StdfsL in
/-- `Stdfs::remove`: when `symlink_metadata` of the resolved path fails (ANY errno: `ENOENT` for a missing
    path, `ENOTDIR` for a path below a regular file or a link to one, …) the call is `Ok(())` and the
    tree is unchanged.  No well-formedness hypothesis. -/
theorem stdfs_remove_lstat_err {env : Env} {t : T} {p : Str} {k : FsPath} {e : Errno}
    (ha : absK env t p = .ok k) (he : lstat t k = .error e) :
    Stdfs.step env t (.remove p) = (.ok .unit, t) := by
  simp only [Stdfs.step, Stdfs.remove]
  ssimp [ha, he]

open Rivia.Stdfs Rivia.Posix Rivia.Lemmas.StdfsL in
theorem stdfs_remove_absent {env : Env} {t : T} {p : Str} {k : FsPath}
    (ha : absK env t p = .ok k) (hk : get t k = none) :
    Stdfs.step env t (.remove p) = (.ok .unit, t) := by
  obtain ⟨e, he⟩ := lstat_of_none hk
  exact stdfs_remove_lstat_err ha he

open Rivia.Stdfs Rivia.Lemmas.StdfsL in
theorem absK_absS {env : Env} {s : State} {p : Str} {k : FsPath}
    (ha : absM env p s = (.ok k, s)) (hc : isDirP s s.cwd = true) : absK env (absS s) p = .ok k := by
  obtain ⟨a, h1, h2⟩ := absWith_of_absM ha
  have hc' : isDir (absS s) (absS s).cwd = true := by
    rw [← RefineC.isDirP_eq_isDir]; exact hc
  unfold absK
  rw [absP_eq hc']
  show (match absWith env (renderP s.cwd) p with
    | .ok a => Outcome.ok (toPath a) | .err k => .err k | .panic => .panic | .hang => .hang) = _
  rw [h1]
  exact congrArg Outcome.ok h2

theorem get_absS_none {s : State} {k : FsPath} (hk : alLookup k s.entries = none) : get (absS s) k = none := by
  rw [RefineB.get_absS, hk]; rfl

end Rivia.Lemmas.RemoveMissing
