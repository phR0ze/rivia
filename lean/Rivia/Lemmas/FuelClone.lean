/-
  Rivia.Lemmas.FuelClone — the snapshot worklist (`_clone_entries`) never runs out of fuel with work
  left on a well-formed state: the model's `.ok acc` at fuel 0 is never a truncated snapshot.

  Potential: Φ(W, acc) = Σ over the worklist of the number of entries at/under that path
                        + (n+1) · #(entries not yet in the snapshot).
-/
import Rivia.Lemmas.FuelTrav

namespace Rivia.Lemmas
open Rivia Rivia.Memfs Rivia.Memfs.M Rivia.File

/-- one iteration of `cloneLoop` on an existing entry: new worklist and snapshot -/
def cloneNext (ents : Ents) (e : Entry) (work : List FsPath) (acc : Snap) : List FsPath × Snap :=
  let acc := alInsert e.path e acc
  let work := ((names e).map (fun n => e.path ++ [n])).reverse ++ work
  let work := match e.alt with
    | some a => if e.link ∧ (alLookup a ents).isSome ∧ (alLookup a acc).isNone then a :: work else work
    | none => work
  (work, acc)

theorem cloneLoop_succ (ents : Ents) (f : Nat) (p : FsPath) (work : List FsPath) (acc : Snap) :
    cloneLoop ents (f + 1) (p :: work) acc =
      match alLookup p ents with
      | none => .err .doesNotExist
      | some e => cloneLoop ents f (cloneNext ents e work acc).1 (cloneNext ents e work acc).2 := by
  rw [cloneLoop]
  cases alLookup p ents with
  | none => rfl
  | some e =>
    simp only [cloneNext, names]
    cases e.files <;> rfl

structure EntsOK (ents : Ents) : Prop where
  nodup : (ents.map (·.1)).Nodup
  path : ∀ k e, (k, e) ∈ ents → e.path = k
  namesNodup : ∀ k e, (k, e) ∈ ents → (names e).Nodup
  linkNoKids : ∀ k e, (k, e) ∈ ents → e.link = true → names e = []

theorem entsOK_of_inv {s : State} (hf : InvFacts s) : EntsOK s.entries := by
  refine ⟨hf.nodup, hf.pathField, hf.namesNodup, ?_⟩
  intro k e hke hl
  cases hn : names e with
  | nil => rfl
  | cons n ns =>
    exfalso
    have hmem : n ∈ names e := by rw [hn]; exact List.mem_cons_self
    have hkey := hf.listed k e hke n hmem
    obtain ⟨⟨k', e'⟩, hm', hk'⟩ := List.mem_map.1 hkey
    simp only at hk'
    subst hk'
    obtain ⟨pe, hpe, _, hlink, _⟩ := hf.parent (k ++ [n]) e' hm' (by simp)
    rw [List.dropLast_concat] at hpe
    have := alLookup_of_mem hf.nodup hke
    rw [this] at hpe
    cases hpe
    rw [hl] at hlink
    cases hlink

/-! ### potential -/

/-- number of entries that are not yet in the snapshot -/
def unseen (ents : Ents) (acc : Snap) : Nat :=
  (ents.map (fun kv => if (alLookup kv.1 acc).isNone then 1 else 0)).sum

def PhiC (ents : Ents) (W : List FsPath) (acc : Snap) : Nat :=
  (W.map (cnt ents)).sum + (ents.length + 1) * unseen ents acc

theorem unseen_le (ents : Ents) (acc : Snap) : unseen ents acc ≤ ents.length := by
  unfold unseen
  have := sum_map_le (fun kv : FsPath × Entry => if (alLookup kv.1 acc).isNone then 1 else 0)
    (fun _ => 1) ents (fun _ _ => by split <;> omega)
  rw [sum_map_const] at this
  omega

theorem unseen_insert_le (ents : Ents) (acc : Snap) (p : FsPath) (e : Entry) :
    unseen ents (alInsert p e acc) ≤ unseen ents acc := by
  unfold unseen
  apply sum_map_le
  intro kv _
  rw [alLookup_alInsert]
  split
  · simp
  · exact Nat.le_refl _

theorem unseen_insert_lt {ents : Ents} {acc : Snap} {p : FsPath} {e e' : Entry}
    (hm : (p, e') ∈ ents) (hnew : (alLookup p acc).isNone = true) :
    unseen ents (alInsert p e acc) < unseen ents acc := by
  unfold unseen
  apply sum_map_lt _ _ _ _ hm
  · simp only [alLookup_alInsert, if_true, hnew]
    simp
  · intro kv _
    rw [alLookup_alInsert]
    split
    · simp
    · exact Nat.le_refl _

/-! ### invariant -/

/-- every link already in the snapshot has its (existing) target in the snapshot or on top of the
    worklist -/
def CI (ents : Ents) (W : List FsPath) (acc : Snap) : Prop :=
  ∀ l e a, (alLookup l acc).isSome = true → alLookup l ents = some e → e.link = true →
    e.alt = some a → (alLookup a ents).isSome = true →
    (alLookup a acc).isSome = true ∨ W.head? = some a

theorem not_isNone_of_isSome {α} {o : Option α} (h : o.isSome = true) : ¬ o.isNone = true := by
  cases o with
  | none => cases h
  | some _ => exact Bool.false_ne_true

theorem cnt_le_length (ents : Ents) (x : FsPath) : cnt ents x ≤ ents.length :=
  List.countP_le_length

theorem cnt_pos {ents : Ents} {p : FsPath} {e : Entry} (h : (p, e) ∈ ents) : 0 < cnt ents p :=
  List.countP_pos_iff.2 ⟨(p, e), h, by simp⟩

theorem clone_step {ents : Ents} (ok : EntsOK ents) {p : FsPath} {W : List FsPath} {acc : Snap}
    {e : Entry} (ci : CI ents (p :: W) acc) (hp : alLookup p ents = some e) :
    CI ents (cloneNext ents e W acc).1 (cloneNext ents e W acc).2 ∧
    PhiC ents (cloneNext ents e W acc).1 (cloneNext ents e W acc).2 < PhiC ents (p :: W) acc := by
  have hm := alLookup_mem hp
  have hpath : e.path = p := ok.path p e hm
  -- old snapshot members other than `p` keep their guarantee
  have hold : ∀ l e' a, l ≠ p → (alLookup l (alInsert p e acc)).isSome = true →
      alLookup l ents = some e' → e'.link = true → e'.alt = some a → (alLookup a ents).isSome = true →
      (alLookup a (alInsert p e acc)).isSome = true := by
    intro l e' a hne hl he' hlk halt ha
    rcases (isSome_alInsert l p e acc).1 hl with h | h
    · exact absurd h.symm hne
    · rcases ci l e' a h he' hlk halt ha with h2 | h2
      · exact (isSome_alInsert a p e acc).2 (.inr h2)
      · simp only [List.head?_cons, Option.some.injEq] at h2
        exact (isSome_alInsert a p e acc).2 (.inl h2)
  have hun := unseen_insert_le ents acc p e
  have hcp := cnt_pos hm
  unfold cloneNext
  simp only [hpath]
  by_cases hlink : e.link = true
  · -- a link: no children
    have hnk := ok.linkNoKids p e hm hlink
    simp only [hnk, List.map_nil, List.reverse_nil, List.nil_append]
    cases halt : e.alt with
    | none =>
      simp only
      constructor
      · intro l e' a hl he' hlk halt' ha
        by_cases hlp : l = p
        · subst hlp; rw [hp] at he'; cases he'; rw [halt] at halt'; cases halt'
        · exact .inl (hold l e' a hlp hl he' hlk halt' ha)
      · unfold PhiC
        simp only [List.map_cons, List.sum_cons]
        have := Nat.mul_le_mul_left (ents.length + 1) hun
        omega
    | some a =>
      simp only
      split
      · -- the target is pushed
        rename_i hcond
        constructor
        · intro l e' a' hl he' hlk halt' ha
          by_cases hlp : l = p
          · subst hlp; rw [hp] at he'; cases he'; rw [halt] at halt'; cases halt'
            exact .inr rfl
          · exact .inl (hold l e' a' hlp hl he' hlk halt' ha)
        · -- `p` was not in the snapshot yet
          have hnew : (alLookup p acc).isNone = true := by
            cases hpa : alLookup p acc with
            | none => rfl
            | some v =>
              exfalso
              have hnone := hcond.2.2
              rcases ci p e a (by rw [hpa]; rfl) hp hlink halt hcond.2.1 with h | h
              · exact not_isNone_of_isSome ((isSome_alInsert a p e acc).2 (.inr h)) hnone
              · simp only [List.head?_cons, Option.some.injEq] at h
                exact not_isNone_of_isSome ((isSome_alInsert a p e acc).2 (.inl h)) hnone
          have hlt := unseen_insert_lt (e := e) hm hnew
          unfold PhiC
          simp only [List.map_cons, List.sum_cons]
          have hca := cnt_le_length ents a
          have := Nat.mul_le_mul_left (ents.length + 1) (Nat.succ_le_of_lt hlt)
          rw [Nat.mul_succ] at this
          omega
      · -- the target is already there (or does not exist)
        rename_i hcond
        constructor
        · intro l e' a' hl he' hlk halt' ha
          by_cases hlp : l = p
          · subst hlp; rw [hp] at he'; cases he'; rw [halt] at halt'; cases halt'
            left
            cases hx : alLookup a (alInsert l e acc) with
            | some v => rfl
            | none => exact absurd ⟨hlink, ha, by rw [hx]; rfl⟩ hcond
          · exact .inl (hold l e' a' hlp hl he' hlk halt' ha)
        · unfold PhiC
          simp only [List.map_cons, List.sum_cons]
          have := Nat.mul_le_mul_left (ents.length + 1) hun
          omega
  · -- not a link: the children are pushed, never the target
    have hW : (match e.alt with
        | some a => if e.link = true ∧ (alLookup a ents).isSome = true ∧
            (alLookup a (alInsert p e acc)).isNone = true then
              a :: (((names e).map (fun n => p ++ [n])).reverse ++ W)
            else ((names e).map (fun n => p ++ [n])).reverse ++ W
        | none => ((names e).map (fun n => p ++ [n])).reverse ++ W) =
        ((names e).map (fun n => p ++ [n])).reverse ++ W := by
      cases e.alt with
      | none => rfl
      | some a => simp only; rw [if_neg (fun h => hlink h.1)]
    rw [hW]
    constructor
    · intro l e' a' hl he' hlk halt' ha
      by_cases hlp : l = p
      · subst hlp; rw [hp] at he'; cases he'; exact absurd hlk hlink
      · exact .inl (hold l e' a' hlp hl he' hlk halt' ha)
    · unfold PhiC
      simp only [List.map_cons, List.sum_cons, List.map_append, List.sum_append, List.map_reverse,
        sum_reverse, List.map_map]
      have h3 := kids_count_lt ents p (names e) (ok.namesNodup p e hm) hm
      have h4 : ((names e).map (cnt ents ∘ fun n => p ++ [n])).sum =
          ((names e).map (fun n => cnt ents (p ++ [n]))).sum := rfl
      have := Nat.mul_le_mul_left (ents.length + 1) hun
      omega

/-! ### the fuel is never exhausted with work left -/

theorem cloneLoop_fuel {ents : Ents} (ok : EntsOK ents) :
    ∀ (f g : Nat) (W : List FsPath) (acc : Snap), CI ents W acc →
      PhiC ents W acc < f → PhiC ents W acc < g →
      cloneLoop ents f W acc = cloneLoop ents g W acc := by
  intro f
  induction f with
  | zero => intro g W acc _ h; omega
  | succ f ih =>
    intro g W acc ci hf hg
    cases g with
    | zero => omega
    | succ g =>
      cases W with
      | nil => simp [cloneLoop]
      | cons p W =>
        rw [cloneLoop_succ, cloneLoop_succ]
        cases hp : alLookup p ents with
        | none => rfl
        | some e =>
          obtain ⟨ci', hlt⟩ := clone_step ok ci hp
          exact ih g _ _ ci' (by omega) (by omega)

theorem phiC_init_lt (ents : Ents) (abs : FsPath) :
    PhiC ents [abs] [] < 4 * (ents.length + 1) * (ents.length + 1) := by
  unfold PhiC
  have h1 := cnt_le_length ents abs
  have h2 := unseen_le ents []
  have h3 := Nat.mul_le_mul_left (ents.length + 1) h2
  have h4 : 4 * (ents.length + 1) * (ents.length + 1) =
      4 * ((ents.length + 1) * ents.length) + 4 * (ents.length + 1) := by
    rw [Nat.mul_assoc, ← Nat.mul_add, Nat.mul_succ]
  simp only [List.map_cons, List.map_nil, List.sum_cons, List.sum_nil]
  omega

/-- on a well-formed state the snapshot is the same for every fuel at least the model's: the
    worklist is always empty before the fuel is, so `.ok acc` at fuel 0 is never reached with work
    left -/
theorem cloneEntries_fuel {s : State} (hinv : Spec.Inv s) (abs : FsPath) (g : Nat)
    (hg : 4 * (s.entries.length + 1) * (s.entries.length + 1) ≤ g) :
    cloneLoop s.entries g [abs] [] = cloneEntries s abs := by
  unfold cloneEntries
  have ok := entsOK_of_inv (inv_facts hinv)
  have := phiC_init_lt s.entries abs
  refine cloneLoop_fuel ok _ _ _ _ ?_ (by omega) this
  intro l e a hl
  simp [alLookup] at hl

end Rivia.Lemmas
