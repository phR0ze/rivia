/-
  Rivia.Lemmas.MacrosCopy — `assert_vfs_copyfile!` against its specification (C20).
  Anything kept by `_add` and by storing file bytes is kept by `copy` (`CopyInv`): the current
  directory stays, no existing entry changes its kind. The macro compares BYTES since the upstream
  repair of finding A6, so no condition on the content of the source is left.
-/
import Rivia.Lemmas.MacrosAct


namespace Rivia.MacroLemmas
open Rivia Rivia.Memfs Rivia.Memfs.M Rivia.File Rivia.Spec Rivia.Spec.TreeFs Rivia.Macros
open Rivia.Spec.MacroSpec Rivia.Lemmas.RefineA
open Rivia.Lemmas.InvA (Pres)

variable {env : Env} {s : State}

/-! ### invariants of `_copy` -/

/-- the consumer closure of `_copy`, with the values it captures as parameters
    (verbatim from `copyM`) -/
def copyBody (follow copyInto : Bool) (rootP dstRoot : FsPath) (dirMode fileMode : Option Nat) (e : Entry) : M Unit := do
      let pre ← if copyInto then dirOf rootP else M.pure rootP
      let dstPath := dstOf dstRoot e.path pre
      if !follow ∧ e.link then
        let _ ← symlinkAbs dstPath (e.alt.getD [])
      else
        let srcE ← match (← getEntry e.path) with
          | some x => M.pure x
          | none => fail .doesNotExist
        if srcE.dir then
          mkdirM dstPath (some (dirMode.getD srcE.mode))
        else
          let dd ← dirOf dstPath
          if (← getEntry dd).isNone then
            let pm ← match dirMode with
              | some x => M.pure x
              | none => do
                let sd ← dirOf srcE.path
                match (← getEntry sd) with
                | some x => M.pure x.mode
                | none => fail .doesNotExist
            mkdirM dd (some pm)
          let dstE := ({ srcE with path := dstPath }).setMode (fileMode.getD srcE.mode)
          let _ ← add dstE
          if !srcE.link then
            -- `_clone_file(src.path())` then `insert_file`
            if (← getFile dstPath).isNone then fail .isNotFile
            if !srcE.file then fail .isNotFile
            match (← getFile srcE.path) with
            | some b => setFile dstPath b
            | none => fail .doesNotExist

/-- what `_copy` does to the state: `_add` and storing bytes -/
structure CopyInv (I : State → Prop) : Prop where
  add : ∀ e, Pres I (Memfs.add e)
  setFile : ∀ p b, Pres I (Memfs.setFile p b)

namespace CopyInv
variable {I : State → Prop}

theorem mkdirM (h : CopyInv I) (p : FsPath) (mode : Option Nat) : Pres I (Memfs.mkdirM p mode) :=
  Pres.forM _ _ fun _ => .bind (h.add _) fun _ => .pure _

theorem symlinkAbs (h : CopyInv I) (l t : FsPath) : Pres I (Memfs.symlinkAbs l t) :=
  .bind (.getEntry _) fun _ => Pres_ite (.fail _) <| .bind (.dirOf _) fun _ => .bind (.getEntry _) fun _ =>
    .bind (h.add _) fun _ => .pure _

/-- every continuation after a `match` / `if` of the body, innermost first -/
theorem copyBody (h : CopyInv I) (follow copyInto : Bool) (rootP dstRoot : FsPath)
    (dirMode fileMode : Option Nat) (e : Entry) :
    Pres I (MacroLemmas.copyBody follow copyInto rootP dstRoot dirMode fileMode e) := by
  unfold MacroLemmas.copyBody
  extract_lets -underBinder entry
  have hentry : ∀ pre, Pres I (entry pre) := fun _ => by
    refine Pres_ite (.bind (h.symlinkAbs _ _) fun _ => .pure _) (.bind (.getEntry _) fun _ => ?_)
    extract_lets -underBinder source
    have hsource : ∀ srcE, Pres I (source srcE) := fun _ => by
      refine Pres_ite (h.mkdirM _ _) (.bind (.dirOf _) fun _ => .bind (.getEntry _) fun _ => ?_)
      extract_lets -underBinder file parent
      have hfile : ∀ x, Pres I (file x) := fun _ => by
        refine .bind (h.add _) fun _ => Pres_ite (.bind (.getFile _) fun _ => ?_) (.pure _)
        extract_lets -underBinder kind
        have hkind : ∀ x, Pres I (kind x) := fun _ => by
          unfold kind
          extract_lets -underBinder bytes
          have hbytes : ∀ x, Pres I (bytes x) := fun _ => .bind (.getFile _) fun _ => by
            split
            · exact h.setFile _ _
            · exact .fail _
          exact Pres_ite (.bind (.fail _) hbytes) (hbytes ())
        exact Pres_ite (.bind (.fail _) hkind) (hkind ())
      refine Pres_ite ?_ (hfile ())
      have hparent : ∀ pm, Pres I (parent pm) := fun _ => .bind (h.mkdirM _ _) hfile
      split
      · exact .bind (.pure' _) hparent
      · refine .bind (.dirOf _) fun _ => .bind (.getEntry _) fun _ => ?_
        split
        · exact .bind (.pure' _) hparent
        · exact .bind (.fail _) hparent
    split
    · exact .bind (.pure' _) hsource
    · exact .bind (.fail _) hsource
  exact Pres_ite (.bind (.dirOf _) hentry) (.bind (.pure' _) hentry)

theorem copyM (h : CopyInv I) (env : Env) (a b : Str) (o : CopyOpts) : Pres I (Memfs.copyM env a b o) := by
  unfold Memfs.copyM
  refine .bind (.absM _ _) fun _ => .bind (.absM _ _) fun _ => Pres_ite (.pure _) <| .bind .get fun st => ?_
  extract_lets -underBinder copyInto loop
  have hloop : ∀ rootE0, Pres I (loop rootE0) := fun _ => .bind (.liftO _) fun x => by
    obtain ⟨travRoot, snap⟩ := x
    exact ⟨fun s0 hs0 => Lemmas.InvA.runIter_pres (I := I) _ _ _ (fun _ _ h => h) _ _
      (fun e w hw => (h.copyBody _ _ _ _ _ _ e).run w hw) _ _ _ hs0⟩
  split
  · exact .bind (.pure' _) hloop
  · exact .bind (.fail _) hloop

theorem step_copy (h : CopyInv I) (env : Env) (s : State) (a b : Str) (hs : I s) :
    I (step env s (.copy a b)).2 := by
  show I (mapVal _ (Memfs.copyM env a b {}) s).2
  rw [Lemmas.mapVal_snd]
  exact (h.copyM env a b {}).run s hs

end CopyInv

theorem step_copy_cwd (env : Env) (s : State) (a b : Str) : (step env s (.copy a b)).2.cwd = s.cwd :=
  CopyInv.step_copy ⟨pres_add _, pres_setFile _⟩ env s a b rfl

/-! ### instance: existing entries keep their kind -/

/-- every entry of `s0` is still there with the same kind flags -/
def KeepsKinds (s0 st : State) : Prop :=
  ∀ k x, alLookup k s0.entries = some x →
    ∃ x', alLookup k st.entries = some x' ∧ x'.dir = x.dir ∧ x'.file = x.file ∧ x'.link = x.link

theorem addChild_flags {d d' : Entry} {n : Str} {b : Bool} (h : d.addChild n = .ok (b, d')) :
    d'.dir = d.dir ∧ d'.file = d.file ∧ d'.link = d.link := by
  unfold Entry.addChild at h
  split at h
  · cases h
  · split at h
    · simp only [Outcome.ok.injEq, Prod.mk.injEq] at h; rw [← h.2]; exact ⟨rfl, rfl, rfl⟩
    · simp only [Outcome.ok.injEq, Prod.mk.injEq] at h; rw [← h.2]; exact ⟨rfl, rfl, rfl⟩

theorem keepsKinds_copyInv (s0 : State) : CopyInv (KeepsKinds s0) where
  add := fun e => ⟨fun s hs => by
    rcases Lemmas.InvA.add_state_cases e s with h0 | ⟨d, b, d', hd, hnone, _, _, _, hadd, h0⟩
    · rw [h0]; exact hs
    · rw [h0]
      intro k x hk
      obtain ⟨x', hx', hf⟩ := hs k x hk
      simp only [Lemmas.alLookup_alInsert]
      by_cases h1 : e.path.dropLast = k
      · subst h1
        rw [if_pos rfl]
        rw [hd] at hx'
        simp only [Option.some.injEq] at hx'
        subst hx'
        obtain ⟨f1, f2, f3⟩ := addChild_flags hadd
        exact ⟨d', rfl, f1.trans hf.1, f2.trans hf.2.1, f3.trans hf.2.2⟩
      · rw [if_neg h1]
        by_cases h2 : e.path = k
        · subst h2; rw [hnone] at hx'; cases hx'
        · rw [if_neg h2]; exact ⟨x', hx', hf⟩⟩
  setFile := fun p b => ⟨fun s hs => hs⟩

theorem step_copy_keepsKinds (env : Env) (s : State) (a b : Str) :
    KeepsKinds s (step env s (.copy a b)).2 :=
  (keepsKinds_copyInv s).step_copy env s a b (fun _ x hk => ⟨x, hk, rfl, rfl, rfl⟩)

/-! ### `copyfile` against `macroSpec` -/

theorem step_copy_spell {src dst : Str} {a b : FsPath} (hk1 : keyOf env s src = some a)
    (hs1 : Stable env s a) (hk2 : keyOf env s dst = some b) (hs2 : Stable env s b) :
    step env s (.copy (renderP a) (renderP b)) = step env s (.copy src dst) := by
  refine Lemmas.mapVal_congr_at _ ?_
  show (absM env (renderP a) >>= _) s = (absM env src >>= _) s
  rw [bind_absM_key hs1, bind_absM_key hk1]
  show (absM env (renderP b) >>= _) s = (absM env dst >>= _) s
  rw [bind_absM_key hs2, bind_absM_key hk2]

theorem bytesOf_spell {p : Str} {a : FsPath} (hk : keyOf env s p = some a) (hs : Stable env s a) :
    bytesOf env s (renderP a) = bytesOf env s p := by
  unfold bytesOf; rw [step_read_key hk, step_read_key hs]

theorem step_copy_unres_src {src dst : Str} (hk : keyOf env s src = none) :
    ∃ k, step env s (.copy src dst) = (.err k, s) :=
  step_unres rfl hk

theorem step_copy_unres_dst {src dst : Str} {a : FsPath} (hk1 : keyOf env s src = some a)
    (hk : keyOf env s dst = none) : ∃ k, step env s (.copy src dst) = (.err k, s) :=
  step_unres (mapVal_bind_key hk1 _) hk

/-- copying a source that has no entry: an error, or (source = destination) nothing at all -/
theorem step_copy_absent {src dst : Str} {a b : FsPath} (hk1 : keyOf env s src = some a)
    (hk2 : keyOf env s dst = some b) (hx : alLookup a s.entries = none) :
    (step env s (.copy src dst)).1.isOk = false ∨ (step env s (.copy src dst)).2 = s := by
  show (mapVal _ (absM env src >>= _) s).1.isOk = false ∨ (mapVal _ (absM env src >>= _) s).2 = s
  rw [mapVal_bind_key hk1]
  show (mapVal _ (absM env dst >>= _) s).1.isOk = false ∨ (mapVal _ (absM env dst >>= _) s).2 = s
  rw [mapVal_bind_key hk2]
  by_cases hab : a = b
  · right; rw [if_pos hab]; rfl
  · left
    rw [if_neg hab]
    show (mapVal _ (M.get >>= _) s).1.isOk = false
    simp only [mapVal, Lemmas.get_bind_at, hx]
    rfl

theorem key_after_copy {src dst p : Str} {a : FsPath} (hk : keyOf env s p = some a) :
    keyOf env (step env s (.copy src dst)).2 p = some a :=
  (keyOf_congr (step_copy_cwd env s src dst) p).trans hk

theorem reg_after_copy {src dst : Str} {a : FsPath} {x : Entry} (hx : alLookup a s.entries = some x) :
    eAt (step env s (.copy src dst)).2 a (fun e => e.file && !e.link) = (x.file && !x.link) := by
  obtain ⟨x', hx', _, f2, f3⟩ := step_copy_keepsKinds env s src dst a x hx
  rw [eAt_some hx', f2, f3]

/-- what `assert_vfs_copyfile!` decides once the source is an existing regular file: `copy` is
    performed; it passes iff the copy succeeded and afterwards both paths read back as the same
    BYTES and the destination is a regular file -/
theorem run_copyfile {src dst : Str} {a b : FsPath} (hk1 : keyOf env s src = some a)
    (hs1 : Stable env s a) (hk2 : keyOf env s dst = some b) (hs2 : Stable env s b)
    (hsrc : eAt s a (fun e => e.file && !e.link) = true) :
    (runMacro env s (.copyfile src dst)).2 = (step env s (.copy src dst)).2 ∧
    ((runMacro env s (.copyfile src dst)).1 = .pass ↔
      ((step env s (.copy src dst)).1.isOk = true ∧
       (∃ x, bytesOf env (step env s (.copy src dst)).2 src = some x ∧
             bytesOf env (step env s (.copy src dst)).2 dst = some x) ∧
       eAt (step env s (.copy src dst)).2 b (fun e => e.file && !e.link) = true)) := by
  have hex : eAt s a (fun _ => true) = true := by
    unfold eAt at hsrc ⊢
    cases he : alLookup a s.entries with
    | none => rw [he] at hsrc; simp at hsrc
    | some e => rfl
  have hk1' := key_after_copy (src := src) (dst := dst) hk1
  have hk2' := key_after_copy (src := src) (dst := dst) hk2
  have hcwd := step_copy_cwd env s src dst
  rw [← bytesOf_spell hk1' (hs1.congr hcwd), ← bytesOf_spell hk2' (hs2.congr hcwd)]
  have hs2' := hs2.congr hcwd
  cases hr : step env s (.copy src dst) with
  | mk o s' =>
    rw [hr] at hs2'
    simp only [runMacro, absK_eq, hk1, hk2, boolK_exists, boolK_isFile, eTest_key hs1, hex, hsrc,
      Bool.not_true, Bool.false_eq_true, if_false, call_of ((step_copy_spell hk1 hs1 hk2 hs2).trans hr)]
    cases o with
    | ok v =>
      simp only [contOf, call_read, Outcome.isOk, true_and]
      rcases read_cases (env := env) (s := s') (renderP a) with ⟨x, h1, hb1⟩ | ⟨k, h1, hb1⟩
      · rcases read_cases (env := env) (s := s') (renderP b) with ⟨y, h2, hb2⟩ | ⟨k, h2, hb2⟩
        · simp only [h1, h2, hb1, hb2, eTest_key hs2', Option.some.injEq]
          by_cases hxy : x = y
          · subst hxy
            cases eAt s' b fun e => e.file && !e.link <;> simp [pm]
          · have : ¬ ∃ z, x = z ∧ y = z := fun ⟨z, h3, h4⟩ => hxy (h3.trans h4.symm)
            simp [pm, hxy, this]
        · simp [h1, h2, hb1, hb2, pm]
      · simp [h1, hb1, pm]
    | err k => simp [contOf, Outcome.isOk, pm]
    | panic => simp [contOf, Outcome.isOk]
    | hang => simp [contOf, Outcome.isOk]

theorem postSpec_copyfile (s' : State) (src dst : Str) :
    postSpec env s' (.copyfile src dst) = true ↔
      ∃ d, pHasBytes env s' src d = true ∧ pHasBytes env s' dst d = true := by
  cases h : nodeOf env s' src with
  | none => simp [postSpec, pHasBytes, h]
  | some n =>
    simp only [postSpec, pHasBytes, h, Bool.and_eq_true, decide_eq_true_eq]
    exact ⟨fun ⟨h1, h2⟩ => ⟨_, ⟨h1, rfl⟩, h2⟩, fun ⟨_, ⟨h1, h3⟩, h2⟩ => ⟨h1, h3 ▸ h2⟩⟩

/-- the source is not an existing regular file: the macro panics before acting, and the documented
    assertion is false as well -/
theorem copyfile_not_file {src dst : Str} {a b : FsPath} (hk1 : keyOf env s src = some a)
    (hs1 : Stable env s a) (hk2 : keyOf env s dst = some b)
    (hpost : StateOk (step env s (.copy src dst)).2)
    (hsrc : eAt s a (fun e => e.file && !e.link) = false) :
    (runMacro env s (.copyfile src dst)).1 ≠ .pass ∧ (macroSpec env s (.copyfile src dst)).1 = false := by
  constructor
  · simp only [runMacro, absK_eq, hk1, hk2, boolK_exists, boolK_isFile, eTest_key hs1, hsrc]
    cases eAt s a fun _ => true <;> simp [pm]
  · rw [macroSpec_of_not_noop rfl]
    show ((step env s (.copy src dst)).1.isOk && postSpec env (step env s (.copy src dst)).2 _) = false
    rw [Bool.and_eq_false_iff, ← Bool.not_eq_true (postSpec _ _ _), postSpec_copyfile]
    -- were the source a regular file afterwards, it was one before: `copy` keeps kinds
    have hreg : ∀ d, pHasBytes env (step env s (.copy src dst)).2 src d = true → alLookup a s.entries = none :=
      fun d hd => by
        cases hx : alLookup a s.entries with
        | none => rfl
        | some x =>
          have h1 := ((pHasBytes_key hpost (key_after_copy hk1) d).1 hd).1
          rw [reg_after_copy hx] at h1
          rw [eAt_some hx, h1] at hsrc; cases hsrc
    by_cases hno : ∃ d, pHasBytes env (step env s (.copy src dst)).2 src d = true ∧
        pHasBytes env (step env s (.copy src dst)).2 dst d = true
    · obtain ⟨d, hd, _⟩ := hno
      have hx := hreg d hd
      rcases step_copy_absent hk1 hk2 hx with h | h
      · exact .inl h
      · rw [h] at hd hpost
        have := ((pHasBytes_key hpost hk1 d).1 hd).1
        rw [hsrc] at this; cases this
    · exact .inr hno

/-- **`assert_vfs_copyfile!` against its specification**, on the domain "the post-state is well
    formed" (any content of the source: the macro compares bytes) -/
theorem copyfile_agree {src dst : Str} (hst : StableArg env s src ∧ StableArg env s dst)
    (hpost : StateOk (step env s (.copy src dst)).2) :
    ((runMacro env s (.copyfile src dst)).1 = .pass ↔ (macroSpec env s (.copyfile src dst)).1 = true) ∧
    ((runMacro env s (.copyfile src dst)).1 = .pass →
      (runMacro env s (.copyfile src dst)).2 = (macroSpec env s (.copyfile src dst)).2) := by
  cases hk1 : keyOf env s src with
  | none =>
    obtain ⟨kk, hkk⟩ := step_copy_unres_src (dst := dst) hk1
    rw [runMacro, absK_none hk1, macroSpec_of_not_noop rfl]
    simp [opOf, hkk, pm, Outcome.isOk]
  | some a =>
    have hs1 := hst.1.of_key hk1
    cases hk2 : keyOf env s dst with
    | none =>
      obtain ⟨kk, hkk⟩ := step_copy_unres_dst hk1 hk2
      rw [runMacro, absK_key hk1, absK_none hk2, macroSpec_of_not_noop rfl]
      simp [opOf, hkk, pm, Outcome.isOk]
    | some b =>
      have hs2 := hst.2.of_key hk2
      cases hsrc : eAt s a fun e => e.file && !e.link with
      | false =>
        obtain ⟨h1, h2⟩ := copyfile_not_file hk1 hs1 hk2 hpost hsrc
        rw [h2]
        exact ⟨⟨fun h => absurd h h1, fun h => by cases h⟩, fun h => absurd h h1⟩
      | true =>
        obtain ⟨hstate, hpass⟩ := run_copyfile hk1 hs1 hk2 hs2 hsrc
        rw [macroSpec_of_not_noop rfl]
        refine ⟨?_, fun _ => hstate⟩
        show _ ↔ ((step env s (.copy src dst)).1.isOk && postSpec env (step env s (.copy src dst)).2 _) = true
        have hk1' := key_after_copy (src := src) (dst := dst) hk1
        have hk2' := key_after_copy (src := src) (dst := dst) hk2
        -- the source is still a regular file: `copy` keeps kinds
        have hsrc' : eAt (step env s (.copy src dst)).2 a (fun e => e.file && !e.link) = true := by
          cases hx : alLookup a s.entries with
          | none => unfold eAt at hsrc; rw [hx] at hsrc; cases hsrc
          | some x => rw [reg_after_copy hx, ← eAt_some hx fun e => e.file && !e.link]; exact hsrc
        rw [hpass, Bool.and_eq_true, postSpec_copyfile, bytesOf_reg hk1' hsrc']
        refine and_congr_right fun _ => ⟨fun ⟨⟨x, h1, h2⟩, hreg⟩ => ⟨x, ?_, ?_⟩, fun ⟨d, h1, h2⟩ => ?_⟩
        · exact (pHasBytes_key hpost hk1' x).2 ⟨hsrc', h1⟩
        · rw [bytesOf_reg hk2' hreg] at h2
          exact (pHasBytes_key hpost hk2' x).2 ⟨hreg, h2⟩
        · obtain ⟨_, h1⟩ := (pHasBytes_key hpost hk1' d).1 h1
          obtain ⟨hreg, h2⟩ := (pHasBytes_key hpost hk2' d).1 h2
          exact ⟨⟨d, h1, by rw [bytesOf_reg hk2' hreg]; exact h2⟩, hreg⟩


/-! ### all acting macros -/

/-- the side conditions on the specified post-state: well-formedness where `is_file` has to be read off
    the reference view (`mkfile`, `write_all`, `copyfile`) -/
def ActOk (env : Env) (s : State) : MacroCall → Prop
  | .copyfile a b => StateOk (macroSpec env s (.copyfile a b)).2
  | m => PostOk env s m

instance (env : Env) (s : State) (m : MacroCall) : Decidable (ActOk env s m) := by
  cases m <;> unfold ActOk <;> infer_instance

theorem macroSpec_copyfile_state (env : Env) (s : State) (a b : Str) :
    (macroSpec env s (.copyfile a b)).2 = (step env s (.copy a b)).2 := by
  rw [macroSpec_of_not_noop rfl]; rfl

theorem acting_all (m : MacroCall) (hm : isChecking m = false) (hok : StateOk s)
    (hst : ArgsStable env s m) (hact : ActOk env s m) :
    ((runMacro env s m).1 = .pass ↔ (macroSpec env s m).1 = true) ∧
    ((runMacro env s m).1 = .pass → (runMacro env s m).2 = (macroSpec env s m).2) := by
  cases m
  case copyfile a b =>
    have h1 : StateOk (macroSpec env s (.copyfile a b)).2 := hact
    rw [macroSpec_copyfile_state] at h1
    exact copyfile_agree hst h1
  all_goals first
    | (simp only [isChecking, Bool.true_eq_false] at hm; done)
    | exact acting_agree _ rfl hok hst hact

end Rivia.MacroLemmas
