/-
  Rivia.Lemmas.Macros — helper lemmas for C20 (the `assert_vfs_*!` macros as test oracles).

  How the macro combinators (`call`, `absK`, `boolK`) evaluate once the path argument is resolved;
  the domain (`Stable`, `StateOk`) and the reference view of the entry a path denotes; the checking
  macros against `checkSpec`; and `Body`, the one walk over all nineteen macro bodies that gives the
  name in every panic message and the unchanged state of the checking macros.
-/
import Rivia.Spec.MacroSpec
import Rivia.Lemmas.Abs
import Rivia.Lemmas.RefineA
import Rivia.Lemmas.AbsMemfs
import Rivia.Lemmas.NoopPath
import Rivia.Lemmas.Conc
import Rivia.Lemmas.InvC
import Rivia.Lemmas.Total


namespace Rivia.MacroLemmas
open Rivia Rivia.Memfs Rivia.Memfs.M Rivia.File Rivia.Spec Rivia.Spec.TreeFs Rivia.Macros
open Rivia.Spec.MacroSpec Rivia.Lemmas.RefineA

variable {env : Env} {s : State}

/-! ### path resolution -/

theorem keyOf_eq (env : Env) (s : State) (p : Str) :
    keyOf env s p =
      match absWith env (renderP s.cwd) p with
      | .ok a => some (toPath a)
      | _ => none := by
  unfold keyOf resolve
  have hc : (absS s).cwd = s.cwd := rfl
  rw [hc]
  cases absWith env (renderP s.cwd) p <;> rfl

theorem keyOf_congr {s s' : State} (h : s'.cwd = s.cwd) (p : Str) : keyOf env s' p = keyOf env s p := by
  rw [keyOf_eq, keyOf_eq, h]

theorem absM_of_key {p : Str} {a : FsPath} (h : keyOf env s p = some a) : absM env p s = (.ok a, s) := by
  rw [keyOf_eq] at h
  unfold absM
  cases hh : absWith env (renderP s.cwd) p <;> rw [hh] at h <;> simp_all

theorem absM_of_none {p : Str} (h : keyOf env s p = none) : ∃ k, absM env p s = (.err k, s) := by
  rw [keyOf_eq] at h
  have ht := Lemmas.absWith_total env (renderP s.cwd) p
  unfold absM
  cases hh : absWith env (renderP s.cwd) p with
  | ok a => rw [hh] at h; cases h
  | err k => exact ⟨k, rfl⟩
  | panic => exact absurd hh ht.1
  | hang => exact absurd hh ht.2

theorem bind_absM_key {α} {p : Str} {a : FsPath} (h : keyOf env s p = some a) (f : FsPath → M α) :
    (absM env p >>= f) s = f a s := by
  rw [M_bind_apply, absM_of_key h]

theorem mapVal_bind_key {α} {v : α → Val} {p : Str} {a : FsPath} (h : keyOf env s p = some a)
    (f : FsPath → M α) : mapVal v (absM env p >>= f) s = mapVal v (f a) s :=
  Lemmas.mapVal_congr_at _ (bind_absM_key h f)

theorem step_unres {op : Op} {α} {v : α → Val} {p : Str} {f : FsPath → M α}
    (h : step env s op = mapVal v (absM env p >>= f) s) (hk : keyOf env s p = none) :
    ∃ k, step env s op = (.err k, s) := by
  obtain ⟨kk, hkk⟩ := absM_of_none hk
  exact ⟨kk, by rw [h]; msimp [hkk]⟩

theorem absK_eq (p : Str) (n msg : String) (k : FsPath → State → MR) :
    absK env s p n msg k =
      match keyOf env s p with
      | some a => k a s
      | none => (pm n msg, s) := by
  cases h : keyOf env s p with
  | some a => simp only [absK, call, step, mapVal, absM_of_key h]
  | none =>
    obtain ⟨kk, hk⟩ := absM_of_none h
    simp only [absK, call, step, mapVal, hk]

theorem absK_none {p : Str} (h : keyOf env s p = none) (n msg : String) (k : FsPath → State → MR) :
    absK env s p n msg k = (pm n msg, s) := by
  rw [absK_eq, h]

theorem absK_key {p : Str} {a : FsPath} (h : keyOf env s p = some a) (n msg : String)
    (k : FsPath → State → MR) : absK env s p n msg k = k a s := by
  rw [absK_eq, h]

/-- `f` evaluated on the entry a user path denotes (`false` when there is none) -/
def eTest (env : Env) (s : State) (p : Str) (f : Entry → Bool) : Bool :=
  match keyOf env s p with
  | some a => (match alLookup a s.entries with | some e => f e | none => false)
  | none => false

theorem boolQuery_eq (p : Str) (f : Entry → Bool) :
    boolQuery env p f s = (.ok (.bool (eTest env s p f)), s) := by
  unfold boolQuery eTest
  cases h : keyOf env s p with
  | some a => rw [absM_of_key h]; rfl
  | none => obtain ⟨kk, hk⟩ := absM_of_none h; rw [hk]

theorem boolK_eq {op : Op} {p : Str} {f : Entry → Bool} (hop : step env s op = boolQuery env p f s)
    (k : Bool → State → MR) : boolK env s op k = k (eTest env s p f) s := by
  unfold boolK call
  rw [hop, boolQuery_eq]

theorem boolK_exists (p : Str) (k : Bool → State → MR) :
    boolK env s (.exists p) k = k (eTest env s p fun _ => true) s := boolK_eq rfl k
theorem boolK_isDir (p : Str) (k : Bool → State → MR) :
    boolK env s (.isDir p) k = k (eTest env s p fun e => e.dir && !e.link) s := boolK_eq rfl k
theorem boolK_isFile (p : Str) (k : Bool → State → MR) :
    boolK env s (.isFile p) k = k (eTest env s p fun e => e.file && !e.link) s := boolK_eq rfl k
theorem boolK_isSymlink (p : Str) (k : Bool → State → MR) :
    boolK env s (.isSymlink p) k = k (eTest env s p (·.link)) s := boolK_eq rfl k

/-! ### the domain: re-resolving a resolved key gives the key back -/

/-- the macros hand `&target` (an already resolved path) back to the vfs, which resolves it again -/
def Stable (env : Env) (s : State) (a : FsPath) : Prop := keyOf env s (renderP a) = some a

instance (env : Env) (s : State) (a : FsPath) : Decidable (Stable env s a) := by
  unfold Stable; infer_instance

theorem Stable.congr {s s' : State} {a : FsPath} (h : Stable env s a) (hc : s'.cwd = s.cwd) :
    Stable env s' a := by
  unfold Stable at *; rw [keyOf_congr hc]; exact h

/-- `f` on the entry stored under a key -/
def eAt (s : State) (a : FsPath) (f : Entry → Bool) : Bool :=
  match alLookup a s.entries with | some e => f e | none => false

theorem eAt_some {a : FsPath} {e : Entry} (h : alLookup a s.entries = some e) (f : Entry → Bool) :
    eAt s a f = f e := by
  unfold eAt; rw [h]

theorem eAt_true {a : FsPath} {f : Entry → Bool} (h : eAt s a f = true) :
    ∃ e, alLookup a s.entries = some e ∧ f e = true := by
  unfold eAt at h
  cases he : alLookup a s.entries with
  | none => rw [he] at h; cases h
  | some e => rw [he] at h; exact ⟨e, rfl, h⟩

theorem eTest_key {p : Str} {a : FsPath} (h : keyOf env s p = some a) (f : Entry → Bool) :
    eTest env s p f = eAt s a f := by
  unfold eTest eAt; rw [h]

/-- a clean absolute result without `~` / `$`, under a current directory of well-formed names, is
    stable: the domain contains every path the unit tests of the crate use -/
theorem stable_of_noSpecial {p : Str} {a : FsPath} (hc : ∀ n ∈ s.cwd, Lemmas.Wf n)
    (hk : keyOf env s p = some a) (hs : Lemmas.NoSpecial (renderP a)) : Stable env s a := by
  rw [keyOf_eq] at hk
  cases hh : absWith env (renderP s.cwd) p with
  | ok astr =>
    rw [hh] at hk
    have ha : toPath astr = a := by simpa using hk
    have hr : isRooted (renderP s.cwd) = true := rfl
    have hn : Lemmas.NormalForm (renderP s.cwd) := Lemmas.renderP_normalForm hc
    obtain ⟨hr', hn'⟩ := Lemmas.absWith_shape hr hn hh
    obtain ⟨ns, hns, rfl⟩ := Lemmas.rooted_normalForm hr' hn'
    have hns' : toPath (Lemmas.bufOf true ns) = ns := Lemmas.Noop.toPath_bufOf (fun q hq => (hns q hq).bodyPiece)
    rw [hns'] at ha
    subst ha
    have hfix : absWith env (renderP s.cwd) (renderP ns) = .ok (renderP ns) :=
      Lemmas.absWith_fixed env _ hr' hn' hs
    unfold Stable
    rw [keyOf_eq, hfix]
    exact congrArg some hns'
  | err k => rw [hh] at hk; cases hk
  | panic => rw [hh] at hk; cases hk
  | hang => rw [hh] at hk; cases hk

/-! ### per-entry well-formedness the statements need (decidable) -/

/-- exactly one of `dir` / `file`; a regular file has stored bytes (clause (4) of `Spec.Inv`);
    a link has a target -/
def entryWfB (s : State) (k : FsPath) (e : Entry) : Bool :=
  decide (e.dir = !e.file) && (!(e.file && !e.link) || (alLookup k s.files).isSome) &&
    (!e.link || e.alt.isSome)

def StateOk (s : State) : Prop := s.entries.all (fun kv => entryWfB s kv.1 kv.2) = true

instance (s : State) : Decidable (StateOk s) := by unfold StateOk; infer_instance

theorem stateOk_lookup (h : StateOk s) {k : FsPath} {e : Entry} (hk : alLookup k s.entries = some e) :
    e.dir = (!e.file) ∧ ((e.file && !e.link) = true → (alLookup k s.files).isSome = true) := by
  have hm := Lemmas.alLookup_mem hk
  have h1 := List.all_eq_true.mp h _ hm
  simp only [entryWfB, Bool.and_eq_true, decide_eq_true_eq, Bool.or_eq_true, Bool.not_eq_true'] at h1
  refine ⟨h1.1.1, fun hf => ?_⟩
  rcases h1.1.2 with h2 | h2
  · rw [hf] at h2; cases h2
  · exact h2

theorem stateOk_link (h : StateOk s) {k : FsPath} {e : Entry} (hk : alLookup k s.entries = some e)
    (hl : e.link = true) : ∃ t, e.alt = some t := by
  have hm := Lemmas.alLookup_mem hk
  have h1 := List.all_eq_true.mp h _ hm
  simp only [entryWfB, Bool.and_eq_true, decide_eq_true_eq, Bool.or_eq_true, Bool.not_eq_true'] at h1
  rcases h1.2 with h2 | h2
  · rw [hl] at h2; cases h2
  · cases ha : e.alt with
    | none => rw [ha] at h2; cases h2
    | some t => exact ⟨t, rfl⟩

/-! ### the reference view of the entry a path denotes -/

theorem nodeOf_key {p : Str} {a : FsPath} (hk : keyOf env s p = some a) :
    nodeOf env s p = (alLookup a s.entries).map (absNode s a) := by
  unfold nodeOf; rw [hk]; exact Lemmas.RefineA.get_absS s a

theorem nodeOf_none {p : Str} (hk : keyOf env s p = none) : nodeOf env s p = none := by
  unfold nodeOf; rw [hk]

theorem pExists_key {p : Str} {a : FsPath} (hk : keyOf env s p = some a) :
    pExists env s p = eAt s a fun _ => true := by
  unfold pExists eAt; rw [nodeOf_key hk]; cases alLookup a s.entries <;> rfl

theorem pIsDir_key {p : Str} {a : FsPath} (hk : keyOf env s p = some a) :
    pIsDir env s p = eAt s a fun e => e.dir && !e.link := by
  unfold pIsDir eAt; rw [nodeOf_key hk]
  cases alLookup a s.entries with
  | none => rfl
  | some e => simp only [Option.map, absNode, kindOf]; cases e.dir <;> cases e.link <;> simp

theorem pIsLink_key {p : Str} {a : FsPath} (hk : keyOf env s p = some a) :
    pIsLink env s p = eAt s a (·.link) := by
  unfold pIsLink eAt; rw [nodeOf_key hk]
  cases alLookup a s.entries with
  | none => rfl
  | some e => simp only [Option.map, absNode, kindOf]; cases e.dir <;> cases e.link <;> simp [isLinkKind]

theorem kind_file_flags {e : Entry} (h : e.dir = !e.file) : (kindOf e = Kind.file) ↔ (e.file && !e.link) = true := by
  unfold kindOf
  cases hl : e.link <;> cases hd : e.dir <;> cases hf : e.file <;> simp_all

theorem pIsFile_key (hok : StateOk s) {p : Str} {a : FsPath} (hk : keyOf env s p = some a) :
    pIsFile env s p = eAt s a fun e => e.file && !e.link := by
  unfold pIsFile eAt; rw [nodeOf_key hk]
  cases he : alLookup a s.entries with
  | none => rfl
  | some e =>
    show decide ((absNode s a e).kind = .file) = (e.file && !e.link)
    rw [Bool.eq_iff_iff, decide_eq_true_eq]
    exact kind_file_flags (stateOk_lookup hok he).1

theorem pHasBytes_key (hok : StateOk s) {p : Str} {a : FsPath} (hk : keyOf env s p = some a) (d : Bytes) :
    pHasBytes env s p d = true ↔
      eAt s a (fun e => e.file && !e.link) = true ∧ alLookup a s.files = some d := by
  unfold pHasBytes eAt; rw [nodeOf_key hk]
  cases he : alLookup a s.entries with
  | none => simp
  | some e =>
    obtain ⟨h1, h2⟩ := stateOk_lookup hok he
    show (decide (kindOf e = .file) && decide ((absNode s a e).data = d)) = true ↔
      (e.file && !e.link) = true ∧ _
    rw [Bool.and_eq_true, decide_eq_true_eq, decide_eq_true_eq, kind_file_flags h1]
    refine and_congr_right fun hreg => ?_
    obtain ⟨b, hb⟩ := Option.isSome_iff_exists.mp (h2 hreg)
    have hl : e.link = false := by cases hl : e.link <;> simp_all
    simp [absNode, hl, hb]

theorem pHasText_key (hok : StateOk s) {p : Str} {a : FsPath} (hk : keyOf env s p = some a) (d : Str) :
    pHasText env s p d = true ↔
      eAt s a (fun e => e.file && !e.link) = true ∧ (alLookup a s.files).bind decodeUtf8 = some d := by
  unfold pHasText eAt; rw [nodeOf_key hk]
  cases he : alLookup a s.entries with
  | none => simp
  | some e =>
    obtain ⟨h1, h2⟩ := stateOk_lookup hok he
    show (decide (kindOf e = .file) && decide (decodeUtf8 (absNode s a e).data = some d)) = true ↔
      (e.file && !e.link) = true ∧ _
    rw [Bool.and_eq_true, decide_eq_true_eq, decide_eq_true_eq, kind_file_flags h1]
    refine and_congr_right fun hreg => ?_
    obtain ⟨b, hb⟩ := Option.isSome_iff_exists.mp (h2 hreg)
    have hl : e.link = false := by cases hl : e.link <;> simp_all
    simp [absNode, hl, hb]

theorem pLinksTo_key {p : Str} {a : FsPath} (hk : keyOf env s p = some a) (t : FsPath) :
    pLinksTo env s p t = eAt s a fun e => e.link && decide (e.alt = some t) := by
  unfold pLinksTo eAt; rw [nodeOf_key hk]
  cases alLookup a s.entries with
  | none => rfl
  | some e => simp only [Option.map, absNode, kindOf]; cases e.link <;> cases e.dir <;> simp [isLinkKind]

theorem resolvable_key {p : Str} {a : FsPath} (hk : keyOf env s p = some a) : resolvable env s p = true := by
  unfold resolvable; rw [hk]; rfl

/-! ### the checking macros -/

/-- the path argument, if it resolves, resolves to a stable key -/
def StableArg (env : Env) (s : State) (p : Str) : Prop :=
  match keyOf env s p with
  | some a => Stable env s a
  | none => True

instance (env : Env) (s : State) (p : Str) : Decidable (StableArg env s p) := by
  unfold StableArg; split <;> infer_instance

theorem StableArg.of_key {p : Str} {a : FsPath} (h : StableArg env s p) (hk : keyOf env s p = some a) :
    Stable env s a := by
  unfold StableArg at h; rw [hk] at h; exact h

theorem chk_exists {p : Str} (hst : StableArg env s p) :
    (runMacro env s (.exists p)).1 = .pass ↔ checkSpec env s (.exists p) = true := by
  cases hk : keyOf env s p with
  | none => rw [runMacro, absK_none hk]; simp [checkSpec, pExists, nodeOf_none hk, pm]
  | some a =>
    have hs := hst.of_key hk
    simp only [runMacro, absK_eq, hk, boolK_exists, eTest_key hs, checkSpec, pExists_key hk]
    unfold eAt; cases alLookup a s.entries <;> simp [pm]

theorem chk_isDir {p : Str} (hst : StableArg env s p) :
    (runMacro env s (.isDir p)).1 = .pass ↔ checkSpec env s (.isDir p) = true := by
  cases hk : keyOf env s p with
  | none => rw [runMacro, absK_none hk]; simp [checkSpec, pIsDir, nodeOf_none hk, pm]
  | some a =>
    have hs := hst.of_key hk
    simp only [runMacro, absK_eq, hk, boolK_exists, boolK_isDir, eTest_key hs, checkSpec, pIsDir_key hk]
    unfold eAt; cases alLookup a s.entries with
    | none => simp [pm]
    | some e => cases hd : e.dir <;> cases hl : e.link <;> simp [pm, hd, hl]

theorem chk_isFile (hok : StateOk s) {p : Str} (hst : StableArg env s p) :
    (runMacro env s (.isFile p)).1 = .pass ↔ checkSpec env s (.isFile p) = true := by
  cases hk : keyOf env s p with
  | none => rw [runMacro, absK_none hk]; simp [checkSpec, pIsFile, nodeOf_none hk, pm]
  | some a =>
    have hs := hst.of_key hk
    simp only [runMacro, absK_eq, hk, boolK_exists, boolK_isFile, eTest_key hs, checkSpec,
      pIsFile_key hok hk]
    unfold eAt; cases alLookup a s.entries with
    | none => simp [pm]
    | some e => cases hf : e.file <;> cases hl : e.link <;> simp [pm, hf, hl]

theorem chk_isSymlink {p : Str} (hst : StableArg env s p) :
    (runMacro env s (.isSymlink p)).1 = .pass ↔ checkSpec env s (.isSymlink p) = true := by
  cases hk : keyOf env s p with
  | none => rw [runMacro, absK_none hk]; simp [checkSpec, pIsLink, nodeOf_none hk, pm]
  | some a =>
    have hs := hst.of_key hk
    simp only [runMacro, absK_eq, hk, boolK_exists, boolK_isSymlink, eTest_key hs, checkSpec,
      pIsLink_key hk]
    unfold eAt; cases alLookup a s.entries with
    | none => simp [pm]
    | some e => cases hl : e.link <;> simp [pm, hl]

theorem chk_noSymlink {p : Str} (hst : StableArg env s p) :
    (runMacro env s (.noSymlink p)).1 = .pass ↔ checkSpec env s (.noSymlink p) = true := by
  cases hk : keyOf env s p with
  | none => rw [runMacro, absK_none hk]; simp [checkSpec, resolvable, hk, pm]
  | some a =>
    have hs := hst.of_key hk
    simp only [runMacro, absK_eq, hk, boolK_exists, boolK_isSymlink, eTest_key hs, checkSpec,
      pIsLink_key hk, resolvable_key hk]
    unfold eAt; cases alLookup a s.entries with
    | none => simp
    | some e => cases hl : e.link <;> simp [pm, hl]

/-- a body that passes when the path does not exist and panics on every branch once it does decides
    "resolves and does not exist", whatever else it asks -/
theorem run_absent_only {p : Str} {nm : String} {K : FsPath → State → MR}
    (hK : ∀ t s, (K t s).1 ≠ .pass) (hst : StableArg env s p) :
    (absK env s p nm "failed to get absolute path" fun t s =>
      boolK env s (.exists (renderP t)) fun ex s => if ex then K t s else (.pass, s)).1 = .pass ↔
    checkSpec env s (.noExists p) = true := by
  cases hk : keyOf env s p with
  | none => simp [absK_eq, hk, checkSpec, resolvable, pm]
  | some a =>
    simp only [absK_eq, hk, boolK_exists, eTest_key (hst.of_key hk), checkSpec, pExists_key hk, resolvable_key hk]
    cases eAt s a fun _ => true <;> simp [hK]

theorem chk_noExists {p : Str} (hst : StableArg env s p) :
    (runMacro env s (.noExists p)).1 = .pass ↔ checkSpec env s (.noExists p) = true :=
  run_absent_only (fun _ _ => nofun) hst

/-- what `assert_vfs_no_dir!` really decides: the path resolves and does not exist -/
theorem run_noDir_iff {p : Str} (hst : StableArg env s p) :
    (runMacro env s (.noDir p)).1 = .pass ↔ checkSpec env s (.noExists p) = true :=
  run_absent_only (fun t s => by rw [boolK_isDir]; split <;> nofun) hst

/-- what `assert_vfs_no_file!` really decides: the path resolves and does not exist -/
theorem run_noFile_iff {p : Str} (hst : StableArg env s p) :
    (runMacro env s (.noFile p)).1 = .pass ↔ checkSpec env s (.noExists p) = true :=
  run_absent_only (fun t s => by rw [boolK_isFile]; split <;> nofun) hst

/-! ### the reading calls, in closed form -/

theorem step_readlink_key {q : Str} {a : FsPath} (hk : keyOf env s q = some a) :
    step env s (.readlink q) =
      ((match alLookup a s.entries with
        | some e => if e.link then Outcome.ok (Val.str e.rel) else .err .isNotSymlink
        | none => .err .doesNotExist), s) := by
  simp only [step]
  msimp [absM_of_key hk]
  cases alLookup a s.entries with
  | none => rfl
  | some e => cases hl : e.link <;> msimp [hl]

theorem step_readlinkAbs_key {q : Str} {a : FsPath} (hk : keyOf env s q = some a) :
    step env s (.readlinkAbs q) =
      ((match alLookup a s.entries with
        | some e => if e.link then Outcome.ok (Val.path (e.alt.getD [])) else .err .isNotSymlink
        | none => .err .doesNotExist), s) := by
  simp only [step]
  msimp [absM_of_key hk]
  cases alLookup a s.entries with
  | none => rfl
  | some e => cases hl : e.link <;> msimp [hl]

/-- `_clone_file` on a resolved key: the stored bytes, unless the key holds an entry that is not a
    file (a key without an entry is not refused) -/
def cloneAt (s : State) (a : FsPath) : Outcome Bytes :=
  if (alLookup a s.entries).all (·.file) then .ofOption .doesNotExist (alLookup a s.files)
  else .err .isNotFile

theorem cloneFileM_key {q : Str} {a : FsPath} (hk : keyOf env s q = some a) :
    cloneFileM env q s = (cloneAt s a, s) := by
  unfold cloneFileM cloneAt
  rw [bind_absM_key hk]
  cases he : alLookup a s.entries with
  | none => msimp [he]; cases alLookup a s.files <;> rfl
  | some e =>
    cases hf : e.file <;> msimp [he, hf] <;> cases alLookup a s.files <;>
      simp [Option.all, hf, Outcome.ofOption, M.fail]

theorem cloneAt_reg {a : FsPath} (hreg : eAt s a (fun e => e.file && !e.link) = true) :
    cloneAt s a = .ofOption .doesNotExist (alLookup a s.files) := by
  obtain ⟨e, he, hf⟩ := eAt_true hreg
  have : e.file = true := by cases h : e.file <;> simp_all
  simp [cloneAt, he, this]

theorem mapVal_of {α} {v : α → Val} {m : M α} {o : Outcome α} {s' : State} (h : m s = (o, s')) :
    mapVal v m s = (o.map v, s') := by
  unfold mapVal; rw [h]; cases o <;> rfl

theorem step_read_key {q : Str} {a : FsPath} (hk : keyOf env s q = some a) :
    step env s (.read q) = ((cloneAt s a).map .bytes, s) :=
  mapVal_of (cloneFileM_key hk)

theorem step_readAll_key {q : Str} {a : FsPath} (hk : keyOf env s q = some a) :
    step env s (.readAll q) =
      (((cloneAt s a).bind fun b => .ofOption .ioInvalidData (decodeUtf8 b)).map .str, s) := by
  refine mapVal_of ?_
  unfold readAllM
  rw [M_bind_apply, cloneFileM_key hk]
  cases cloneAt s a with
  | ok b => cases h : decodeUtf8 b <;> simp [Outcome.bind, Outcome.ofOption, h, M.fail]
  | _ => rfl

/-- the bytes `read` + `read_to_end` return, if `read` opens the file -/
def bytesOf (env : Env) (s : State) (p : Str) : Option Bytes :=
  match (step env s (.read p)).1 with
  | .ok (.bytes x) => some x
  | _ => none

theorem bytesOf_reg {p : Str} {a : FsPath} (hk : keyOf env s p = some a)
    (hreg : eAt s a (fun e => e.file && !e.link) = true) : bytesOf env s p = alLookup a s.files := by
  unfold bytesOf; rw [step_read_key hk, cloneAt_reg hreg]
  cases alLookup a s.files <;> rfl

/-- the continuation of a vfs call, by outcome -/
def contOf (k : Option Val → State → MR) : Outcome Val → State → MR
  | .ok v, s' => k (some v) s'
  | .err _, s' => k none s'
  | .panic, s' => (.panic vfsPanic none, s')
  | .hang, s' => (.panic vfsHang none, s')

theorem call_of {op : Op} {o : Outcome Val} {s' : State} (h : step env s op = (o, s'))
    (k : Option Val → State → MR) : call env s op k = contOf k o s' := by
  unfold call; rw [h]; cases o <;> rfl

theorem chk_readAll (hok : StateOk s) {p : Str} {d : Str} (hst : StableArg env s p) :
    (runMacro env s (.readAll p d)).1 = .pass ↔ checkSpec env s (.readAll p d) = true := by
  cases hk : keyOf env s p with
  | none => rw [runMacro, absK_none hk]; simp [checkSpec, pHasText, nodeOf_none hk, pm]
  | some a =>
    have hs := hst.of_key hk
    simp only [runMacro, absK_eq, hk, boolK_isFile, eTest_key hs, call_of (step_readAll_key hs),
      checkSpec, pHasText_key hok hk]
    cases hreg : eAt s a fun e => e.file && !e.link with
    | false => simp [pm]
    | true =>
      rw [cloneAt_reg hreg]
      cases alLookup a s.files with
      | none => simp [contOf, Outcome.ofOption, Outcome.bind, Outcome.map, pm]
      | some b =>
        cases hdec : decodeUtf8 b with
        | none => simp [contOf, Outcome.ofOption, Outcome.bind, Outcome.map, hdec, pm]
        | some d' => by_cases hdd : d' = d <;> simp [contOf, Outcome.ofOption, Outcome.bind, Outcome.map, hdec, hdd, pm]

theorem chk_readlink {p : Str} {t : Str} (hst : StableArg env s p) :
    (runMacro env s (.readlink p t)).1 = .pass ↔ checkSpec env s (.readlink p t) = true := by
  cases hk : keyOf env s p with
  | none => rw [runMacro, absK_none hk]; simp [checkSpec, pRelTarget, pIsLink, nodeOf_none hk, pm]
  | some a =>
    have hs := hst.of_key hk
    simp only [runMacro, absK_eq, hk, boolK_isSymlink, eTest_key hs, call_of (step_readlink_key hs),
      checkSpec, pRelTarget, pIsLink_key hk, step_readlink_key hk]
    unfold contOf eAt
    cases he : alLookup a s.entries with
    | none => simp [pm]
    | some e =>
      cases hl : e.link
      · simp [pm, hl]
      · by_cases hdd : e.rel = t <;> simp [pm, hdd, hl]

theorem chk_readlinkAbs (hok : StateOk s) {p : Str} {t : Str} (hst : StableArg env s p) :
    (runMacro env s (.readlinkAbs p t)).1 = .pass ↔ checkSpec env s (.readlinkAbs p t) = true := by
  cases hk : keyOf env s p with
  | none =>
    rw [runMacro, absK_none hk]
    cases hkt : keyOf env s t <;> simp [pm, checkSpec, hkt, pLinksTo, nodeOf_none hk]
  | some a =>
    have hs := hst.of_key hk
    cases hkt : keyOf env s t with
    | none => rw [runMacro, absK_key hk, absK_none hkt]; simp [pm, checkSpec, hkt]
    | some ta =>
      simp only [runMacro, absK_eq, hk, hkt, boolK_isSymlink, eTest_key hs,
        call_of (step_readlinkAbs_key hs), checkSpec, pLinksTo_key hk]
      unfold contOf eAt
      cases he : alLookup a s.entries with
      | none => simp [pm]
      | some e =>
        cases hl : e.link
        · simp [pm, hl]
        · obtain ⟨tg, htg⟩ := stateOk_link hok he hl
          by_cases heq : tg = ta <;> simp [pm, hl, htg, heq]

/-! ### what a macro body can produce -/

theorem call_eq (op : Op) (k : Option Val → State → MR) :
    call env s op k = contOf k (step env s op).1 (step env s op).2 := call_of rfl k

theorem query_step {op : Op} (h : GroupAQuery op = true) :
    (step env s op).2 = s ∧ Lemmas.Fine (step env s op).1 :=
  ⟨Lemmas.InvA.step_readonly env s op (by cases op <;> first | rfl | cases h),
    Lemmas.step_simple_fine env s op (by cases op <;> first | rfl | cases h)⟩

theorem call_query {op : Op} (h : GroupAQuery op = true) (k : Option Val → State → MR) :
    call env s op k = contOf k (step env s op).1 s := by
  rw [call_eq, (query_step h).1]

theorem call_read (q : Str) (k : Option Val → State → MR) :
    call env s (.read q) k = contOf k (step env s (.read q)).1 s := call_query rfl k

theorem step_read_total (q : Str) : Lemmas.Outcome.Total (step env s (.read q)).1 :=
  (query_step (op := .read q) rfl).2

theorem read_cases (q : Str) :
    (∃ x, (step env s (.read q)).1 = .ok (.bytes x) ∧ bytesOf env s q = some x) ∨
    (∃ k, (step env s (.read q)).1 = .err k ∧ bytesOf env s q = none) := by
  have ht := step_read_total (env := env) (s := s) q
  unfold bytesOf
  simp only [step, mapVal] at ht ⊢
  generalize cloneFileM env q s = r at ht ⊢
  obtain ⟨o, s1⟩ := r
  cases o with
  | ok x => exact .inl ⟨x, rfl, rfl⟩
  | err k => exact .inr ⟨k, rfl, rfl⟩
  | panic => exact absurd rfl ht.1
  | hang => exact absurd rfl ht.2

/-- what the body of the macro named `nm` may produce from `s`: a panic carries the macro's own name,
    unless the vfs call itself panicked or hung, which a body that only makes queries (`q`) never
    sees; such a body also hands back the state it was given -/
structure Body (q : Bool) (nm : String) (s : State) (r : MR) : Prop where
  name : ∀ n msg, r.1 = .panic n msg → n = nm ∨ (q = false ∧ (n = vfsPanic ∨ n = vfsHang) ∧ msg = none)
  state : q = true → r.2 = s

namespace Body
variable {q : Bool} {nm : String}

theorem pass : Body q nm s (.pass, s) := ⟨nofun, fun _ => rfl⟩

theorem panic {msg : Option String} : Body q nm s (.panic nm msg, s) :=
  ⟨fun _ _ h => by cases h; exact .inl rfl, fun _ => rfl⟩

theorem pm {msg : String} : Body q nm s (Macros.pm nm msg, s) := panic

theorem ite {c : Prop} [Decidable c] {a b : MR} (ha : Body q nm s a) (hb : Body q nm s b) :
    Body q nm s (if c then a else b) := by
  split <;> assumption

theorem call {op : Op} {k : Option Val → State → MR} (hq : (q && !GroupAQuery op) = false)
    (hk : ∀ v s', Body q nm s' (k v s')) : Body q nm s (Macros.call env s op k) := by
  cases q with
  | false =>
    rw [call_eq]
    refine ⟨fun n msg h => ?_, nofun⟩
    cases ho : (step env s op).1 <;> rw [ho] at h
    · exact (hk _ _).name n msg h
    · exact (hk _ _).name n msg h
    · cases h; exact .inr ⟨rfl, .inl rfl, rfl⟩
    · cases h; exact .inr ⟨rfl, .inr rfl, rfl⟩
  | true =>
    have hop : GroupAQuery op = true := by simpa using hq
    rw [call_query hop]
    have h1 := (query_step (env := env) (s := s) hop).2
    cases ho : (step env s op).1 <;> rw [ho] at h1
    · exact hk _ _
    · exact hk _ _
    · exact absurd rfl h1.1
    · exact absurd rfl h1.2

theorem absK {p : Str} {msg : String} {k : FsPath → State → MR} (hk : ∀ a s', Body q nm s' (k a s')) :
    Body q nm s (Macros.absK env s p nm msg k) :=
  call (by cases q <;> rfl) fun v s' => by
    split
    · exact hk _ _
    · exact pm

theorem boolK {op : Op} {k : Bool → State → MR} (hq : (q && !GroupAQuery op) = false)
    (hk : ∀ b s', Body q nm s' (k b s')) : Body q nm s (Macros.boolK env s op k) :=
  call hq fun v s' => by split <;> exact hk _ _

end Body

theorem runMacro_body (m : MacroCall) : Body (isChecking m) (nameOf m) s (runMacro env s m) := by
  cases m with
  | «exists» p | noExists p =>
    exact .absK fun _ _ => .boolK rfl fun _ _ => .ite .pm .pass
  | isDir p | isFile p | isSymlink p =>
    exact .absK fun _ _ => .boolK rfl fun _ _ => .ite (.boolK rfl fun _ _ => .ite .pm .pass) .pm
  | noDir p | noFile p =>
    exact .absK fun _ _ => .boolK rfl fun _ _ => .ite (.boolK rfl fun _ _ => .ite .pm .pm) .pass
  | noSymlink p =>
    exact .absK fun _ _ => .boolK rfl fun _ _ => .ite (.boolK rfl fun _ _ => .ite .pm .pass) .pass
  | readAll p d | readlink p t =>
    refine .absK fun _ _ => .boolK rfl fun _ _ => .ite .pm <| .call rfl fun _ _ => ?_
    split
    · exact .ite .pm .pass
    · exact .pm
  | readlinkAbs p t =>
    refine .absK fun _ _ => .absK fun _ _ => .boolK rfl fun _ _ => .ite .pm <| .call rfl fun _ _ => ?_
    split
    · exact .ite .pm .pass
    · exact .pm
  | mkdirP p =>
    refine .absK fun _ _ => .call rfl fun _ _ => ?_
    split
    · exact .ite .pm <| .boolK rfl fun _ _ => .ite .pm .pass
    · exact .panic
  | mkdirM p mode =>
    refine .absK fun _ _ => .call rfl fun _ _ => ?_
    split
    · refine .ite .pm <| .call rfl fun _ _ => ?_
      split
      · exact .ite .pm <| .boolK rfl fun _ _ => .ite .pm .pass
      · exact .panic
    · exact .panic
  | mkfile p | symlink p t =>
    refine .absK fun _ _ => .boolK rfl fun _ _ =>
      .ite (.boolK rfl fun _ _ => .ite .pm .pass) <| .call rfl fun _ _ => ?_
    split
    · exact .ite .pm <| .boolK rfl fun _ _ => .ite .pm .pass
    · exact .pm
  | writeAll p d =>
    refine .absK fun _ _ => ?_
    extract_lets write
    have hw : ∀ s, Body false "assert_vfs_write_all!" s (write s) := fun _ => .call rfl fun _ _ => by
      split
      · exact .boolK rfl fun _ _ => .ite .pm .pass
      · exact .pm
    exact .boolK rfl fun _ _ => .ite (.boolK rfl fun _ _ => .ite .pm (hw _)) (hw _)
  | copyfile a b =>
    refine .absK fun _ _ => .absK fun _ _ => .boolK rfl fun _ _ => .ite .pm <|
      .boolK rfl fun _ _ => .ite .pm <| .call rfl fun _ _ => ?_
    split
    · refine .call rfl fun _ _ => ?_
      split
      · refine .call rfl fun _ _ => ?_
        split
        · exact .ite .pm <| .boolK rfl fun _ _ => .ite .pm .pass
        · exact .pm
      · exact .pm
    · exact .pm
  | remove p =>
    refine .absK fun _ _ => .boolK rfl fun _ _ => .ite (.boolK rfl fun _ _ => .ite ?_ ?_) .pass
    all_goals
      refine .call rfl fun _ _ => ?_
      split
      · exact .pm
      · exact .boolK rfl fun _ _ => .ite .pm .pass
  | removeAll p =>
    refine .absK fun _ _ => .call rfl fun _ _ => ?_
    split
    · exact .pm
    · exact .boolK rfl fun _ _ => .ite .pm .pass

/-! ### the checking macros, together -/

/-- every path argument the macro hands back to the vfs resolves to a stable key (`readlink_abs`
    never re-resolves its second argument; `symlink` passes its target on unresolved) -/
def ArgsStable (env : Env) (s : State) : MacroCall → Prop
  | .exists p | .noExists p | .isDir p | .noDir p | .isFile p | .noFile p | .isSymlink p | .noSymlink p
  | .readAll p _ | .readlink p _ | .readlinkAbs p _ | .mkdirP p | .mkdirM p _ | .mkfile p
  | .writeAll p _ | .symlink p _ | .remove p | .removeAll p => StableArg env s p
  | .copyfile a b => StableArg env s a ∧ StableArg env s b

instance (env : Env) (s : State) (m : MacroCall) : Decidable (ArgsStable env s m) := by
  cases m <;> unfold ArgsStable <;> infer_instance

/-- the checking macros whose code decides the documented predicate -/
def faithfulCheck : MacroCall → Bool
  | .exists _ | .noExists _ | .isDir _ | .isFile _ | .isSymlink _ | .noSymlink _ | .readAll _ _
  | .readlink _ _ | .readlinkAbs _ _ => true
  | _ => false

theorem checking_iff (m : MacroCall) (hm : faithfulCheck m = true) (hok : StateOk s)
    (hst : ArgsStable env s m) : (runMacro env s m).1 = .pass ↔ checkSpec env s m = true := by
  cases m <;> simp only [faithfulCheck, Bool.false_eq_true] at hm
  · exact chk_exists hst
  · exact chk_noExists hst
  · exact chk_isDir hst
  · exact chk_isFile hok hst
  · exact chk_isSymlink hst
  · exact chk_noSymlink hst
  · exact chk_readAll hok hst
  · exact chk_readlink hst
  · exact chk_readlinkAbs hok hst


/-! ### the deviating checking macros on the domain where they are right -/

theorem pIsDir_exists {p : Str} (h : pIsDir env s p = true) : pExists env s p = true := by
  unfold pIsDir at h; unfold pExists
  cases hn : nodeOf env s p with
  | none => rw [hn] at h; cases h
  | some n => rfl

theorem pIsFile_exists {p : Str} (h : pIsFile env s p = true) : pExists env s p = true := by
  unfold pIsFile at h; unfold pExists
  cases hn : nodeOf env s p with
  | none => rw [hn] at h; cases h
  | some n => rfl

theorem absent_iff_notKind {ex k r : Bool} (hk : k = true → ex = true) (hdom : ex = false ∨ k = true) :
    (r && !ex) = true ↔ (r && !k) = true := by
  rcases hdom with h | h
  · cases k
    · rw [h]
    · rw [hk rfl] at h; cases h
  · rw [hk h, h]

theorem noDir_partial {p : Str} (hst : StableArg env s p)
    (hdom : pExists env s p = false ∨ pIsDir env s p = true) :
    (runMacro env s (.noDir p)).1 = .pass ↔ checkSpec env s (.noDir p) = true :=
  (run_noDir_iff hst).trans (absent_iff_notKind pIsDir_exists hdom)

theorem noFile_partial {p : Str} (hst : StableArg env s p)
    (hdom : pExists env s p = false ∨ pIsFile env s p = true) :
    (runMacro env s (.noFile p)).1 = .pass ↔ checkSpec env s (.noFile p) = true :=
  (run_noFile_iff hst).trans (absent_iff_notKind pIsFile_exists hdom)

theorem stateOk_of_inv (hI : Spec.Inv s) (hE : EntriesOk s) : StateOk s := by
  unfold StateOk
  rw [List.all_eq_true]
  intro kv hkv
  have hF := inv_facts hI
  obtain ⟨k, e⟩ := kv
  have hnd : (s.entries.map (·.1)).Nodup := by
    unfold Spec.Inv invViolation at hI
    simp only at hI
    split at hI
    · cases hI
    · rename_i h; simpa using h
  have hl : alLookup k s.entries = some e := Lemmas.alLookup_of_mem hnd hkv
  have h1 := (entriesOk_lookup hE hl).flags
  have h3 := (entriesOk_lookup hE hl).link
  have h2 := hF.data k e hl
  simp only [entryWfB, Bool.and_eq_true, decide_eq_true_eq, Bool.or_eq_true, Bool.not_eq_true']
  refine ⟨⟨h1, ?_⟩, ?_⟩
  · rw [h2]
    cases e.file && !e.link <;> simp
  · cases hlk : e.link with
    | false => exact Or.inl rfl
    | true => obtain ⟨tg, htg, _⟩ := h3 hlk; exact Or.inr (by rw [htg]; rfl)

theorem macroSpec_checking (env : Env) (s : State) (m : MacroCall) (hm : isChecking m = true) :
    macroSpec env s m = (checkSpec env s m, s) := by
  cases m <;> simp only [isChecking, Bool.false_eq_true] at hm <;> rfl

theorem macroSpec_of_not_noop {m : MacroCall} (h : documentedNoop env s m = false) :
    macroSpec env s m =
      match opOf m with
      | none => (checkSpec env s m, s)
      | some op => ((step env s op).1.isOk && postSpec env (step env s op).2 m, (step env s op).2) := by
  unfold macroSpec; rw [h]; rfl

theorem macroSpec_of_noop {m : MacroCall} (h : documentedNoop env s m = true) :
    macroSpec env s m = (true, s) := by
  unfold macroSpec; rw [h]; rfl

end Rivia.MacroLemmas
