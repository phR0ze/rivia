/-
  Rivia.Lemmas.RefineCChmod — C01, group C (part 3): symbolic `chmod_b(p).sym(expr)` (no octal value,
  no follow) refines the reference `chmodSym`.

  The traversal of Lemmas/RefineB/Chown once more, now writing the per-entry mode
  `symMode cs x = applyExpr (ekind x) cs x.mode` (what `sys::mode` returns for a well-formed
  expression, `Lemmas.mode_parsed`) where the octal `chmod` writes the constant `c.dirs` / `c.files`.
  An accepted expression only touches the low 9 bits (`Lemmas.mode_keeps`), so the type bits of the mode
  survive; hence the computed mode is never 0 and `set_mode` stores it unchanged.
-/
import Rivia.Lemmas.RefineB.Chmod
import Rivia.Lemmas.Chmod
import Rivia.Lemmas.RefineA

namespace Rivia.Lemmas.RefineC
open Rivia Rivia.Memfs Rivia.File Rivia.Spec Rivia.Spec.TreeFs Rivia.Chmod Rivia.Lemmas.RefineB

/-! ### bits -/

theorem and_pow_iff (m i : Nat) : m &&& 2 ^ i = 2 ^ i ↔ m.testBit i = true := by
  constructor
  · intro h
    have := congrArg (fun z => z.testBit i) h
    simp only [Nat.testBit_and, Nat.testBit_two_pow_self, Bool.and_true] at this
    exact this
  · intro h
    apply Nat.eq_of_testBit_eq
    intro j
    rw [Nat.testBit_and, Nat.testBit_two_pow]
    by_cases hj : i = j
    · subst hj; simp [h]
    · simp [hj]

theorem or_of_and_eq (m t : Nat) (h : m &&& t = t) : m ||| t = m := by
  apply Nat.eq_of_testBit_eq
  intro j
  have := congrArg (fun z => z.testBit j) h
  simp only [Nat.testBit_and] at this
  rw [Nat.testBit_or]
  cases hm : m.testBit j <;> cases ht : t.testBit j <;> simp_all

theorem testBit_of_div512 {a m i : Nat} (h : a / 512 = m / 512) (h9 : 9 ≤ i) : a.testBit i = m.testBit i := by
  obtain ⟨j, rfl⟩ := Nat.exists_eq_add_of_le' h9
  rw [← Nat.testBit_div_two_pow, ← Nat.testBit_div_two_pow]
  exact congrArg (·.testBit j) h

theorem typeBits_pow (e : Entry) (hl : e.link = false) :
    ∃ i, 9 ≤ i ∧ typeBits (kindOf e) = 2 ^ i := by
  unfold kindOf
  rw [hl]
  cases e.dir
  · exact ⟨15, by omega, by decide⟩
  · exact ⟨14, by omega, by decide⟩

theorem ne_zero_of_typeBits {m : Nat} {k : Kind} (h : m &&& typeBits k = typeBits k) : m ≠ 0 := by
  rintro rfl
  rw [Nat.zero_and] at h
  cases k <;> cases h

/-! ### the Memfs side with the per-entry target mode -/

/-- the mode the expression prescribes for the entry -/
def symMode (cs : List Clause) (x : Entry) : Nat := applyExpr (ekind x) cs x.mode

def stepModeS (cs : List Clause) (x : Entry) : Nat :=
  if x.dir then symMode cs x else if x.file then symMode cs x else 0

/-! ### one entry: what `set_mode` of the prescribed mode means for the node -/

theorem file_of_flags {x : Entry} (h : x.dir = !x.file) :
    (x.dir = true → x.file = false) ∧ (x.dir = false → x.file = true) := by
  revert h; cases x.dir <;> cases x.file <;> simp

theorem lt_of_div512 {a b n : Nat} (hd : a / 512 = b / 512) (hb : b < 512 * n) : a < 512 * n := by
  rw [Nat.mul_comm, ← Nat.div_lt_iff_lt_mul (by decide)] at hb ⊢
  rw [hd]; exact hb

theorem perm_bound (a b T : Nat) (hT : T = 16384 ∨ T = 32768) (hd : a / 512 = b / 512)
    (hp : b - T < 4096) : a - T < 4096 := by
  have hb : b < T + 4096 := by omega
  suffices a < T + 4096 by omega
  rcases hT with rfl | rfl
  · exact lt_of_div512 hd (n := 40) hb
  · exact lt_of_div512 hd (n := 72) hb

/-- `set_mode` stores a canonical mode (type bits of the kind, nothing else above the permission
    bits) unchanged; since the `mode_type_bits` repair the second condition is needed (foreign
    high bits are masked away) -/
theorem setMode_mode_sym (x : Entry) (m : Nat) (hl : x.link = false) (hfl : x.dir = !x.file)
    (hm : m &&& typeBits (kindOf x) = typeBits (kindOf x))
    (hp : m - typeBits (kindOf x) < 0o10000) : (x.setMode m).mode = m := by
  have h0 : typeBits (kindOf x) &&& 0o7777 = 0 := by cases kindOf x <;> simp [typeBits]
  have hc := RefineA.canon_of_wf m _ h0 hm hp
  unfold kindOf at hc
  rw [hl] at hc
  unfold Entry.setMode
  simp only [ModeBits.optsMode_some]
  cases hd : x.dir with
  | true =>
    rw [hd] at hc
    simp only [hl, (file_of_flags hfl).1 hd, Bool.false_eq_true, if_false, if_true]
    exact hc
  | false =>
    rw [hd] at hc
    simp only [hl, (file_of_flags hfl).2 hd, Bool.false_eq_true, if_false, if_true]
    exact hc

theorem symFn_absNode (s : State) (k : FsPath) (x : Entry) (cs : List Clause) (hEF : RefineA.EntryFacts k x)
    (hl : x.link = false) :
    symFn cs (absNode s k x) = { absNode s k x with perm := symMode cs x - typeBits (kindOf x) } := by
  have hmode : (absNode s k x).mode = x.mode := RefineA.absNode_mode hEF
  cases hd : x.dir with
  | true =>
    have hk : kindOf x = .dir := (RefineA.kind_dir_iff x).2 ⟨hd, hl⟩
    have hek : ekind x = ⟨true, false, false⟩ := by unfold ekind; rw [hd, (file_of_flags hEF.flags).1 hd, hl]
    rw [symFn_dir (n := absNode s k x) hk, hmode, symMode, hek, hk]
  | false =>
    have hk : kindOf x = .file := (RefineA.kind_file_iff hEF).2 ⟨(file_of_flags hEF.flags).2 hd, hl⟩
    have hek : ekind x = ⟨false, true, false⟩ := by unfold ekind; rw [hd, (file_of_flags hEF.flags).2 hd, hl]
    rw [symFn_file (n := absNode s k x) hk, hmode, symMode, hek, hk]

theorem symMode_keeps {sym : List Char} {cs : List Clause} (hpe : parseExpr sym = some cs) {k : FsPath} {x : Entry}
    (hEF : RefineA.EntryFacts k x) : symMode cs x / 512 = x.mode / 512 := by
  have hlt : x.mode < 2 ^ 32 := by
    have := hEF.permWf
    have : typeBits (kindOf x) ≤ 0o120000 := by cases kindOf x <;> simp [typeBits]
    omega
  exact (Lemmas.mode_keeps (ekind x) x.mode sym _ hlt (Lemmas.mode_parsed _ _ _ _ hpe) (Lemmas.parseExpr_ne_nil hpe)).1

theorem node_sym (s : State) (k : FsPath) (x : Entry) (cs : List Clause) (hEF : RefineA.EntryFacts k x)
    (hl : x.link = false) (hd : symMode cs x / 512 = x.mode / 512) :
    absNode s k (x.setMode (symMode cs x)) = symFn cs (absNode s k x) ∧
    (symMode cs x = x.mode → absNode s k x = symFn cs (absNode s k x)) ∧ symMode cs x ≠ 0 := by
  obtain ⟨i, h9, hT⟩ := typeBits_pow x hl
  have htb : symMode cs x &&& typeBits (kindOf x) = typeBits (kindOf x) := by
    have := hEF.modeWf
    rw [hT, and_pow_iff] at this ⊢
    rw [testBit_of_div512 hd h9]; exact this
  have hperm : symMode cs x - typeBits (kindOf x) < 0o10000 :=
    perm_bound _ _ _ (by unfold kindOf; rw [hl]; cases x.dir <;> simp [typeBits]) hd hEF.permWf
  have hsm : (x.setMode (symMode cs x)).mode = symMode cs x := setMode_mode_sym x _ hl hEF.flags htb hperm
  rw [symFn_absNode s k x cs hEF hl]
  refine ⟨?_, fun heq => ?_, ne_zero_of_typeBits htb⟩
  · show { absNode s k x with perm := (x.setMode (symMode cs x)).mode - typeBits (kindOf x) } = _
    rw [hsm]
  · rw [heq]; rfl

/-! ### the simulation -/

theorem stepModeS_eq {cs : List Clause} {x : Entry} (h : stepModeS cs x ≠ 0) : stepModeS cs x = symMode cs x := by
  unfold stepModeS at h ⊢
  split
  · rfl
  · split
    · rfl
    · rename_i h1 h2; simp only [h1, h2] at h; exact absurd rfl h

theorem stepModeS_of_flags {cs : List Clause} {x : Entry} (hfl : x.dir = !x.file) : stepModeS cs x = symMode cs x := by
  unfold stepModeS
  cases hd : x.dir with
  | true => simp
  | false => rw [(file_of_flags hfl).2 hd]; simp

theorem chmodK_simS {s : State} {p : FsPath} {c : ChmodOpts} {cs : List Clause} (hP : InvP s)
    (hOk : RefineA.EntriesOk s) (hd0 : c.dirs = 0) (hf0 : c.files = 0) (hpe : parseExpr c.sym = some cs)
    (hf : c.follow = false) (hD : c.recursive = true → DepthOk s) :
    Sim (mapVal (fun _ => Val.unit) (chmodK c p) s)
      (liftR (fun _ => Val.unit) (chmodSym (absS s) p c.sym c.recursive)) := by
  rw [chmodSym_eq]
  simp only [hpe]
  refine trav_upd_sim hP c.recursive (fun snap hS hr => (chmodOpts_cf hP hS hf hr (hD hr)).walk)
    (fun hr => ⟨(chmodOpts_flat hf hr).plain, (chmodOpts_flat hf hr).maxDepth⟩)
    (fun x => preW (symMode cs x) x) (fun x => stepW (stepModeS cs x) x) (fun x e => e.setMode (symMode cs x))
    (fun _ _ => rfl)
    (fun x w => chmodPre_of hf (hd0 ▸ Lemmas.mode_parsed _ _ _ _ hpe) w)
    (fun x w => by
      rw [chmodStepF_of hf (m := stepModeS cs x) (by
        unfold stepModeS symMode
        rw [hd0, hf0, Lemmas.mode_parsed _ _ _ _ hpe]
        split
        · rfl
        · split <;> rfl)]
      cases h : stepW (stepModeS cs x) x with
      | false => rfl
      | true => rw [stepModeS_eq (stepW_true h).2])
    (fun k x hk hw => ?_) (fun k x hk hw => ?_)
  · have hl : x.link = false := by
      rcases Bool.or_eq_true_iff.1 hw with h | h
      · exact (preW_true h).1
      · exact (stepW_true h).1
    have hEF := RefineA.entriesOk_lookup hOk hk
    exact (node_sym s k x cs hEF hl (symMode_keeps hpe hEF)).1
  · have hEF := RefineA.entriesOk_lookup hOk hk
    cases hxl : x.link with
    | true => exact symFn_link (kind_link_of s k x hxl) cs
    | false =>
      -- the consumer leaves a non-link alone only if the expression prescribes the mode it has
      obtain ⟨_, n2, n3⟩ := node_sym s k x cs hEF hxl (symMode_keeps hpe hEF)
      rw [stepModeS_of_flags hEF.flags] at hw
      rcases stepW_false hw with h | h | h
      · rw [hxl] at h; cases h
      · exact (n2 h).symm
      · exact absurd h n3

/-- symbolic `chmod_b`: well-formed expression (class "-"), no octal value, no follow -/
theorem chmodB_sym_refines (env : Env) (s : State) (p : Str) (c : ChmodOpts) (hI : Inv s)
    (hOk : RefineA.EntriesOk s) (hc : classOf s env (.chmodB p c) = "-") (hsym : c.sym ≠ [])
    (hD : c.recursive = true → DepthOk s) : Refines env s (.chmodB p c) := by
  rw [refines_iff]
  intro y hy
  change (if c.follow = true then none else if c.sym = [] then _
    else if c.dirs = 0 ∧ c.files = 0 then some _ else none) = some y at hy
  cases hf : c.follow with
  | true => rw [hf, if_pos rfl] at hy; cases hy
  | false =>
    rw [hf, if_neg Bool.false_ne_true, if_neg hsym] at hy
    by_cases hz : c.dirs = 0 ∧ c.files = 0
    · rw [if_pos hz] at hy
      cases hy
      -- outside the class `sym_malformed` the expression parses
      change (if c.sym ≠ [] ∧ c.dirs = 0 ∧ c.files = 0 then
        (match parseExpr c.sym with | none => "sym_malformed" | some _ => "-") else "-") = "-" at hc
      rw [if_pos ⟨hsym, hz⟩] at hc
      cases hpe : parseExpr c.sym with
      | none => rw [hpe] at hc; exact absurd hc (by decide)
      | some cs =>
        show Sim (mapVal (fun _ => Val.unit) (chmodM env p c) s) _
        rw [chmodM_eq]
        apply sim_withPath
        intro a _
        exact chmodK_simS (inv_props hI) hOk hz.1 hz.2 hpe hf hD
    · rw [if_neg hz] at hy; cases hy

end Rivia.Lemmas.RefineC
