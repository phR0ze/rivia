/-
  Rivia.Lemmas.Content — helper lemmas for C06 (file contents of the Memfs model).

  Every content operation is, after path resolution, `onFile e g`: `_add` of a regular-file entry,
  then a continuation `g` on the bytes found under its key.  Frame, root clause and the state a
  successful call starts `g` from (`Opened`) are proved once for `onFile`.  The model functions are
  `absM env p >>= …At` *by definition* (`rfl`) for the key-level forms `writeAt`, `appendAt`,
  `cloneAt`, `openWriteAt`, `openAppendAt`.
-/
import Rivia.Model.MemfsOps
import Rivia.Lemmas.MemfsBase
import Rivia.Lemmas.InvA
import Rivia.Lemmas.File

namespace Rivia.Lemmas
open Rivia Rivia.Memfs Rivia.File Rivia.Memfs.M

/-- the byte-vector specification of file contents: what the data map stores under key `k` -/
def content (s : State) (k : FsPath) : Option Bytes := alLookup k s.files

/-! ### the monad applied to a state -/

@[simp] theorem pure_apply {α} (a : α) (s : State) : (Pure.pure a : M α) s = (.ok a, s) := rfl
@[simp] theorem mpure_apply {α} (a : α) (s : State) : (M.pure a : M α) s = (.ok a, s) := rfl
@[simp] theorem fail_apply {α} (k : ErrKind) (s : State) : (M.fail k : M α) s = (.err k, s) := rfl

theorem bind_apply {α β} (m : M α) (f : α → M β) (s : State) :
    (m >>= f) s = match m s with
      | (.ok a, s') => f a s'
      | (.err k, s') => (.err k, s')
      | (.panic, s') => (.panic, s')
      | (.hang, s') => (.hang, s') := rfl

theorem bind_ok {α β} {m : M α} {f : α → M β} {s s' : State} {a : α} (h : m s = (.ok a, s')) :
    (m >>= f) s = f a s' := by rw [bind_apply, h]
theorem bind_err {α β} {m : M α} {f : α → M β} {s s' : State} {k : ErrKind}
    (h : m s = (.err k, s')) : (m >>= f) s = (.err k, s') := by rw [bind_apply, h]
theorem bind_panic {α β} {m : M α} {f : α → M β} {s s' : State}
    (h : m s = (.panic, s')) : (m >>= f) s = (.panic, s') := by rw [bind_apply, h]
theorem bind_hang {α β} {m : M α} {f : α → M β} {s s' : State}
    (h : m s = (.hang, s')) : (m >>= f) s = (.hang, s') := by rw [bind_apply, h]

@[simp] theorem getEntry_bind {β} (p : FsPath) (f : Option Entry → M β) (s : State) :
    (getEntry p >>= f) s = f (alLookup p s.entries) s := rfl
@[simp] theorem getFile_bind {β} (p : FsPath) (f : Option Bytes → M β) (s : State) :
    (getFile p >>= f) s = f (alLookup p s.files) s := rfl
@[simp] theorem setEntry_bind {β} (p : FsPath) (e : Entry) (f : Unit → M β) (s : State) :
    (setEntry p e >>= f) s = f () { s with entries := alInsert p e s.entries } := rfl
@[simp] theorem setFile_bind {β} (p : FsPath) (b : Bytes) (f : Unit → M β) (s : State) :
    (setFile p b >>= f) s = f () { s with files := alInsert p b s.files } := rfl
@[simp] theorem setFile_apply (p : FsPath) (b : Bytes) (s : State) :
    setFile p b s = (.ok (), { s with files := alInsert p b s.files }) := rfl
@[simp] theorem setEntry_apply (p : FsPath) (e : Entry) (s : State) :
    setEntry p e s = (.ok (), { s with entries := alInsert p e s.entries }) := rfl
@[simp] theorem pure_bind_apply {α β} (a : α) (f : α → M β) (s : State) :
    ((Pure.pure a : M α) >>= f) s = f a s := rfl
@[simp] theorem mpure_bind_apply {α β} (a : α) (f : α → M β) (s : State) :
    ((M.pure a : M α) >>= f) s = f a s := rfl
@[simp] theorem fail_bind_apply {α β} (k : ErrKind) (f : α → M β) (s : State) :
    ((M.fail k : M α) >>= f) s = (.err k, s) := rfl
@[simp] theorem modify_bind {β} (g : State → State) (f : Unit → M β) (s : State) :
    (M.modify g >>= f) s = f () (g s) := rfl
@[simp] theorem modify_apply (g : State → State) (s : State) : M.modify g s = (.ok (), g s) := rfl
@[simp] theorem get_bind {β} (f : State → M β) (s : State) : (M.get >>= f) s = f s s := rfl
@[simp] theorem liftO_ok_bind {α β} (a : α) (f : α → M β) (s : State) :
    (M.liftO (.ok a) >>= f) s = f a s := rfl
@[simp] theorem liftO_err_bind {α β} (k : ErrKind) (f : α → M β) (s : State) :
    ((M.liftO (.err k) : M α) >>= f) s = (.err k, s) := rfl

/-! ### `mapVal` (what `step` wraps every operation in) -/

theorem mapVal_ok {α} {f : α → Val} {m : M α} {s s' : State} {v : Val}
    (h : mapVal f m s = (.ok v, s')) : ∃ a, m s = (.ok a, s') ∧ v = f a := by
  unfold mapVal at h
  split at h <;> simp_all

theorem mapVal_of_ok {α} {f : α → Val} {m : M α} {s s' : State} {a : α}
    (h : m s = (.ok a, s')) : mapVal f m s = (.ok (f a), s') := by
  unfold mapVal; rw [h]

theorem mapVal_congr {α} (f : α → Val) {m m' : M α} {s : State} (h : m s = m' s) :
    mapVal f m s = mapVal f m' s := by
  unfold mapVal; rw [h]

/-! ### `absM` only reads the working directory -/

theorem absM_fst_congr (env : Env) (p : Str) {s s' : State} (h : s'.cwd = s.cwd) :
    (absM env p s').1 = (absM env p s).1 := by
  unfold absM; rw [h]; split <;> rfl

theorem absM_eq (env : Env) (p : Str) (s : State) : absM env p s = ((absM env p s).1, s) :=
  Prod.ext rfl (absM_state env p s)

theorem absM_transport {env : Env} {p : Str} {s s' : State} {o : Outcome FsPath}
    (h : absM env p s = (o, s)) (hc : s'.cwd = s.cwd) : absM env p s' = (o, s') := by
  rw [absM_eq env p s', absM_fst_congr env p hc, h]

theorem path_op_ind {α} {P : State → Prop} (f : FsPath → M α) (env : Env) (p : Str) (s : State)
    (h0 : P s) (hf : ∀ k, absM env p s = (.ok k, s) → P (f k s).2) :
    P ((absM env p >>= f) s).2 := by
  rw [bind_apply]
  have h2 := absM_eq env p s
  cases hr : (absM env p s).1 with
  | ok k => rw [hr] at h2; rw [h2]; exact hf k h2
  | err kind => rw [hr] at h2; rw [h2]; exact h0
  | panic => rw [hr] at h2; rw [h2]; exact h0
  | hang => rw [hr] at h2; rw [h2]; exact h0

theorem absM_bind_ok {α} {env : Env} {p : Str} {s : State} {k : FsPath} (f : FsPath → M α)
    (h : absM env p s = (.ok k, s)) : (absM env p >>= f) s = f k s := bind_ok h

theorem absM_bind_fail {α} {env : Env} {p : Str} {s : State} (f : FsPath → M α)
    (h : ∀ k, absM env p s ≠ (.ok k, s)) :
    ((absM env p >>= f) s).2 = s ∧ ∀ v, ((absM env p >>= f) s).1 ≠ .ok v := by
  rw [bind_apply]
  have h2 := absM_eq env p s
  cases hr : (absM env p s).1 with
  | ok k => rw [hr] at h2; exact absurd h2 (h k)
  | err kind => rw [hr] at h2; rw [h2]; exact ⟨rfl, fun v hv => by cases hv⟩
  | panic => rw [hr] at h2; rw [h2]; exact ⟨rfl, fun v hv => by cases hv⟩
  | hang => rw [hr] at h2; rw [h2]; exact ⟨rfl, fun v hv => by cases hv⟩

theorem path_op_cwd {α} (f : FsPath → M α) (hf : ∀ k s, (f k s).2.cwd = s.cwd)
    (env : Env) (p : Str) (s : State) : ((absM env p >>= f) s).2.cwd = s.cwd :=
  path_op_ind (P := fun s' => s'.cwd = s.cwd) f env p s rfl (fun k _ => hf k s)

/-! ### frames -/

structure Frame (k : FsPath) (s s' : State) : Prop where
  cwd : s'.cwd = s.cwd
  other : ∀ q, q ≠ k → content s' q = content s q

theorem Frame.refl (k : FsPath) (s : State) : Frame k s s := ⟨rfl, fun _ _ => rfl⟩

theorem Frame.trans {k : FsPath} {s s1 s2 : State} (h1 : Frame k s s1) (h2 : Frame k s1 s2) :
    Frame k s s2 :=
  ⟨h2.cwd.trans h1.cwd, fun q hq => (h2.other q hq).trans (h1.other q hq)⟩

theorem Frame.of_files {k : FsPath} {s s' : State} (hc : s'.cwd = s.cwd)
    (hf : s'.files = s.files ∨ ∃ b, s'.files = alInsert k b s.files) : Frame k s s' := by
  refine ⟨hc, fun q hq => ?_⟩
  unfold content
  rcases hf with hf | ⟨b, hf⟩
  · rw [hf]
  · rw [hf, alLookup_alInsert_ne (Ne.symm hq)]

/-! ### the root clause -/

/-- the only state-shape fact the content theorems need (decidable, implied by `Spec.Inv`):
    if the data map has bytes for the root key then the root entry exists and is a file
    (`add` returns early on the root key without looking at anything) -/
def RootOk (s : State) : Prop :=
  (alLookup [] s.files).isSome = true →
    (match alLookup [] s.entries with | some e => e.file | none => false) = true

instance (s : State) : Decidable (RootOk s) := by unfold RootOk; infer_instance

theorem rootOk_entry {s : State} (h : RootOk s) {b : Bytes} (hb : alLookup [] s.files = some b) :
    ∃ e, alLookup [] s.entries = some e ∧ e.file = true := by
  have := h (by simp [hb])
  cases he : alLookup [] s.entries with
  | none => simp [he] at this
  | some e => simp only [he] at this; exact ⟨e, rfl, this⟩

theorem rootOk_iff (s : State) :
    RootOk s ↔ ((alLookup [] s.files).isSome = true →
      ((alLookup [] s.entries).map Entry.file).getD false = true) := by
  unfold RootOk
  cases alLookup [] s.entries <;> simp

theorem rootOk_congr {s s' : State}
    (hf : (alLookup [] s'.files).isSome = (alLookup [] s.files).isSome)
    (he : (alLookup [] s'.entries).map Entry.file = (alLookup [] s.entries).map Entry.file)
    (h : RootOk s) : RootOk s' := by
  rw [rootOk_iff] at h ⊢
  rw [hf, he]; exact h

theorem rootOk_setFile_present {s : State} {k : FsPath} (d : Bytes) (hp : (alLookup k s.files).isSome)
    (h : RootOk s) : RootOk { s with files := alInsert k d s.files } := by
  refine rootOk_congr (s := s) (s' := { s with files := alInsert k d s.files }) ?_ rfl h
  show (alLookup [] (alInsert k d s.files)).isSome = (alLookup [] s.files).isSome
  rw [alLookup_alInsert]
  split
  · rename_i hk; subst hk; rw [hp]; rfl
  · rfl

theorem rootOk_handles {s : State} (hs : List Handle) (h : RootOk s) :
    RootOk { s with handles := hs } := h

/-! ### `syncM` in closed form -/

theorem syncM_eq (k : FsPath) (d : Bytes) (s : State) :
    syncM k d s = match alLookup k s.entries with
      | some _ => (match alLookup k s.files with
        | some _ => (.ok (), { s with files := alInsert k d s.files })
        | none => (.ok (), s))
      | none => (.err .ioNotFound, s) := by
  unfold syncM
  simp only [getEntry_bind]
  cases alLookup k s.entries with
  | none => rfl
  | some e =>
    simp only [getFile_bind]
    cases alLookup k s.files <;> rfl

theorem syncM_present {k : FsPath} (d : Bytes) {s : State}
    (he : (alLookup k s.entries).isSome) (hf : (alLookup k s.files).isSome) :
    syncM k d s = (.ok (), { s with files := alInsert k d s.files }) := by
  rw [syncM_eq]
  cases h1 : alLookup k s.entries with
  | none => simp [h1] at he
  | some e =>
    cases h2 : alLookup k s.files with
    | none => simp [h2] at hf
    | some b => rfl

theorem syncM_Frame (k : FsPath) (d : Bytes) (s : State) : Frame k s (syncM k d s).2 := by
  rw [syncM_eq]
  split
  · split
    · exact Frame.of_files rfl (.inr ⟨_, rfl⟩)
    · exact Frame.refl k s
  · exact Frame.refl k s

theorem syncM_rootOk (k : FsPath) (d : Bytes) {s : State} (h : RootOk s) : RootOk (syncM k d s).2 := by
  rw [syncM_eq]
  split
  · split
    · rename_i b hb; exact rootOk_setFile_present d (by simp [hb]) h
    · exact h
  · exact h

/-! ### `add` on a regular-file entry: the four ways it can go -/

/-- what `mkfile`, the content operations and `copy` of a file add -/
structure Regular (e : Entry) : Prop where
  file : e.file = true
  link : e.link = false
  dir : e.dir = false

theorem regular_mkFile (k : FsPath) : Regular (mkFileEntry k) := ⟨rfl, rfl, rfl⟩

theorem addChild_dir {d : Entry} (h : d.dir = true) (n : Str) :
    ∃ b fs, d.addChild n = .ok (b, { d with files := some fs }) := by
  unfold Entry.addChild
  rw [if_neg (by simp [h])]
  cases d.files <;> exact ⟨_, _, rfl⟩

/-- (A) the root: nothing checked, nothing changed; (B) an error before any mutation;
    (C) the entry exists and is a file: nothing changed; (D) fresh: empty data and the entry are
    inserted (then the parent's child set is updated, which can still report `existsAlready`). -/
theorem add_regular {e : Entry} (he : Regular e) (s : State) :
    (e.path = [] ∧ add e s = (.ok e.path, s)) ∨
    (e.path ≠ [] ∧ ∃ kind, add e s = (.err kind, s)) ∨
    (e.path ≠ [] ∧ ∃ x, alLookup e.path s.entries = some x ∧ x.file = true ∧ add e s = (.ok e.path, s)) ∨
    (e.path ≠ [] ∧ alLookup e.path s.entries = none ∧ ∃ o ents',
        add e s = (o, { s with files := alInsert e.path [] s.files, entries := ents' }) ∧
        alLookup e.path ents' = some e ∧ (o = .ok e.path ∨ o = .err .existsAlready) ∧
        ∀ q, q ≠ e.path → (alLookup q ents').map Entry.file = (alLookup q s.entries).map Entry.file) := by
  generalize hr : add e s = r
  unfold add at hr
  by_cases hk : e.path = []
  · rw [if_pos hk] at hr
    exact .inl ⟨hk, hr.symm⟩
  refine .inr ?_
  simp only [if_neg hk, getEntry_bind] at hr
  cases hpar : alLookup e.path.dropLast s.entries with
  | none => rw [hpar] at hr; exact .inl ⟨hk, _, hr.symm⟩
  | some d =>
    rw [hpar] at hr
    by_cases hbad : (!d.dir || d.link) = true
    · simp only [hbad, if_true] at hr; exact .inl ⟨hk, _, hr.symm⟩
    simp only [hbad, if_false, getEntry_bind, he.file, he.link, he.dir, Bool.true_and, Bool.false_and,
      Bool.false_eq_true] at hr
    cases hent : alLookup e.path s.entries with
    | some x =>
      rw [hent] at hr
      cases hx : x.file
      · simp only [hx, Bool.not_false, if_true] at hr; exact .inl ⟨hk, _, hr.symm⟩
      · simp only [hx, Bool.not_true, Bool.false_eq_true, if_false] at hr
        exact .inr (.inl ⟨hk, x, rfl, hx, hr.symm⟩)
    | none =>
      have hdir : d.dir = true := by cases h : d.dir <;> simp [h] at hbad ⊢
      obtain ⟨b, fs, hac⟩ := addChild_dir hdir (baseName e.path)
      rw [hent] at hr
      simp only [Bool.not_false, Bool.and_self, ↓reduceIte, setFile_bind, setEntry_bind, getEntry_bind,
        alLookup_alInsert_ne (dropLast_ne_self hk).symm, hpar, hac, liftO_ok_bind] at hr
      refine .inr (.inr ⟨hk, rfl, if b then .ok e.path else .err .existsAlready,
        alInsert e.path.dropLast { d with files := some fs } (alInsert e.path e s.entries), ?_, ?_, ?_, ?_⟩)
      · rw [← hr]; cases b <;> rfl
      · rw [alLookup_alInsert_ne (dropLast_ne_self hk), alLookup_alInsert_self]
      · cases b <;> simp
      · intro q hq
        by_cases hqd : e.path.dropLast = q
        · subst hqd; rw [alLookup_alInsert_self, hpar]; rfl
        · rw [alLookup_alInsert_ne hqd, alLookup_alInsert_ne (Ne.symm hq)]

theorem add_regular_any {e : Entry} (he : Regular e) (s : State) :
    ∃ o s1, add e s = (o, s1) ∧ (o = .ok e.path ∨ ∃ kind, o = .err kind) ∧ Frame e.path s s1 ∧
      (RootOk s → RootOk s1) := by
  rcases add_regular he s with ⟨_, h⟩ | ⟨_, kind, h⟩ | ⟨_, _, _, _, h⟩ | ⟨hk, _, o, ents', h, _, ho, hfl⟩
  · exact ⟨_, _, h, .inl rfl, Frame.refl _ _, id⟩
  · exact ⟨_, _, h, .inr ⟨_, rfl⟩, Frame.refl _ _, id⟩
  · exact ⟨_, _, h, .inl rfl, Frame.refl _ _, id⟩
  · refine ⟨_, _, h, ?_, Frame.of_files rfl (.inr ⟨_, rfl⟩), rootOk_congr ?_ (hfl [] (Ne.symm hk))⟩
    · rcases ho with ho | ho
      · exact .inl ho
      · exact .inr ⟨_, ho⟩
    · show (alLookup [] (alInsert e.path [] s.files)).isSome = _
      rw [alLookup_alInsert_ne hk]

/-- `s1` is `s` after `add` of a regular-file entry at `k` returned `Ok`, and holds `b` under `k`:
    then `b` is what `k` held before (nothing, if the entry is new), and under the root clause the
    entry at `k` is a file -/
structure Opened (k : FsPath) (s s1 : State) (b : Bytes) : Prop where
  data : alLookup k s1.files = some b
  frame : Frame k s s1
  entry : RootOk s → ∃ x, alLookup k s1.entries = some x ∧ x.file = true
  old : (alLookup k s.entries).isSome → content s k = some b
  fresh : alLookup k s.entries = none → (alLookup k s1.entries).isSome → b = []

theorem add_regular_ok {e : Entry} (he : Regular e) {s s1 : State} {v : FsPath} {b : Bytes}
    (h : add e s = (.ok v, s1)) (hb : alLookup e.path s1.files = some b) : Opened e.path s s1 b := by
  rcases add_regular he s with ⟨hk, ha⟩ | ⟨_, kind, ha⟩ | ⟨_, x, hx, hxf, ha⟩ |
      ⟨_, hn, o, ents', ha, hent, _, _⟩
  · rw [ha] at h; cases h
    refine ⟨hb, Frame.refl _ _, fun hroot => ?_, fun _ => hb, fun hn hs => by simp [hn] at hs⟩
    rw [hk] at hb ⊢; exact rootOk_entry hroot hb
  · rw [ha] at h; cases h
  · rw [ha] at h; cases h
    exact ⟨hb, Frame.refl _ _, fun _ => ⟨x, hx, hxf⟩, fun _ => hb, fun hn => by simp [hx] at hn⟩
  · rw [ha] at h; cases h
    have : b = [] := by
      have h2 : alLookup e.path (alInsert e.path [] s.files) = some b := hb
      rw [alLookup_alInsert_self] at h2; cases h2; rfl
    exact ⟨hb, Frame.of_files rfl (.inr ⟨_, rfl⟩), fun _ => ⟨e, hent, he.file⟩,
      fun hs => by simp [hn] at hs, fun _ _ => this⟩

/-! ### `add`, then a continuation on the bytes under the key -/

/-- the shape of every content operation after path resolution: `_add` of a regular-file entry,
    then `g` on what the data map holds under its key -/
def onFile {α} (e : Entry) (g : Option Bytes → M α) : M α := do
  let _ ← add e
  g (← getFile e.path)

theorem onFile_frame {α} {e : Entry} (he : Regular e) {g : Option Bytes → M α}
    (hg : ∀ o s, Frame e.path s (g o s).2) (s : State) : Frame e.path s (onFile e g s).2 := by
  obtain ⟨o, s1, ha, ho, hF, _⟩ := add_regular_any he s
  unfold onFile
  rcases ho with rfl | ⟨kind, rfl⟩
  · rw [bind_ok ha]; exact hF.trans (hg _ s1)
  · rw [bind_err ha]; exact hF

theorem onFile_rootOk {α} {e : Entry} (he : Regular e) {g : Option Bytes → M α}
    (hg : ∀ o s, (alLookup e.path s.files = o) → RootOk s → RootOk (g o s).2) {s : State} (h : RootOk s) :
    RootOk (onFile e g s).2 := by
  obtain ⟨o, s1, ha, ho, _, hR⟩ := add_regular_any he s
  unfold onFile
  rcases ho with rfl | ⟨kind, rfl⟩
  · rw [bind_ok ha]; exact hg _ s1 rfl (hR h)
  · rw [bind_err ha]; exact hR h

theorem onFile_ok {α} {e : Entry} (he : Regular e) {g : Option Bytes → M α}
    (hnone : ∀ s a s', g none s ≠ (.ok a, s')) {s s' : State} {a : α}
    (h : onFile e g s = (.ok a, s')) :
    ∃ s1 b, Opened e.path s s1 b ∧ g (some b) s1 = (.ok a, s') := by
  obtain ⟨o, s1, ha, ho, _, _⟩ := add_regular_any he s
  unfold onFile at h
  rcases ho with rfl | ⟨kind, rfl⟩
  · rw [bind_ok ha, getFile_bind] at h
    cases hb : alLookup e.path s1.files with
    | none => rw [hb] at h; exact absurd h (hnone _ _ _)
    | some b => rw [hb] at h; exact ⟨s1, b, add_regular_ok he ha hb, h⟩
  · rw [bind_err ha] at h; cases h

/-! ### key-level forms of the content operations -/

/-- `write_all` after path resolution -/
def writeAt (k : FsPath) (d : Bytes) : M Unit := do
  let _ ← add (mkFileEntry k)
  if (← getFile k).isNone then fail .isNotFile else
  fun s => let (_, s') := syncM k d s; (.ok (), s')

/-- `append_all` after path resolution -/
def appendAt (k : FsPath) (d : Bytes) : M Unit := do
  let _ ← add (mkFileEntry k)
  match (← getFile k) with
  | some b =>
    syncM k (b ++ d)
    fun s => let (_, s') := syncM k (b ++ d) s; (.ok (), s')
  | none => fail .doesNotExist

/-- `_clone_file` after path resolution -/
def cloneAt (k : FsPath) : M Bytes := do
  match (← getEntry k) with
  | some e => if !e.file then fail .isNotFile else M.pure ()
  | none => M.pure ()
  match (← getFile k) with
  | some b => return b
  | none => fail .doesNotExist

def openWriteAt (k : FsPath) (id : Nat) : M Unit := do
  let _ ← add (mkFileEntry k)
  if (← getFile k).isNone then fail .isNotFile else
  modify fun s => { s with handles := ⟨id, k, []⟩ :: s.handles }

def openAppendAt (k : FsPath) (id : Nat) : M Unit := do
  let _ ← add (mkFileEntry k)
  match (← getFile k) with
  | some b => modify fun s => { s with handles := ⟨id, k, b⟩ :: s.handles }
  | none => fail .doesNotExist

theorem writeAllM_eq (env : Env) (p : Str) (d : Bytes) :
    writeAllM env p d = absM env p >>= fun k => writeAt k d := rfl
theorem appendAllM_eq (env : Env) (p : Str) (d : Bytes) :
    appendAllM env p d = absM env p >>= fun k => appendAt k d := rfl
theorem cloneFileM_eq (env : Env) (p : Str) : cloneFileM env p = absM env p >>= cloneAt := rfl
theorem openWriteM_eq (env : Env) (p : Str) (id : Nat) :
    openWriteM env p id = absM env p >>= fun k => openWriteAt k id := rfl
theorem openAppendM_eq (env : Env) (p : Str) (id : Nat) :
    openAppendM env p id = absM env p >>= fun k => openAppendAt k id := rfl

theorem writeAt_onFile (k : FsPath) (d : Bytes) :
    writeAt k d = onFile (mkFileEntry k) fun o =>
      if o.isNone then fail .isNotFile else fun s => (.ok (), (syncM k d s).2) := rfl

theorem appendAt_onFile (k : FsPath) (d : Bytes) :
    appendAt k d = onFile (mkFileEntry k) fun o => match o with
      | some b => syncM k (b ++ d) >>= fun _ s => (.ok (), (syncM k (b ++ d) s).2)
      | none => fail .doesNotExist := rfl

theorem openWriteAt_onFile (k : FsPath) (id : Nat) :
    openWriteAt k id = onFile (mkFileEntry k) fun o =>
      if o.isNone then fail .isNotFile
      else modify fun s => { s with handles := ⟨id, k, []⟩ :: s.handles } := rfl

theorem openAppendAt_onFile (k : FsPath) (id : Nat) :
    openAppendAt k id = onFile (mkFileEntry k) fun o => match o with
      | some b => modify fun s => { s with handles := ⟨id, k, b⟩ :: s.handles }
      | none => fail .doesNotExist := rfl

theorem cloneAt_eq (k : FsPath) (s : State) :
    cloneAt k s = match alLookup k s.entries with
      | some e => if e.file then (match alLookup k s.files with
          | some b => (.ok b, s) | none => (.err .doesNotExist, s)) else (.err .isNotFile, s)
      | none => (match alLookup k s.files with
          | some b => (.ok b, s) | none => (.err .doesNotExist, s)) := by
  unfold cloneAt
  simp only [getEntry_bind]
  cases alLookup k s.entries with
  | none => simp only [mpure_bind_apply, getFile_bind]; cases alLookup k s.files <;> rfl
  | some e =>
    cases hf : e.file
    · simp [hf]
    · simp only [hf, Bool.not_true, Bool.false_eq_true, if_false, mpure_bind_apply, getFile_bind,
        if_true]
      cases alLookup k s.files <;> rfl

/-! ### frames and root clause of the key-level operations -/

/-- flush, then drop, as `append_all` does with the extended bytes: the second `syncM` finds the
    data it has just written, so it changes nothing. -/
theorem syncTwice_eq (k : FsPath) (d : Bytes) (s : State) :
    (syncM k d >>= fun _ s => (.ok (), (syncM k d s).2)) s =
      match alLookup k s.entries with
      | some _ => (.ok (), (syncM k d s).2)
      | none => (.err .ioNotFound, s) := by
  rw [bind_apply, syncM_eq]
  cases he : alLookup k s.entries with
  | none => rfl
  | some e =>
    cases hf : alLookup k s.files with
    | none => simp only [syncM_eq, he, hf]
    | some b => simp only [syncM_eq, he, alLookup_alInsert_self, alInsert_alInsert]

theorem writeAt_frame (k : FsPath) (d : Bytes) (s : State) : Frame k s (writeAt k d s).2 := by
  rw [writeAt_onFile]
  refine onFile_frame (regular_mkFile k) (fun o s => ?_) s
  cases o
  · exact Frame.refl k s
  · exact syncM_Frame k d s

theorem appendAt_frame (k : FsPath) (d : Bytes) (s : State) : Frame k s (appendAt k d s).2 := by
  rw [appendAt_onFile]
  refine onFile_frame (regular_mkFile k) (fun o s => ?_) s
  cases o with
  | none => exact Frame.refl k s
  | some b =>
    simp only [syncTwice_eq]
    split
    · exact syncM_Frame k (b ++ d) s
    · exact Frame.refl k s

theorem openWriteAt_frame (k : FsPath) (id : Nat) (s : State) : Frame k s (openWriteAt k id s).2 := by
  rw [openWriteAt_onFile]
  refine onFile_frame (regular_mkFile k) (fun o s => ?_) s
  cases o
  · exact Frame.refl k s
  · exact Frame.of_files rfl (.inl rfl)

theorem openAppendAt_frame (k : FsPath) (id : Nat) (s : State) : Frame k s (openAppendAt k id s).2 := by
  rw [openAppendAt_onFile]
  refine onFile_frame (regular_mkFile k) (fun o s => ?_) s
  cases o
  · exact Frame.refl k s
  · exact Frame.of_files rfl (.inl rfl)

theorem writeAt_rootOk (k : FsPath) (d : Bytes) {s : State} (h : RootOk s) :
    RootOk (writeAt k d s).2 := by
  rw [writeAt_onFile]
  refine onFile_rootOk (regular_mkFile k) (fun o s _ hs => ?_) h
  cases o
  · exact hs
  · exact syncM_rootOk k d hs

theorem appendAt_rootOk (k : FsPath) (d : Bytes) {s : State} (h : RootOk s) :
    RootOk (appendAt k d s).2 := by
  rw [appendAt_onFile]
  refine onFile_rootOk (regular_mkFile k) (fun o s _ hs => ?_) h
  cases o with
  | none => exact hs
  | some b =>
    simp only [syncTwice_eq]
    split
    · exact syncM_rootOk k (b ++ d) hs
    · exact hs

theorem openWriteAt_rootOk (k : FsPath) (id : Nat) {s : State} (h : RootOk s) :
    RootOk (openWriteAt k id s).2 := by
  rw [openWriteAt_onFile]
  refine onFile_rootOk (regular_mkFile k) (fun o s _ hs => ?_) h
  cases o <;> exact hs

theorem openAppendAt_rootOk (k : FsPath) (id : Nat) {s : State} (h : RootOk s) :
    RootOk (openAppendAt k id s).2 := by
  rw [openAppendAt_onFile]
  refine onFile_rootOk (regular_mkFile k) (fun o s _ hs => ?_) h
  cases o <;> exact hs

/-! ### what a successful write / append leaves behind -/

/-- `k` holds exactly `d` and nothing stops `read` from returning it -/
def Readable (s : State) (k : FsPath) (d : Bytes) : Prop :=
  content s k = some d ∧ ∃ x, alLookup k s.entries = some x ∧ x.file = true

theorem cloneAt_of_readable {s : State} {k : FsPath} {d : Bytes} (h : Readable s k d) :
    cloneAt k s = (.ok d, s) := by
  rw [cloneAt_eq]
  have hc : alLookup k s.files = some d := h.1
  obtain ⟨x, hx, hxf⟩ := h.2
  simp only [hc, hx, hxf, if_true]

theorem writeAt_ok {k : FsPath} {d : Bytes} {s s' : State} {u : Unit} (hroot : RootOk s)
    (h : writeAt k d s = (.ok u, s')) : Readable s' k d := by
  rw [writeAt_onFile] at h
  obtain ⟨s1, b, (O : Opened k s s1 b), hg⟩ :=
    onFile_ok (regular_mkFile k) (fun _ _ _ h => by cases h) h
  obtain ⟨x, hx, hxf⟩ := O.entry hroot
  have hs : (syncM k d s1).2 = s' := congrArg Prod.snd hg
  rw [syncM_present d (by simp [hx]) (by simp [O.data])] at hs
  rw [← hs]
  exact ⟨alLookup_alInsert_self _ _ _, x, hx, hxf⟩

theorem appendAt_ok {k : FsPath} {d : Bytes} {s s' : State} {u : Unit}
    (h : appendAt k d s = (.ok u, s')) :
    ((alLookup k s.entries).isSome → ∃ old, content s k = some old ∧ content s' k = some (old ++ d)) ∧
    (alLookup k s.entries = none → content s' k = some d) ∧
    (RootOk s → ∃ x, alLookup k s'.entries = some x ∧ x.file = true) := by
  rw [appendAt_onFile] at h
  obtain ⟨s1, b, (O : Opened k s s1 b), hg⟩ :=
    onFile_ok (regular_mkFile k) (fun _ _ _ h => by cases h) h
  simp only [syncTwice_eq] at hg
  cases he : alLookup k s1.entries with
  | none => rw [he] at hg; cases hg
  | some x =>
    rw [he] at hg
    have hs : (syncM k (b ++ d) s1).2 = s' := congrArg Prod.snd hg
    rw [syncM_present _ (by simp [he]) (by simp [O.data])] at hs
    have hc : content s' k = some (b ++ d) := by rw [← hs]; exact alLookup_alInsert_self _ _ _
    refine ⟨fun hsome => ⟨b, O.old hsome, hc⟩, fun hn => ?_, fun hroot => ?_⟩
    · rw [hc, O.fresh hn (by simp [he])]; rfl
    · rw [← hs]; exact O.entry hroot

/-! ### the clauses of `Spec.Inv` that matter for contents -/

/-- the clauses of `Spec.Inv` used by the content lemmas -/
structure InvFacts (s : State) : Prop where
  rootDir : ∃ e, alLookup [] s.entries = some e ∧ e.dir = true ∧ e.link = false
  data : ∀ k e, alLookup k s.entries = some e → (e.file && !e.link) = (alLookup k s.files).isSome
  named : ∀ k e fs n, alLookup k s.entries = some e → e.files = some fs → n ∈ fs →
    (alLookup (k ++ [n]) s.entries).isSome = true
  pathField : ∀ k e, alLookup k s.entries = some e → e.path = k
  childSet : ∀ k e, alLookup k s.entries = some e → e.files.isSome = e.dir

theorem invFacts_of_inv {s : State} (h : Spec.Inv s) : InvFacts s := by
  have P := (InvA.inv_iff s).1 h
  exact ⟨P.rootOk, fun k e he => Bool.eq_iff_iff.2 (by simpa using P.data k e he), P.child,
    P.pathField, fun k e he => Bool.eq_iff_iff.2 (P.filesDir k e he)⟩

theorem rootOk_of_inv {s : State} (h : Spec.Inv s) : RootOk s := by
  obtain ⟨e, he, _, hl⟩ := (invFacts_of_inv h).rootDir
  have hd := (invFacts_of_inv h).data [] e he
  intro hsome
  simp only [he]
  rw [hsome, hl] at hd
  simpa using hd

/-! ### handles -/

theorem handleWriteM_eq (id : Nat) (c : Bytes) (s : State) :
    handleWriteM id c s = (.ok (), { s with handles :=
      (s.handles.map (fun h => if h.id = id then { h with data := h.data ++ c } else h)) }) := rfl

theorem handleFlushM_eq (id : Nat) (s : State) :
    handleFlushM id s = match s.handles.find? (·.id = id) with
      | some h => syncM h.path h.data s
      | none => (.ok (), s) := by
  unfold handleFlushM
  simp only [get_bind]
  cases s.handles.find? (·.id = id) <;> rfl

theorem handleDropM_like_flush (id : Nat) (s : State) :
    (handleDropM id s).2.files = (handleFlushM id s).2.files ∧
      (handleDropM id s).2.entries = (handleFlushM id s).2.entries := by
  unfold handleDropM
  rw [handleFlushM_eq]
  cases s.handles.find? (·.id = id) <;> exact ⟨rfl, rfl⟩

/-- the key a handle operation can touch: the path of the first handle with that id -/
def handleKey (s : State) (id : Nat) : Option FsPath := (s.handles.find? (·.id = id)).map (·.path)

theorem handleWriteM_frame (id : Nat) (c : Bytes) (s : State) (k : FsPath) :
    Frame k s (handleWriteM id c s).2 := by
  rw [handleWriteM_eq]; exact Frame.of_files rfl (Or.inl rfl)

theorem handleFlushM_frame (id : Nat) (s : State) (q : FsPath) (hq : handleKey s id ≠ some q) :
    content (handleFlushM id s).2 q = content s q := by
  rw [handleFlushM_eq]
  unfold handleKey at hq
  cases hf : s.handles.find? (·.id = id) with
  | none => rfl
  | some h =>
    simp only [hf, Option.map_some, ne_eq, Option.some.injEq] at hq
    exact (syncM_Frame h.path h.data s).other q (fun e => hq e.symm)

theorem handleDropM_frame (id : Nat) (s : State) (q : FsPath) (hq : handleKey s id ≠ some q) :
    content (handleDropM id s).2 q = content s q := by
  unfold content
  rw [(handleDropM_like_flush id s).1]
  exact handleFlushM_frame id s q hq

/-- the invariant of an open write/append session on key `k` through handle `id`: entry and data
    are present and the first handle with this id points at `k` and carries `data` -/
def Sess (s : State) (k : FsPath) (id : Nat) (data : Bytes) : Prop :=
  (alLookup k s.entries).isSome = true ∧ (alLookup k s.files).isSome = true ∧
  ∃ h, s.handles.find? (·.id = id) = some h ∧ h.path = k ∧ h.data = data

theorem sess_put {s : State} {k : FsPath} {id : Nat} {data : Bytes} (c : Bytes)
    (h : Sess s k id data) : Sess (handleWriteM id c s).2 k id (data ++ c) := by
  obtain ⟨he, hf, hd, hfind, hp, hdat⟩ := h
  rw [handleWriteM_eq]
  refine ⟨he, hf, { hd with data := hd.data ++ c }, ?_, hp, by rw [← hdat]⟩
  have hid : hd.id = id := by simpa using List.find?_some hfind
  show List.find? _ (List.map _ s.handles) = _
  rw [List.find?_map]
  have : ((fun (x : Handle) => decide (x.id = id)) ∘
      (fun (h : Handle) => if h.id = id then { h with data := h.data ++ c } else h)) =
      (fun (x : Handle) => decide (x.id = id)) := by
    funext x
    by_cases hx : x.id = id <;> simp [hx]
  rw [this, hfind]
  simp [hid]

theorem sess_flush {s : State} {k : FsPath} {id : Nat} {data : Bytes}
    (h : Sess s k id data) :
    Sess (handleFlushM id s).2 k id data ∧ content (handleFlushM id s).2 k = some data ∧
      (handleFlushM id s).1 = .ok () := by
  obtain ⟨he, hf, hd, hfind, hp, hdat⟩ := h
  rw [handleFlushM_eq, hfind]
  simp only [hp, hdat]
  rw [syncM_present data he hf]
  refine ⟨⟨he, ?_, hd, hfind, hp, hdat⟩, alLookup_alInsert_self _ _ _, rfl⟩
  show (alLookup k (alInsert k data s.files)).isSome = true
  rw [alLookup_alInsert_self]; rfl

theorem sess_drop {s : State} {k : FsPath} {id : Nat} {data : Bytes}
    (h : Sess s k id data) : content (handleDropM id s).2 k = some data := by
  unfold content
  rw [(handleDropM_like_flush id s).1]
  exact (sess_flush h).2.1

theorem find_head (id : Nat) (k : FsPath) (b : Bytes) (hs : List Handle) :
    List.find? (fun h => decide (h.id = id)) (⟨id, k, b⟩ :: hs) = some ⟨id, k, b⟩ := by
  simp [List.find?]

theorem openWriteAt_ok {k : FsPath} {id : Nat} {s s' : State} {u : Unit} (hroot : RootOk s)
    (h : openWriteAt k id s = (.ok u, s')) : Sess s' k id [] := by
  rw [openWriteAt_onFile] at h
  obtain ⟨s1, b, (O : Opened k s s1 b), hg⟩ :=
    onFile_ok (regular_mkFile k) (fun _ _ _ h => by cases h) h
  obtain ⟨x, hx, _⟩ := O.entry hroot
  cases hg
  exact ⟨by simp [hx], by simp [O.data], _, find_head _ _ _ _, rfl, rfl⟩

theorem openAppendAt_ok {k : FsPath} {id : Nat} {s s' : State} {u : Unit} (hroot : RootOk s)
    (h : openAppendAt k id s = (.ok u, s')) :
    ∃ b, Sess s' k id b ∧ ((alLookup k s.entries).isSome → content s k = some b) ∧
      (alLookup k s.entries = none → b = []) := by
  rw [openAppendAt_onFile] at h
  obtain ⟨s1, b, (O : Opened k s s1 b), hg⟩ :=
    onFile_ok (regular_mkFile k) (fun _ _ _ h => by cases h) h
  obtain ⟨x, hx, _⟩ := O.entry hroot
  cases hg
  exact ⟨b, ⟨by simp [hx], by simp [O.data], _, find_head _ _ _ _, rfl, rfl⟩, O.old,
    fun hn => O.fresh hn (by simp [hx])⟩

/-! ### from keys back to `step` -/

/-- the key a path argument resolves to in state `s` (`none` when resolution fails) -/
def keyOf (env : Env) (s : State) (p : Str) : Option FsPath :=
  match absM env p s with
  | (.ok k, _) => some k
  | _ => none

theorem keyOf_of_abs {env : Env} {s : State} {p : Str} {k : FsPath} (h : absM env p s = (.ok k, s)) :
    keyOf env s p = some k := by
  unfold keyOf; rw [h]

theorem abs_of_keyOf {env : Env} {s : State} {p : Str} {k : FsPath} (h : keyOf env s p = some k) :
    absM env p s = (.ok k, s) := by
  unfold keyOf at h
  rw [absM_eq env p s] at h ⊢
  cases hr : (absM env p s).1 <;> simp_all

theorem path_op_frame {α} (f : FsPath → M α) (hf : ∀ k s, Frame k s (f k s).2)
    (env : Env) (p : Str) (s : State) (q : FsPath) (hq : keyOf env s p ≠ some q) :
    content ((absM env p >>= f) s).2 q = content s q :=
  path_op_ind (P := fun s' => content s' q = content s q) f env p s rfl
    (fun k hk => (hf k s).other q (fun e => hq (by rw [keyOf_of_abs hk, e])))

theorem writeAllM_frame (env : Env) (p : Str) (d : Bytes) (s : State) (q : FsPath)
    (hq : keyOf env s p ≠ some q) : content (writeAllM env p d s).2 q = content s q := by
  rw [writeAllM_eq]; exact path_op_frame _ (fun k s => writeAt_frame k d s) env p s q hq

theorem appendAllM_frame (env : Env) (p : Str) (d : Bytes) (s : State) (q : FsPath)
    (hq : keyOf env s p ≠ some q) : content (appendAllM env p d s).2 q = content s q := by
  rw [appendAllM_eq]; exact path_op_frame _ (fun k s => appendAt_frame k d s) env p s q hq

theorem openWriteM_frame (env : Env) (p : Str) (id : Nat) (s : State) (q : FsPath)
    (hq : keyOf env s p ≠ some q) : content (openWriteM env p id s).2 q = content s q := by
  rw [openWriteM_eq]; exact path_op_frame _ (fun k s => openWriteAt_frame k id s) env p s q hq

theorem openAppendM_frame (env : Env) (p : Str) (id : Nat) (s : State) (q : FsPath)
    (hq : keyOf env s p ≠ some q) : content (openAppendM env p id s).2 q = content s q := by
  rw [openAppendM_eq]; exact path_op_frame _ (fun k s => openAppendAt_frame k id s) env p s q hq

/-- the line helpers are `write_all` / `append_all` of the joined bytes, or nothing at all -/
theorem step_writeLines_eq (env : Env) (s : State) (p : Str) (ls : List Str) :
    step env s (.writeLines p ls) = match joinLines ls with
      | some b => step env s (.writeAll p b)
      | none => (.ok .unit, s) := by
  show mapVal _ (writeLinesM env p ls) s = _
  unfold writeLinesM
  cases joinLines ls <;> rfl

theorem step_appendLines_eq (env : Env) (s : State) (p : Str) (ls : List Str) :
    step env s (.appendLines p ls) = match joinLines ls with
      | some b => step env s (.appendAll p b)
      | none => (.ok .unit, s) := by
  show mapVal _ (appendLinesM env p ls) s = _
  unfold appendLinesM
  cases joinLines ls <;> rfl

theorem step_appendLine_eq (env : Env) (s : State) (p : Str) (l : Str) :
    step env s (.appendLine p l) =
      if l = [] then (.ok .unit, s) else step env s (.appendAll p (utf8 l ++ [nl])) := by
  show mapVal _ (appendLineM env p l) s = _
  unfold appendLineM
  split <;> rfl

/-- the operations that write file contents -/
def isContentOp : Op → Bool
  | .writeAll _ _ | .appendAll _ _ | .writeLines _ _ | .appendLines _ _ | .appendLine _ _
  | .hWrite _ _ | .hAppend _ _ | .hPut _ _ | .hFlush _ | .hDrop _ => true
  | _ => false

/-- the one key such an operation may touch: the resolved path, or the handle's path -/
def opKey (env : Env) (s : State) : Op → Option FsPath
  | .writeAll p _ | .appendAll p _ | .writeLines p _ | .appendLines p _ | .appendLine p _
  | .hWrite _ p | .hAppend _ p => keyOf env s p
  | .hFlush id | .hDrop id => handleKey s id
  | _ => none

theorem step_frame (env : Env) (s : State) (op : Op) (hop : isContentOp op = true) (q : FsPath)
    (hq : opKey env s op ≠ some q) : content (step env s op).2 q = content s q := by
  have hw : ∀ p d, keyOf env s p ≠ some q → content (step env s (.writeAll p d)).2 q = content s q :=
    fun p d h => (congrArg (content · q) (mapVal_snd _ _ s)).trans (writeAllM_frame env p d s q h)
  have ha : ∀ p d, keyOf env s p ≠ some q → content (step env s (.appendAll p d)).2 q = content s q :=
    fun p d h => (congrArg (content · q) (mapVal_snd _ _ s)).trans (appendAllM_frame env p d s q h)
  cases op <;> cases hop
  · exact hw _ _ hq
  · exact ha _ _ hq
  · rw [step_writeLines_eq]; split
    · exact hw _ _ hq
    · rfl
  · rw [step_appendLines_eq]; split
    · exact ha _ _ hq
    · rfl
  · rw [step_appendLine_eq]; split
    · rfl
    · exact ha _ _ hq
  · exact (congrArg (content · q) (mapVal_snd _ _ s)).trans (openWriteM_frame env _ _ s q hq)
  · exact (congrArg (content · q) (mapVal_snd _ _ s)).trans (openAppendM_frame env _ _ s q hq)
  · rfl
  · exact (congrArg (content · q) (mapVal_snd _ _ s)).trans (handleFlushM_frame _ s q hq)
  · exact (congrArg (content · q) (mapVal_snd _ _ s)).trans (handleDropM_frame _ s q hq)

/-! ### reading back through `step` -/

theorem cloneFileM_of_readable {env : Env} {p : Str} {s : State} {k : FsPath} {d : Bytes}
    (habs : absM env p s = (.ok k, s)) (hr : Readable s k d) : cloneFileM env p s = (.ok d, s) := by
  rw [cloneFileM_eq, absM_bind_ok _ habs, cloneAt_of_readable hr]

theorem step_read_of_readable {env : Env} {p : Str} {s : State} {k : FsPath} {d : Bytes}
    (habs : absM env p s = (.ok k, s)) (hr : Readable s k d) :
    step env s (.read p) = (.ok (.bytes d), s) :=
  mapVal_of_ok (cloneFileM_of_readable habs hr)

theorem step_readAll_of_readable {env : Env} {p : Str} {s : State} {k : FsPath} {d : Bytes}
    (habs : absM env p s = (.ok k, s)) (hr : Readable s k d) :
    step env s (.readAll p) = match decodeUtf8 d with
      | some str => (.ok (.str str), s)
      | none => (.err .ioInvalidData, s) := by
  show mapVal _ (readAllM env p) s = _
  unfold readAllM mapVal
  rw [bind_ok (cloneFileM_of_readable habs hr)]
  cases decodeUtf8 d <;> rfl

theorem step_readLines_of_readable {env : Env} {p : Str} {s : State} {k : FsPath} {d : Bytes}
    (habs : absM env p s = (.ok k, s)) (hr : Readable s k d) :
    step env s (.readLines p) = match decodeUtf8 d with
      | some str => (.ok (.strs (splitLines str)), s)
      | none => (.err .ioInvalidData, s) := by
  show mapVal _ (readLinesM env p) s = _
  unfold readLinesM mapVal
  rw [bind_ok (cloneFileM_of_readable habs hr)]
  cases decodeUtf8 d <;> rfl

/-! ### write / append through `step` -/

theorem path_step_ok {α} {f : FsPath → M α} {g : α → Val} {env : Env} {p : Str} {s s' : State}
    {k : FsPath} {v : Val} (habs : absM env p s = (.ok k, s))
    (h : mapVal g (absM env p >>= f) s = (.ok v, s')) : ∃ a, f k s = (.ok a, s') := by
  obtain ⟨a, ha, _⟩ := mapVal_ok h
  rw [absM_bind_ok _ habs] at ha
  exact ⟨a, ha⟩

theorem writeAt_cwd {k : FsPath} {d : Bytes} {s s' : State} {o : Outcome Unit}
    (h : writeAt k d s = (o, s')) : s'.cwd = s.cwd := by
  have := (writeAt_frame k d s).cwd; rw [h] at this; exact this

theorem appendAt_cwd {k : FsPath} {d : Bytes} {s s' : State} {o : Outcome Unit}
    (h : appendAt k d s = (o, s')) : s'.cwd = s.cwd := by
  have := (appendAt_frame k d s).cwd; rw [h] at this; exact this

/-! ### a whole handle session through `run` -/

/-- the `Op` a handle operation of C07's `WOp` corresponds to, for handle `id` -/
def wopToOp (id : Nat) : WOp → Op
  | .write c => .hPut id c
  | .flush => .hFlush id

theorem step_hPut_snd (env : Env) (s : State) (id : Nat) (c : Bytes) :
    (step env s (.hPut id c)).2 = (handleWriteM id c s).2 := mapVal_snd _ _ _
theorem step_hFlush_snd (env : Env) (s : State) (id : Nat) :
    (step env s (.hFlush id)).2 = (handleFlushM id s).2 := mapVal_snd _ _ _
theorem step_hDrop_snd (env : Env) (s : State) (id : Nat) :
    (step env s (.hDrop id)).2 = (handleDropM id s).2 := mapVal_snd _ _ _

theorem sess_run (env : Env) (id : Nat) (k : FsPath) (ops : List WOp) :
    ∀ (s : State) (data : Bytes), Sess s k id data →
      Sess (run env s (ops.map (wopToOp id))) k id (data ++ chunksOf ops) := by
  induction ops with
  | nil => intro s data h; simpa [run, chunksOf] using h
  | cons op rest ih =>
    intro s data h
    cases op with
    | write c =>
      simp only [List.map_cons, wopToOp, run, chunksOf, step_hPut_snd]
      rw [← List.append_assoc]
      exact ih _ _ (sess_put c h)
    | flush =>
      simp only [List.map_cons, wopToOp, run, chunksOf, step_hFlush_snd]
      exact ih _ _ (sess_flush h).1

theorem run_append (env : Env) (s : State) (a b : List Op) :
    run env s (a ++ b) = run env (run env s a) b := by
  induction a generalizing s with
  | nil => rfl
  | cons x r ih => simp only [List.cons_append, run]; exact ih _

theorem session_drop (env : Env) (id : Nat) (k : FsPath) (ops : List WOp) (s : State) (data : Bytes)
    (h : Sess s k id data) :
    content (run env s (ops.map (wopToOp id) ++ [.hDrop id])) k = some (data ++ chunksOf ops) := by
  rw [run_append]
  simp only [run, step_hDrop_snd]
  exact sess_drop (sess_run env id k ops s data h)

theorem session_flush (env : Env) (id : Nat) (k : FsPath) (ops : List WOp) (s : State) (data : Bytes)
    (h : Sess s k id data) :
    content (run env s (ops.map (wopToOp id) ++ [.hFlush id])) k = some (data ++ chunksOf ops) := by
  rw [run_append]
  simp only [run, step_hFlush_snd]
  exact (sess_flush (sess_run env id k ops s data h)).2.1

/-! ### the root clause is preserved by every content operation -/

theorem step_rootOk (env : Env) (s : State) (op : Op) (hop : isContentOp op = true)
    (h : RootOk s) : RootOk (step env s op).2 := by
  have hw : ∀ p d, RootOk (step env s (.writeAll p d)).2 := fun p d =>
    (mapVal_snd _ _ s).symm ▸
      path_op_ind (fun k => writeAt k d) env p s h (fun k _ => writeAt_rootOk k d h)
  have ha : ∀ p d, RootOk (step env s (.appendAll p d)).2 := fun p d =>
    (mapVal_snd _ _ s).symm ▸
      path_op_ind (fun k => appendAt k d) env p s h (fun k _ => appendAt_rootOk k d h)
  have hfl : ∀ id, RootOk (handleFlushM id s).2 := fun id => by
    rw [handleFlushM_eq]; split
    · exact syncM_rootOk _ _ h
    · exact h
  cases op <;> cases hop
  · exact hw _ _
  · exact ha _ _
  · rw [step_writeLines_eq]; split
    · exact hw _ _
    · exact h
  · rw [step_appendLines_eq]; split
    · exact ha _ _
    · exact h
  · rw [step_appendLine_eq]; split
    · exact h
    · exact ha _ _
  · exact (mapVal_snd _ _ s).symm ▸
      path_op_ind (fun k => openWriteAt k _) env _ s h (fun k _ => openWriteAt_rootOk k _ h)
  · exact (mapVal_snd _ _ s).symm ▸
      path_op_ind (fun k => openAppendAt k _) env _ s h (fun k _ => openAppendAt_rootOk k _ h)
  · exact h
  · exact (mapVal_snd _ _ s).symm ▸ hfl _
  · rename_i id
    refine (mapVal_snd _ _ s).symm ▸ rootOk_congr ?_ ?_ (hfl id)
    · rw [(handleDropM_like_flush id s).1]
    · rw [(handleDropM_like_flush id s).2]

/-! ### any sequence of content operations on one path against the byte-vector model -/

/-- the path-based content operations -/
inductive COp where
  | writeAll (d : Bytes) | appendAll (d : Bytes)
  | writeLines (ls : List Str) | appendLines (ls : List Str) | appendLine (l : Str)
  deriving Repr, DecidableEq

def COp.toOp (p : Str) : COp → Op
  | .writeAll d => .writeAll p d
  | .appendAll d => .appendAll p d
  | .writeLines ls => .writeLines p ls
  | .appendLines ls => .appendLines p ls
  | .appendLine l => .appendLine p l

/-- the byte-vector model: a write replaces, an append extends, the line helpers hand over
    `joinLines` (and do nothing when that is empty) -/
def COp.apply (old : Bytes) : COp → Bytes
  | .writeAll d => d
  | .appendAll d => old ++ d
  | .writeLines ls => match joinLines ls with | some b => b | none => old
  | .appendLines ls => match joinLines ls with | some b => old ++ b | none => old
  | .appendLine l => if l = [] then old else old ++ (utf8 l ++ [nl])

/-- every call of the history returns `Ok` -/
def runOk (env : Env) : State → List Op → Prop
  | _, [] => True
  | s, op :: r => (step env s op).1.isOk = true ∧ runOk env (step env s op).2 r

instance runOk.decidable (env : Env) : ∀ (s : State) (ops : List Op), Decidable (runOk env s ops)
  | _, [] => isTrue trivial
  | s, op :: r =>
    have := runOk.decidable env (step env s op).2 r
    by unfold runOk; infer_instance

theorem isOk_iff {α} (o : Outcome α) : o.isOk = true ↔ ∃ v, o = .ok v := by
  cases o <;> simp [Outcome.isOk]

theorem appendAt_readable {k : FsPath} {d b : Bytes} {s s' : State} {u : Unit} (hroot : RootOk s)
    (hr : Readable s k b) (h : appendAt k d s = (.ok u, s')) : Readable s' k (b ++ d) := by
  obtain ⟨x, hx, _⟩ := hr.2
  obtain ⟨old, h1, h2⟩ := (appendAt_ok h).1 (by simp [hx])
  rw [hr.1] at h1; cases h1
  exact ⟨h2, (appendAt_ok h).2.2 hroot⟩

/-- the invariant of a history on path `p`: root clause, `p` still resolves to `k`, and `k` is a
    readable file holding `b` -/
structure Tracks (env : Env) (p : Str) (k : FsPath) (s : State) (b : Bytes) : Prop where
  root : RootOk s
  abs : absM env p s = (.ok k, s)
  readable : Readable s k b

theorem tracks_write {env : Env} {p : Str} {k : FsPath} {s : State} {b : Bytes} (d : Bytes)
    (h : Tracks env p k s b) (hok : ∃ v, (step env s (.writeAll p d)).1 = .ok v) :
    Tracks env p k (step env s (.writeAll p d)).2 d := by
  obtain ⟨v, hv⟩ := hok
  have hs : step env s (.writeAll p d) = (.ok v, (step env s (.writeAll p d)).2) := Prod.ext hv rfl
  obtain ⟨u, hu⟩ := path_step_ok (f := fun k => writeAt k d) h.abs hs
  exact ⟨step_rootOk env s _ rfl h.root, absM_transport h.abs (writeAt_cwd hu), writeAt_ok h.root hu⟩

theorem tracks_append {env : Env} {p : Str} {k : FsPath} {s : State} {b : Bytes} (d : Bytes)
    (h : Tracks env p k s b) (hok : ∃ v, (step env s (.appendAll p d)).1 = .ok v) :
    Tracks env p k (step env s (.appendAll p d)).2 (b ++ d) := by
  obtain ⟨v, hv⟩ := hok
  have hs : step env s (.appendAll p d) = (.ok v, (step env s (.appendAll p d)).2) := Prod.ext hv rfl
  obtain ⟨u, hu⟩ := path_step_ok (f := fun k => appendAt k d) h.abs hs
  exact ⟨step_rootOk env s _ rfl h.root, absM_transport h.abs (appendAt_cwd hu),
    appendAt_readable h.root h.readable hu⟩

theorem tracks_step {env : Env} {p : Str} {k : FsPath} {s : State} {b : Bytes} (c : COp)
    (h : Tracks env p k s b) (hok : ∃ v, (step env s (c.toOp p)).1 = .ok v) :
    Tracks env p k (step env s (c.toOp p)).2 (c.apply b) := by
  cases c with
  | writeAll d => exact tracks_write d h hok
  | appendAll d => exact tracks_append d h hok
  | writeLines ls =>
    simp only [COp.toOp, COp.apply, step_writeLines_eq] at hok ⊢
    revert hok
    cases joinLines ls with
    | none => intro _; exact h
    | some b' => intro hok; exact tracks_write b' h hok
  | appendLines ls =>
    simp only [COp.toOp, COp.apply, step_appendLines_eq] at hok ⊢
    revert hok
    cases joinLines ls with
    | none => intro _; exact h
    | some b' => intro hok; exact tracks_append b' h hok
  | appendLine l =>
    simp only [COp.toOp, COp.apply, step_appendLine_eq] at hok ⊢
    by_cases hl : l = []
    · simp only [hl, if_true]; exact h
    · simp only [hl, if_false] at hok ⊢; exact tracks_append _ h hok

theorem tracks_run {env : Env} {p : Str} {k : FsPath} (cs : List COp) :
    ∀ {s : State} {b : Bytes}, Tracks env p k s b → runOk env s (cs.map (COp.toOp p)) →
      Tracks env p k (run env s (cs.map (COp.toOp p))) (cs.foldl COp.apply b) := by
  induction cs with
  | nil => intro s b h _; exact h
  | cons c r ih =>
    intro s b h hok
    simp only [List.map_cons, runOk] at hok
    simp only [List.map_cons, run, List.foldl_cons]
    exact ih (tracks_step c h ((isOk_iff _).1 hok.1)) hok.2

end Rivia.Lemmas
