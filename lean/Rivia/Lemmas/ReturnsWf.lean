/-
  Rivia.Lemmas.ReturnsWf — the abstraction of a well-formed Memfs state is a well-formed tree in the
  sense of the Stdfs refinement (`StdfsL.Wf`: distinct keys, `/` a directory, the parent of every other
  key a directory).
-/
import Rivia.Lemmas.StdfsWfStep
import Rivia.Lemmas.SimStep
import Rivia.Lemmas.ReachInv

namespace Rivia.Lemmas.RetWf
open Rivia Rivia.Memfs Rivia.Spec Rivia.Spec.TreeFs Rivia.Lemmas

theorem wf_of_nodup_anc {t : T} (hn : Sim.NodupK t) (ha : Sim.AncDir t) (hr : isDir t [] = true) :
    StdfsL.Wf t :=
  StdfsWf.wf_of_facts ⟨hn, hr, fun k n hk hne =>
    ha k.dropLast (k.getLast hne) [] (by rw [List.dropLast_concat_getLast hne, hk]; rfl)⟩

theorem wf_absS_of_inv {s : State} (h : Spec.Inv s) : StdfsL.Wf (absS s) := by
  refine wf_of_nodup_anc (Sim.nodupK_absS h) (Sim.ancDir_absS h) ?_
  obtain ⟨e, he, hd, hl⟩ := (RefineB.inv_props h).root
  rw [RefineB.isDir_absS, he]
  simp [hd, hl]

end Rivia.Lemmas.RetWf
