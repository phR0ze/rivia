/-
  Rivia.Lemmas.InvBMove — C03 (group B): `moveP` preserves the strengthened invariant
  (`Inv ∧ KeysWf ∧ SortedKids ∧ FlagsOk`).

  `moveLoop` re-keys the subtree at `S` to `D` top-down; `MoveInv` is its loop invariant on the lookup
  functions. Every iteration but the first only re-keys one entry (`MoveInv.step`). The first one also
  re-links the two parents; on the lookup functions that is `relist` applied to every other entry
  (`MoveInv.first`). The equations for one iteration of the model are those of `Lemmas/MoveP.lean`.
-/
import Rivia.Lemmas.InvBOps
import Rivia.Lemmas.MoveP

namespace Rivia.Lemmas.InvB
open Rivia Rivia.Memfs Rivia.File Rivia.Spec Rivia.Lemmas Rivia.Memfs.M

theorem append_ne_append {S D : FsPath} (h1 : ¬ S <+: D) (h2 : ¬ D <+: S) (r r' : FsPath) : S ++ r ≠ D ++ r' := by
  intro h
  rcases List.append_eq_append_iff.1 h with ⟨a, ha, _⟩ | ⟨c, hc, _⟩
  · exact h1 ⟨a, ha.symm⟩
  · exact h2 ⟨c, hc.symm⟩

theorem append_ne_nil_right (a : FsPath) {r : FsPath} (h : r ≠ []) : a ++ r ≠ [] :=
  fun hh => h (List.append_eq_nil_iff.1 hh).2

/-- the loop invariant of `moveLoop` on lookup functions: `W` are the still-unmoved subtree roots
    (all of the form `S ++ r`), whose new parent `D ++ r.dropLast` is already in place -/
structure MoveInv (S D : FsPath) (E : FsPath → Option Entry) (F : FsPath → Option Bytes) (W : List FsPath) : Prop where
  root : ∃ e, E [] = some e ∧ e.dir = true ∧ e.link = false
  wfmt : ∀ w ∈ W, ∃ r, r ≠ [] ∧ w = S ++ r
  wnodup : W.Nodup
  wexists : ∀ w ∈ W, (E w).isSome = true
  wparentGone : ∀ w ∈ W, E w.dropLast = none
  wdstFree : ∀ r, S ++ r ∈ W → E (D ++ r) = none
  wparent : ∀ r, S ++ r ∈ W → ∃ pe fs, E (D ++ r.dropLast) = some pe ∧ pe.dir = true ∧ pe.link = false ∧
    pe.files = some fs ∧ baseName (S ++ r) ∈ fs
  parent : ∀ k e, E k = some e → k ≠ [] → k ∉ W →
    ∃ pe fs, E k.dropLast = some pe ∧ pe.dir = true ∧ pe.link = false ∧ pe.files = some fs ∧ baseName k ∈ fs
  kids : ∀ k e fs n, E k = some e → e.files = some fs → n ∈ fs →
    (E (k ++ [n])).isSome = true ∨ ∃ r, k = D ++ r ∧ S ++ r ++ [n] ∈ W
  data : ∀ k e, E k = some e → ((e.file = true ∧ e.link = false) ↔ (F k).isSome = true)
  dangling : ∀ k, (F k).isSome = true → (E k).isSome = true
  path : ∀ k e, E k = some e → e.path = k
  dirflag : ∀ k e, E k = some e → (e.files.isSome = true ↔ e.dir = true)
  nodupKids : ∀ k e fs, E k = some e → e.files = some fs → fs.Nodup
  ext : ExtL E

theorem MoveInv.done {S D : FsPath} {E F} (h : MoveInv S D E F []) : InvL E F ∧ ExtL E :=
  ⟨⟨h.root, fun k e hk hne => h.parent k e hk hne (by simp),
    fun k e fs n hk hf hn => by
      rcases h.kids k e fs n hk hf hn with h1 | ⟨r, _, h2⟩
      · exact h1
      · simp at h2,
    h.data, h.dangling, h.path, h.dirflag, h.nodupKids⟩, h.ext⟩

theorem parent_real {E : FsPath → Option Entry} {w : FsPath} {e : Entry} (he : E w = some e) {n : Str}
    (hc : (E (w ++ [n])).isSome = true)
    (hpar : ∀ c, E (w ++ [n]) = some c → ∃ pe fs, E (w ++ [n]).dropLast = some pe ∧ pe.dir = true ∧
      pe.link = false ∧ pe.files = some fs ∧ baseName (w ++ [n]) ∈ fs) : e.dir = true ∧ e.link = false := by
  cases hx : E (w ++ [n]) with
  | none => rw [hx] at hc; cases hc
  | some c =>
    obtain ⟨pe, _, g1, g2, g3, _⟩ := hpar c hx
    rw [List.dropLast_concat, he] at g1; cases g1
    exact ⟨g2, g3⟩

theorem MoveInv.step {S D : FsPath} {E E' : FsPath → Option Entry} {F F' : FsPath → Option Bytes}
    {W : List FsPath} {r : FsPath} {e : Entry}
    (hS1 : ¬ S <+: D) (hS2 : ¬ D <+: S) (hD : ∀ n ∈ D, BodyPiece n)
    (h : MoveInv S D E F ((S ++ r) :: W)) (he : E (S ++ r) = some e)
    (hE : ∀ k, E' k = if D ++ r = k then some (movedEntry e (D ++ r)) else if S ++ r = k then none else E k)
    (hF : ∀ k, F' k = if D ++ r = k then F (S ++ r) else if S ++ r = k then none else F k) :
    MoveInv S D E' F' ((kidsOf e).reverse ++ W) := by
  have hdisj := append_ne_append hS1 hS2
  obtain ⟨hwW, hWnd⟩ := List.nodup_cons.1 h.wnodup
  have hwin : S ++ r ∈ (S ++ r) :: W := List.mem_cons_self
  have hr : r ≠ [] := by
    obtain ⟨r0, hr0, h0⟩ := h.wfmt (S ++ r) List.mem_cons_self
    rw [List.append_cancel_left h0]; exact hr0
  have hpath : e.path = (S ++ r) := h.path (S ++ r) e he
  have hwd : D ++ r ≠ (S ++ r) := (hdisj r r).symm
  have hEd : E (D ++ r) = none := h.wdstFree r hwin
  have hEwd : E (S ++ r).dropLast = none := h.wparentGone (S ++ r) List.mem_cons_self
  have hE'd : E' (D ++ r) = some (movedEntry e (D ++ r)) := by rw [hE, if_pos rfl]
  have hE's : E' (S ++ r) = none := by rw [hE, if_neg hwd, if_pos rfl]
  have same : ∀ k, (S ++ r) ≠ k → D ++ r ≠ k → E' k = E k := fun k h1 h2 => by rw [hE, if_neg h2, if_neg h1]
  have keep : ∀ k x, E k = some x → (S ++ r) ≠ k → E' k = some x := by
    intro k x hk h1
    rw [same k h1 (fun hh => by rw [← hh, hEd] at hk; cases hk), hk]
  have key : ∀ k x, E' k = some x →
      (D ++ r = k ∧ x = movedEntry e (D ++ r)) ∨ (D ++ r ≠ k ∧ (S ++ r) ≠ k ∧ E k = some x) := by
    intro k x hk
    rw [hE] at hk
    by_cases h1 : D ++ r = k
    · rw [if_pos h1] at hk; cases hk; exact Or.inl ⟨h1, rfl⟩
    · rw [if_neg h1] at hk
      by_cases h2 : (S ++ r) = k
      · rw [if_pos h2] at hk; cases hk
      · rw [if_neg h2] at hk; exact Or.inr ⟨h1, h2, hk⟩
  have memW : ∀ k, k ∈ (kidsOf e).reverse ++ W ↔ (∃ fs n, e.files = some fs ∧ n ∈ fs ∧ k = (S ++ r) ++ [n]) ∨ k ∈ W := by
    intro k; rw [List.mem_append, List.mem_reverse, mem_kidsOf, hpath]
  have kid_notW : ∀ n, (S ++ r) ++ [n] ∉ (S ++ r) :: W := by
    intro n hm
    rcases List.mem_cons.1 hm with h1 | h1
    · exact snoc_ne_self (S ++ r) n h1
    · have := h.wparentGone _ (List.mem_cons_of_mem _ h1)
      rw [List.dropLast_concat, he] at this; cases this
  have kid_exists : ∀ fs n, e.files = some fs → n ∈ fs → (E ((S ++ r) ++ [n])).isSome = true := by
    intro fs n hf hn
    rcases h.kids (S ++ r) e fs n he hf hn with h1 | ⟨r1, h1, _⟩
    · exact h1
    · exact absurd h1 (hdisj r r1)
  have e_real : ∀ fs n, e.files = some fs → n ∈ fs → e.dir = true ∧ e.link = false := fun fs n hf hn =>
    parent_real he (kid_exists fs n hf hn) (fun c hc => h.parent _ c hc (by simp) (kid_notW n))
  have pend : ∀ r1, S ++ r1 ∈ W → D ++ r ≠ D ++ r1 := by
    intro r1 h1 hh
    exact hwW (by rw [List.append_cancel_left hh]; exact h1)
  constructor
  · obtain ⟨e0, h0, h1, h2⟩ := h.root
    exact ⟨e0, keep [] e0 h0 (append_ne_nil_right S hr), h1, h2⟩
  · intro u hu
    rcases (memW u).1 hu with ⟨fs, n, hf, hn, rfl⟩ | hu
    · exact ⟨r ++ [n], by simp, by rw [List.append_assoc]⟩
    · exact h.wfmt u (List.mem_cons_of_mem _ hu)
  · rw [List.nodup_append]
    refine ⟨nodup_reverse' (nodup_kidsOf (fun fs => h.nodupKids (S ++ r) e fs he)), hWnd, ?_⟩
    intro a ha b hb hab
    subst hab
    obtain ⟨fs, n, hf, hn, h1⟩ := mem_kidsOf.1 (List.mem_reverse.1 ha)
    rw [hpath] at h1; subst h1
    exact kid_notW n (List.mem_cons_of_mem _ hb)
  · intro u hu
    rcases (memW u).1 hu with ⟨fs, n, hf, hn, rfl⟩ | hu
    · cases hc : E ((S ++ r) ++ [n]) with
      | none => have := kid_exists fs n hf hn; rw [hc] at this; cases this
      | some c => rw [keep _ c hc (snoc_ne_self (S ++ r) n).symm]; rfl
    · cases hc : E u with
      | none => have := h.wexists u (List.mem_cons_of_mem _ hu); rw [hc] at this; cases this
      | some c => rw [keep _ c hc (fun hh => hwW (hh ▸ hu))]; rfl
  · intro u hu
    rcases (memW u).1 hu with ⟨fs, n, hf, hn, rfl⟩ | hu
    · rw [List.dropLast_concat]; exact hE's
    · have h1 := h.wparentGone u (List.mem_cons_of_mem _ hu)
      obtain ⟨ru, hru, rfl⟩ := h.wfmt u (List.mem_cons_of_mem _ hu)
      rw [same _ (fun hh => by rw [← hh, he] at h1; cases h1)
        (by rw [List.dropLast_append_of_ne_nil hru]; exact (hdisj _ _).symm)]
      exact h1
  · intro r1 hr1
    rcases (memW _).1 hr1 with ⟨fs, n, hf, hn, h2⟩ | h1
    · rw [List.append_assoc] at h2
      have : r1 = r ++ [n] := List.append_cancel_left h2
      subst this
      rw [same _ (hdisj r _) (fun hh => snoc_ne_self r n (List.append_cancel_left hh).symm)]
      cases hc : E (D ++ (r ++ [n])) with
      | none => rfl
      | some c =>
        -- its parent `D ++ r` would exist
        exfalso
        obtain ⟨pe, _, g1, _⟩ := h.parent _ c hc (by simp) (fun hm => by
          obtain ⟨r2, _, h3⟩ := h.wfmt _ hm
          exact hdisj r2 _ h3.symm)
        rw [← List.append_assoc, List.dropLast_concat, hEd] at g1; cases g1
    · rw [same _ (hdisj r r1) (pend r1 h1)]
      exact h.wdstFree r1 (List.mem_cons_of_mem _ h1)
  · intro r1 hr1
    rcases (memW _).1 hr1 with ⟨fs, n, hf, hn, h2⟩ | h1
    · rw [List.append_assoc] at h2
      have : r1 = r ++ [n] := List.append_cancel_left h2
      subst this
      obtain ⟨g1, g2⟩ := e_real fs n hf hn
      refine ⟨movedEntry e (D ++ r), fs, ?_, g1, g2, hf, ?_⟩
      · rw [List.dropLast_concat]; exact hE'd
      · rw [← List.append_assoc, InvA.baseName_concat]; exact hn
    · obtain ⟨pe, fs, g1, g2, g3, g4, g5⟩ := h.wparent r1 (List.mem_cons_of_mem _ h1)
      exact ⟨pe, fs, keep _ pe g1 (hdisj r _), g2, g3, g4, g5⟩
  · intro k x hk hne hkW
    rcases key k x hk with ⟨rfl, rfl⟩ | ⟨h1, h2, h3⟩
    · obtain ⟨pe, fs, g1, g2, g3, g4, g5⟩ := h.wparent r hwin
      refine ⟨pe, fs, ?_, g2, g3, g4, ?_⟩
      · rw [List.dropLast_append_of_ne_nil hr]; exact keep _ pe g1 (hdisj r _)
      · rw [baseName_append (p := D) hr, ← baseName_append (p := S) hr]; exact g5
    · obtain ⟨pe, fs, g1, g2, g3, g4, g5⟩ := h.parent k x h3 hne (fun hm => by
        rcases List.mem_cons.1 hm with h4 | h4
        · exact h2 h4.symm
        · exact hkW ((memW k).2 (Or.inr h4)))
      refine ⟨pe, fs, keep _ pe g1 ?_, g2, g3, g4, g5⟩
      -- a child of `S ++ r` would be pending
      intro hh
      rw [← hh, he] at g1; cases g1
      exact hkW ((memW k).2 (Or.inl ⟨fs, baseName k, g4, g5, by rw [hh, dropLast_append_baseName hne]⟩))
  · intro k x fs n hk hf hn
    rcases key k x hk with ⟨rfl, rfl⟩ | ⟨h1, h2, h3⟩
    · exact Or.inr ⟨r, rfl, (memW _).2 (Or.inl ⟨fs, n, hf, hn, rfl⟩)⟩
    · rcases h.kids k x fs n h3 hf hn with g | ⟨r1, g1, g2⟩
      · left
        cases hc : E (k ++ [n]) with
        | none => rw [hc] at g; cases g
        | some c =>
          rw [keep _ c hc (fun hh => by rw [hh, List.dropLast_concat, h3] at hEwd; cases hEwd)]; rfl
      · rcases List.mem_cons.1 g2 with g3 | g3
        · left
          rw [List.append_assoc] at g3
          rw [g1, List.append_assoc, List.append_cancel_left g3, hE'd]; rfl
        · exact Or.inr ⟨r1, g1, (memW _).2 (Or.inr g3)⟩
  · intro k x hk
    rcases key k x hk with ⟨rfl, rfl⟩ | ⟨h1, h2, h3⟩
    · rw [hF, if_pos rfl]; exact h.data (S ++ r) e he
    · rw [hF, if_neg h1, if_neg h2]; exact h.data k x h3
  · intro k hk
    rw [hF] at hk
    by_cases h1 : D ++ r = k
    · rw [← h1, hE'd]; rfl
    · rw [if_neg h1] at hk
      by_cases h2 : (S ++ r) = k
      · rw [if_pos h2] at hk; cases hk
      · rw [if_neg h2] at hk
        cases hc : E k with
        | none => have := h.dangling k hk; rw [hc] at this; cases this
        | some c => rw [keep k c hc h2]; rfl
  · intro k x hk
    rcases key k x hk with ⟨rfl, rfl⟩ | ⟨h1, h2, h3⟩
    · rfl
    · exact h.path k x h3
  · intro k x hk
    rcases key k x hk with ⟨rfl, rfl⟩ | ⟨h1, h2, h3⟩
    · exact h.dirflag (S ++ r) e he
    · exact h.dirflag k x h3
  · intro k x fs hk hf
    rcases key k x hk with ⟨rfl, rfl⟩ | ⟨h1, h2, h3⟩
    · exact h.nodupKids (S ++ r) e fs he hf
    · exact h.nodupKids k x fs h3 hf
  · constructor
    · intro k x hk n hn
      rcases key k x hk with ⟨rfl, rfl⟩ | ⟨h1, h2, h3⟩
      · rcases List.mem_append.1 hn with g | g
        · exact hD n g
        · exact h.ext.keysWf (S ++ r) e he n (List.mem_append_right _ g)
      · exact h.ext.keysWf k x h3 n hn
    · intro k x fs hk hf
      rcases key k x hk with ⟨rfl, rfl⟩ | ⟨h1, h2, h3⟩
      · exact h.ext.sorted (S ++ r) e fs he hf
      · exact h.ext.sorted k x fs h3 hf
    · intro k x hk
      rcases key k x hk with ⟨rfl, rfl⟩ | ⟨h1, h2, h3⟩
      · exact h.ext.flags (S ++ r) e he
      · exact h.ext.flags k x h3

/-! ### the first iteration -/

/-- what the first iteration does to a child list stored at `k`: the old parent of `S` forgets it, the new
    parent of `D` lists it (one list sees both when `S` is renamed inside its directory) -/
def relistNames (S D k : FsPath) (fs : List Str) : List Str :=
  let fs' := if k = S.dropLast then fs.filter (· ≠ baseName S) else fs
  if k = D.dropLast then (insertName (baseName D) fs').2 else fs'

def relist (S D k : FsPath) (x : Entry) : Entry := { x with files := x.files.map (relistNames S D k) }

theorem mem_relistNames {S D k : FsPath} {fs : List Str} {n : Str} :
    n ∈ relistNames S D k fs ↔
      (n ∈ fs ∧ ¬ (k = S.dropLast ∧ n = baseName S)) ∨ (k = D.dropLast ∧ n = baseName D) := by
  have hf : ∀ l : List Str, n ∈ (if k = S.dropLast then l.filter (· ≠ baseName S) else l) ↔
      n ∈ l ∧ ¬ (k = S.dropLast ∧ n = baseName S) := by
    intro l
    split
    · next h1 => simp [List.mem_filter, h1]
    · next h1 => simp [h1]
  unfold relistNames
  dsimp only
  split
  · next h2 => rw [mem_insertName, hf]; simp only [h2, true_and]; exact or_comm
  · next h2 => rw [hf]; simp only [h2, false_and, or_false]

theorem insertName_cons_snd (n a : Str) (r : List Str) :
    (insertName n (a :: r)).2 =
      if n = a then a :: r else if strLt n a = true then n :: a :: r else a :: (insertName n r).2 := by
  rw [insertName]
  split
  · rfl
  · split <;> rfl

theorem insertName_of_mem_sorted {n : Str} {l : List Str} (hs : l.Pairwise nameLE) (hn : n ∈ l) :
    (insertName n l).2 = l := by
  induction l with
  | nil => simp at hn
  | cons a r ih =>
    rw [insertName_cons_snd]
    by_cases h1 : n = a
    · rw [if_pos h1]
    · rw [if_neg h1]
      simp only [List.pairwise_cons] at hs
      have hr : n ∈ r := by simpa [h1] using hn
      have : strLt n a = false := hs.1 n hr
      rw [if_neg (by simp [this]), ih hs.2 hr]

theorem lists_relistNames {S D k : FsPath} {fs : List Str} (hs : fs.Pairwise nameLE) (hn : fs.Nodup) :
    (relistNames S D k fs).Nodup ∧ (relistNames S D k fs).Pairwise nameLE := by
  unfold relistNames
  have h1 : (if k = S.dropLast then fs.filter (· ≠ baseName S) else fs).Nodup ∧
      (if k = S.dropLast then fs.filter (· ≠ baseName S) else fs).Pairwise nameLE := by
    split
    · exact ⟨hn.filter _, hs.filter _⟩
    · exact ⟨hn, hs⟩
  dsimp only
  split
  · refine ⟨?_, InvA.pairwise_insertName _ h1.2⟩
    by_cases hm : baseName D ∈ (if k = S.dropLast then fs.filter (· ≠ baseName S) else fs)
    · rw [insertName_of_mem_sorted h1.2 hm]; exact h1.1
    · exact InvA.insertName_nodup hm h1.1
  · exact h1

theorem relist_files {S D k : FsPath} {x : Entry} {fs : List Str} (h : (relist S D k x).files = some fs) :
    ∃ fo, x.files = some fo ∧ fs = relistNames S D k fo := by
  unfold relist at h
  cases hx : x.files with
  | none => rw [hx] at h; cases h
  | some fo => rw [hx] at h; cases h; exact ⟨fo, rfl, rfl⟩

theorem relist_other {S D k : FsPath} (h1 : k ≠ S.dropLast) (h2 : k ≠ D.dropLast) (x : Entry) :
    relist S D k x = x := by
  have : relistNames S D k = id := funext fun fs => by simp only [relistNames, if_neg h1, if_neg h2]; rfl
  have hf : Option.map id x.files = x.files := by cases x.files <;> rfl
  unfold relist
  rw [this, hf]

theorem MoveInv.first {S D : FsPath} {E E1 : FsPath → Option Entry} {F F1 : FsPath → Option Bytes} {e : Entry}
    (hI : InvL E F) (hX : ExtL E) (hS : S ≠ []) (hDne : D ≠ []) (hS1 : ¬ S <+: D) (hD : ∀ n ∈ D, BodyPiece n)
    (he : E S = some e)
    (hdd : ∃ x, E D.dropLast = some x ∧ x.dir = true ∧ x.link = false)
    (hDfree : ∀ x, E D = some x → x.files = none)
    (hE1 : ∀ k, E1 k = if D = k then some (movedEntry e D) else if S = k then none
      else (E k).map (relist S D k))
    (hF1 : ∀ k, F1 k = if D = k then F S else if S = k then none else F k) :
    MoveInv S D E1 F1 ((kidsOf e).reverse ++ []) := by
  have hDS : D ≠ S := fun hh => hS1 (hh ▸ List.prefix_refl _)
  have hpath : e.path = S := hI.path S e he
  have hE1D : E1 D = some (movedEntry e D) := by rw [hE1, if_pos rfl]
  have hE1S : E1 S = none := by rw [hE1, if_neg hDS, if_pos rfl]
  have keep : ∀ k o, E k = some o → D ≠ k → S ≠ k → E1 k = some (relist S D k o) := by
    intro k o ho h1 h2; rw [hE1, if_neg h1, if_neg h2, ho]; rfl
  have key : ∀ k x, E1 k = some x → D ≠ k → S ≠ k ∧ ∃ o, E k = some o ∧ x = relist S D k o := by
    intro k x hk hkD
    rw [hE1, if_neg hkD] at hk
    by_cases hkS : S = k
    · rw [if_pos hkS] at hk; cases hk
    · rw [if_neg hkS] at hk
      cases ho : E k with
      | none => rw [ho] at hk; cases hk
      | some o => rw [ho] at hk; cases hk; exact ⟨hkS, o, rfl, rfl⟩
  have memW : ∀ k, k ∈ (kidsOf e).reverse ++ [] ↔ ∃ fs n, e.files = some fs ∧ n ∈ fs ∧ k = S ++ [n] := by
    intro k; rw [List.append_nil, List.mem_reverse, mem_kidsOf, hpath]
  have kid_exists : ∀ fs n, e.files = some fs → n ∈ fs → (E (S ++ [n])).isSome = true :=
    fun fs n hf hn => hI.kids S e fs n he hf hn
  have e_real : ∀ fs n, e.files = some fs → n ∈ fs → e.dir = true ∧ e.link = false := fun fs n hf hn =>
    parent_real he (kid_exists fs n hf hn) (fun c hc => hI.parent _ c hc (by simp))
  have noDkid : ∀ n, E (D ++ [n]) = none := by
    intro n
    cases hc : E (D ++ [n]) with
    | none => rfl
    | some c =>
      obtain ⟨pe, fs, g2, _, _, g3, _⟩ := hI.parent _ c hc (by simp)
      rw [List.dropLast_concat] at g2
      rw [hDfree pe g2] at g3; cases g3
  have hDk : ∀ n, D ≠ S ++ [n] := fun n hh => hS1 ⟨[n], hh.symm⟩
  constructor
  · obtain ⟨e0, h0, h1, h2⟩ := hI.root
    exact ⟨_, keep [] e0 h0 hDne hS, h1, h2⟩
  · intro u hu
    obtain ⟨fs, n, hf, hn, rfl⟩ := (memW u).1 hu
    exact ⟨[n], by simp, rfl⟩
  · rw [List.append_nil]
    exact nodup_reverse' (nodup_kidsOf (fun fs => hI.nodupKids S e fs he))
  · intro u hu
    obtain ⟨fs, n, hf, hn, rfl⟩ := (memW u).1 hu
    cases hc : E (S ++ [n]) with
    | none => have := kid_exists fs n hf hn; rw [hc] at this; cases this
    | some c => rw [keep _ c hc (hDk n) (snoc_ne_self S n).symm]; rfl
  · intro u hu
    obtain ⟨fs, n, hf, hn, rfl⟩ := (memW u).1 hu
    rw [List.dropLast_concat]; exact hE1S
  · intro r1 hr1
    obtain ⟨fs, n, hf, hn, h2⟩ := (memW _).1 hr1
    have : r1 = [n] := List.append_cancel_left h2
    subst this
    rw [hE1, if_neg (snoc_ne_self D n).symm, noDkid n]
    split <;> rfl
  · intro r1 hr1
    obtain ⟨fs, n, hf, hn, h2⟩ := (memW _).1 hr1
    have : r1 = [n] := List.append_cancel_left h2
    subst this
    obtain ⟨g1, g2⟩ := e_real fs n hf hn
    exact ⟨movedEntry e D, fs, by simpa using hE1D, g1, g2, hf, by rw [InvA.baseName_concat]; exact hn⟩
  · intro k x hk hne hkW
    by_cases hkD : D = k
    · subst hkD
      obtain ⟨od, g1, g2, g3⟩ := hdd
      obtain ⟨fsd, hfsd⟩ := Option.isSome_iff_exists.1 ((hI.dirflag _ od g1).2 g2)
      refine ⟨_, relistNames S D D.dropLast fsd,
        keep _ od g1 (dropLast_ne_self hDne).symm (fun hh => hS1 (hh ▸ List.dropLast_prefix D)),
        g2, g3, by simp only [relist, hfsd, Option.map_some], mem_relistNames.2 (Or.inr ⟨rfl, rfl⟩)⟩
    · obtain ⟨hkS, o, ho, rfl⟩ := key k x hk hkD
      obtain ⟨pe, fs, p1, p2, p3, p4, p5⟩ := hI.parent k o ho hne
      refine ⟨_, relistNames S D k.dropLast fs, keep _ pe p1 ?_ ?_, p2, p3,
        by simp only [relist, p4, Option.map_some], mem_relistNames.2 (Or.inl ⟨p5, ?_⟩)⟩
      · intro hh
        rw [hDfree pe (hh ▸ p1)] at p4; cases p4
      · -- a child of `S` is pending
        intro hh
        rw [← hh, he] at p1; cases p1
        exact hkW ((memW k).2 ⟨fs, baseName k, p4, p5, by rw [hh, dropLast_append_baseName hne]⟩)
      · rintro ⟨q1, q2⟩
        exact hkS (by rw [← dropLast_append_baseName hne, ← dropLast_append_baseName hS, q1, q2])
  · intro k x fs n hk hf hn
    by_cases hkD : D = k
    · subst hkD
      rw [hE1D] at hk; cases hk
      exact Or.inr ⟨[], by simp, (memW _).2 ⟨fs, n, hf, hn, by simp⟩⟩
    · obtain ⟨hkS, o, ho, rfl⟩ := key k x hk hkD
      obtain ⟨fo, hfo, rfl⟩ := relist_files hf
      left
      rcases mem_relistNames.1 hn with ⟨q1, q2⟩ | ⟨q1, q2⟩
      · by_cases h2 : D = k ++ [n]
        · rw [← h2, hE1D]; rfl
        · cases hc : E (k ++ [n]) with
          | none => have := hI.kids k o fo n ho hfo q1; rw [hc] at this; cases this
          | some c =>
            rw [keep _ c hc h2 (fun hh => q2 ⟨by rw [hh, List.dropLast_concat], by rw [hh, InvA.baseName_concat]⟩)]
            rfl
      · rw [q1, q2, dropLast_append_baseName hDne, hE1D]; rfl
  · intro k x hk
    by_cases hkD : D = k
    · subst hkD
      rw [hE1D] at hk; cases hk
      rw [hF1, if_pos rfl]
      exact hI.data S e he
    · obtain ⟨hkS, o, ho, rfl⟩ := key k x hk hkD
      rw [hF1, if_neg hkD, if_neg hkS]
      exact hI.data k o ho
  · intro k hk
    rw [hF1] at hk
    by_cases hkD : D = k
    · rw [← hkD, hE1D]; rfl
    · rw [if_neg hkD] at hk
      by_cases hkS : S = k
      · rw [if_pos hkS] at hk; cases hk
      · rw [if_neg hkS] at hk
        cases hc : E k with
        | none => have := hI.dangling k hk; rw [hc] at this; cases this
        | some c => rw [keep k c hc hkD hkS]; rfl
  · intro k x hk
    by_cases hkD : D = k
    · subst hkD; rw [hE1D] at hk; cases hk; rfl
    · obtain ⟨_, o, ho, rfl⟩ := key k x hk hkD
      exact hI.path k o ho
  · intro k x hk
    by_cases hkD : D = k
    · subst hkD; rw [hE1D] at hk; cases hk; exact hI.dirflag S e he
    · obtain ⟨_, o, ho, rfl⟩ := key k x hk hkD
      show (relist S D k o).files.isSome = true ↔ o.dir = true
      rw [← hI.dirflag k o ho]
      simp only [relist, Option.isSome_map]
  · intro k x fs hk hf
    by_cases hkD : D = k
    · subst hkD; rw [hE1D] at hk; cases hk; exact hI.nodupKids S e fs he hf
    · obtain ⟨_, o, ho, rfl⟩ := key k x hk hkD
      obtain ⟨fo, hfo, rfl⟩ := relist_files hf
      exact (lists_relistNames (hX.sorted k o fo ho hfo) (hI.nodupKids k o fo ho hfo)).1
  · constructor
    · intro k x hk n hn
      by_cases hkD : D = k
      · subst hkD; exact hD n hn
      · obtain ⟨_, o, ho, rfl⟩ := key k x hk hkD
        exact hX.keysWf k o ho n hn
    · intro k x fs hk hf
      by_cases hkD : D = k
      · subst hkD; rw [hE1D] at hk; cases hk; exact hX.sorted S e fs he hf
      · obtain ⟨_, o, ho, rfl⟩ := key k x hk hkD
        obtain ⟨fo, hfo, rfl⟩ := relist_files hf
        exact (lists_relistNames (hX.sorted k o fo ho hfo) (hI.nodupKids k o fo ho hfo)).2
    · intro k x hk
      by_cases hkD : D = k
      · subst hkD; rw [hE1D] at hk; cases hk; exact hX.flags S e he
      · obtain ⟨_, o, ho, rfl⟩ := key k x hk hkD
        exact hX.flags k o ho

/-! ### the loop on states -/

theorem relocate_FL {σ : State} (hn : (keys σ.files).Nodup) {w dst : FsPath} (e : Entry) (hne : w ≠ dst)
    (hfree : FL σ w = none → FL σ dst = none) (k : FsPath) :
    FL (relocate σ w dst e) k = if dst = k then FL σ w else if w = k then none else FL σ k := by
  show alLookup k (relocate σ w dst e).files = _
  rw [relocate_files hn]
  cases hb : alLookup w σ.files with
  | some b => rw [show FL σ w = some b from hb]; rfl
  | none =>
    have hb' : FL σ w = none := hb
    by_cases h1 : dst = k
    · rw [if_pos h1, if_neg (h1 ▸ hne), hb', ← h1]; exact hfree hb'
    · rw [if_neg h1]; rfl

def MoveInvS (S D : FsPath) (s : State) (W : List FsPath) : Prop :=
  (keys s.entries).Nodup ∧ (keys s.files).Nodup ∧ s.root = [] ∧ (∀ n ∈ s.cwd, BodyPiece n) ∧
    MoveInv S D (EL s) (FL s) W

theorem moveLoop_good (S D dstRoot : FsPath) (ci : Bool) (hS : S ≠ []) (hS1 : ¬ S <+: D) (hS2 : ¬ D <+: S)
    (hD : ∀ n ∈ D, BodyPiece n)
    (hdst : ∀ r, (∀ n ∈ S ++ r, BodyPiece n) → dstOf dstRoot (S ++ r) (preOf ci S) = D ++ r) :
    ∀ (f : Nat) (W : List FsPath) (s : State), MoveInvS S D s W →
      (moveLoop S dstRoot ci f W s).1 ≠ .hang → Good True (moveLoop S dstRoot ci f W s).2 := by
  intro f
  induction f with
  | zero => intro W s _ hh; exact absurd rfl hh
  | succ f ih =>
    intro W s h hh
    obtain ⟨hnd, hnf, hroot, hcwd, hM⟩ := h
    cases W with
    | nil =>
      have := hM.done
      exact ⟨⟨hnd, hnf, hroot, this.1⟩, fun _ => ⟨this.2, hcwd⟩⟩
    | cons w work =>
      obtain ⟨r, hr, rfl⟩ := hM.wfmt w List.mem_cons_self
      have hgone := hM.wparentGone _ List.mem_cons_self
      have hfree := hM.wdstFree r List.mem_cons_self
      cases he : EL s (S ++ r) with
      | none => have := hM.wexists _ List.mem_cons_self; rw [he] at this; cases this
      | some e =>
        have hdisj := append_ne_append hS1 hS2
        have hwne : S ++ r ≠ [] := append_ne_nil_right S hr
        revert hh
        rw [moveLoop_child f work (preOf_spec fun _ => hS) he hwne (hdst r (hM.ext.keysWf _ e he))
          (movedOk_of_ne (append_ne_nil_right D hr))
          (by
            rw [relocate_entries hnd, if_neg, if_neg (dropLast_ne_self hwne).symm]
            · exact hgone
            · rw [List.dropLast_append_of_ne_nil hr]; exact (hdisj _ _).symm)]
        refine ih _ _ ⟨relocate_nodupE hnd .., relocate_nodupF hnf .., hroot, hcwd, ?_⟩
        refine MoveInv.step hS1 hS2 hD hM he (relocate_entries hnd _ _ e)
          (relocate_FL hnf e (hdisj r r) (fun _ => ?_))
        -- no data at a free key
        cases hx : FL s (D ++ r) with
        | none => rfl
        | some b => have := hM.dangling (D ++ r) (by rw [hx]; rfl); rw [hfree] at this; cases this

/-- the entry map after the first iteration, in the form `MoveInv.first` wants it -/
theorem rootStep_EL {σ : State} (hnd : (keys σ.entries).Nodup) {S D : FsPath} {e osd odd : Entry} {fss fsd : List Str}
    (hsd : EL σ S.dropLast = some osd) (hsdf : osd.files = some fss)
    (hdd : EL σ D.dropLast = some odd) (hddf : odd.files = some fsd)
    (h1 : S.dropLast ≠ S) (h2 : S.dropLast ≠ D) (h3 : D.dropLast ≠ D) (h4 : D.dropLast ≠ S) (k : FsPath) :
    EL (rootStep σ S D e osd (if S.dropLast = D.dropLast then dropName (baseName S) osd else odd)) k =
      if D = k then some (movedEntry e D) else if S = k then none else (EL σ k).map (relist S D k) := by
  show alLookup k (alInsert D.dropLast _ (alInsert S.dropLast _ (relocate σ S D e).entries)) = _
  rw [alLookup_alInsert, alLookup_alInsert, relocate_entries hnd]
  by_cases hd : D.dropLast = k
  · subst hd
    rw [if_pos rfl, if_neg (Ne.symm h3), if_neg (Ne.symm h4), hdd]
    by_cases hc : S.dropLast = D.dropLast
    · rw [hc, hdd] at hsd; cases hsd
      rw [hddf] at hsdf; cases hsdf
      simp only [hc, if_true, plusChild, dropName, relist, relistNames, hddf, Option.map_some]
    · simp only [hc, if_false, plusChild, relist, relistNames, hddf, Option.map_some, Ne.symm hc, if_true]
  · rw [if_neg hd]
    by_cases hs : S.dropLast = k
    · subst hs
      rw [if_pos rfl, if_neg (Ne.symm h2), if_neg (Ne.symm h1), hsd]
      simp only [dropName, relist, relistNames, hsdf, Option.map_some, if_true, Ne.symm hd, if_false]
    · rw [if_neg hs]
      by_cases hk1 : D = k
      · rw [if_pos hk1, if_pos hk1]
      · rw [if_neg hk1, if_neg hk1]
        by_cases hk2 : S = k
        · rw [if_pos hk2, if_pos hk2]
        · rw [if_neg hk2, if_neg hk2]
          show _ = (alLookup k σ.entries).map _
          cases alLookup k σ.entries with
          | none => rfl
          | some x => rw [Option.map_some, relist_other (Ne.symm hs) (Ne.symm hd)]

theorem ancestor_exists {E : FsPath → Option Entry} {F : FsPath → Option Bytes} (hI : InvL E F) :
    ∀ (t : FsPath) (p : FsPath) (e : Entry), t ≠ [] → E (p ++ t) = some e → ∃ x fs, E p = some x ∧ x.files = some fs := by
  intro t
  induction h : t.length generalizing t with
  | zero => intro p e ht; exact absurd (List.length_eq_zero_iff.1 h) ht
  | succ n ih =>
    intro p e ht he
    rcases eq_nil_or_snoc t with rfl | ⟨mid, a, rfl⟩
    · exact absurd rfl ht
    · obtain ⟨pe, fs, g1, _, _, g4, _⟩ := hI.parent _ e he (by simp)
      rw [← List.append_assoc, List.dropLast_concat] at g1
      by_cases hm : mid = []
      · subst hm; rw [List.append_nil] at g1; exact ⟨pe, fs, g1, g4⟩
      · exact ih mid (by simpa using h) p pe hm g1

theorem move_core {st : State} (h : Good True st) {S d : FsPath} {e : Entry}
    (hwfS : ∀ n ∈ S, BodyPiece n) (hwfd : ∀ n ∈ d, BodyPiece n) (hv : MoveValid st S d e)
    (f : Nat) (hh : (moveLoop S d (isDirP st d) (f + 1) [S] st).1 ≠ .hang) :
    Good True (moveLoop S d (isDirP st d) (f + 1) [S] st).2 := by
  obtain ⟨⟨hnd, hnf, hroot, hI⟩, hXt⟩ := h
  obtain ⟨hX, hcwd⟩ := hXt trivial
  obtain ⟨he, -, hpre, hDne, ⟨odd, hdd, hdddir, hddlink⟩, hDx⟩ := hv
  generalize hci : isDirP st d = ci at hh ⊢
  generalize hDdef : moveDst st S d = D at hpre hDne hdd hDx
  have hS : S ≠ [] := by
    intro h0; rw [h0] at hpre; cases hpre
  have hS1 : ¬ S <+: D := by rw [← List.isPrefixOf_iff_prefix, hpre]; exact Bool.false_ne_true
  have hbase : ∀ n ∈ [baseName S], BodyPiece n := by
    intro n hn
    rw [List.mem_singleton] at hn; subst hn
    have hm : baseName S ∈ S.dropLast ++ [baseName S] := List.mem_append_right _ (List.mem_singleton.2 rfl)
    rw [dropLast_append_baseName hS] at hm
    exact hwfS _ hm
  have hDval : D = if ci = true then d ++ [baseName S] else d := by
    rw [← hDdef, moveDst, hci]
    cases ci with
    | true => simp only [if_true]; exact toPath_mash_baseName hwfd hwfS hS
    | false => rfl
  have hDwf : ∀ n ∈ D, BodyPiece n := by
    rw [hDval]
    cases ci with
    | true =>
      intro n hn
      rcases List.mem_append.1 hn with g | g
      · exact hwfd n g
      · exact hbase n g
    | false => exact hwfd
  have hdst : ∀ r, (∀ n ∈ S ++ r, BodyPiece n) → dstOf d (S ++ r) (preOf ci S) = D ++ r := by
    intro r hr
    have hr' : ∀ n ∈ r, BodyPiece n := fun n hn => hr n (List.mem_append_right _ hn)
    rw [hDval]
    cases ci with
    | true =>
      have hsplit : S ++ r = S.dropLast ++ ([baseName S] ++ r) := by
        rw [← List.append_assoc, dropLast_append_baseName hS]
      simp only [preOf, if_true]
      rw [hsplit, dstOf_append_eq hwfd, List.append_assoc]
      intro n hn
      rcases List.mem_append.1 hn with g | g
      · exact hbase n g
      · exact hr' n g
    | false => exact dstOf_append_eq hwfd hr'
  have hDeq : dstOf d S (preOf ci S) = D := by
    simpa using hdst [] (by simpa using hwfS)
  -- only a plain file may be overwritten, and then by a plain file
  have hDover : ∀ x, EL st D = some x → x.file = true ∧ e.file = true ∧ e.link = false := by
    intro x hx
    rcases hDx with h0 | ⟨y, hy, g1, _, g3, g4⟩
    · rw [show EL st D = none from h0] at hx; cases hx
    · rw [show EL st D = some y from hy] at hx; cases hx; exact ⟨g1, g3, g4⟩
  have hDfree : ∀ x, EL st D = some x → x.files = none := by
    intro x hx
    have hxd : x.dir = false := by
      cases h1 : x.dir with
      | false => rfl
      | true => exact absurd ⟨(hDover x hx).1, h1⟩ (hX.flags D x hx)
    have := hI.dirflag D x hx
    cases h2 : x.files with
    | none => rfl
    | some fs => rw [h2, hxd] at this; simp at this
  have hS2 : ¬ D <+: S := by
    rintro ⟨t, ht⟩
    have hne : t ≠ [] := by
      rintro rfl
      rw [List.append_nil] at ht
      exact hS1 (ht ▸ List.prefix_refl _)
    obtain ⟨x, fs, g1, g2⟩ := ancestor_exists hI t D e hne (by rw [ht]; exact he)
    rw [hDfree x g1] at g2; cases g2
  obtain ⟨osd, fss, hsd, hsddir, -, hsdf, -⟩ := hI.parent S e he hS
  obtain ⟨fsd, hddf⟩ := Option.isSome_iff_exists.1 ((hI.dirflag _ odd hdd).2 hdddir)
  have h1 : S.dropLast ≠ S := dropLast_ne_self hS
  have h2 : S.dropLast ≠ D := by
    intro hh
    rw [hh] at hsd
    rw [hDfree osd hsd] at hsdf; cases hsdf
  have h3 : D.dropLast ≠ D := dropLast_ne_self hDne
  have h4 : D.dropLast ≠ S := fun hh => hS1 (hh ▸ List.dropLast_prefix D)
  have hDS : S ≠ D := fun hh => hS1 (hh ▸ List.prefix_refl _)
  revert hh
  rw [moveLoop_root f [] (preOf_spec fun _ => hS) he hS hDne hDeq (op := osd)
    (np := if S.dropLast = D.dropLast then dropName (baseName S) osd else odd)
    (by rw [relocate_entries hnd, if_neg (Ne.symm h2), if_neg (Ne.symm h1)]; exact hsd) hsddir
    (by
      rw [alLookup_alInsert]
      split
      · rfl
      · rw [relocate_entries hnd, if_neg (Ne.symm h3), if_neg (Ne.symm h4)]; exact hdd)
    (by split; exact hsddir; exact hdddir)]
  refine moveLoop_good S D d ci hS hS1 hS2 hDwf hdst f _ _ ⟨?_, relocate_nodupF hnf S D e, hroot, hcwd, ?_⟩
  · exact nodup_alInsert (nodup_alInsert (relocate_nodupE hnd S D e))
  · refine MoveInv.first hI hX hS hDne hS1 hDwf he ⟨odd, hdd, hdddir, hddlink⟩ hDfree
      (rootStep_EL hnd hsd hsdf hdd hddf h1 h2 h3 h4) (relocate_FL hnf e hDS (fun hb => ?_))
    -- data at `D` belongs to a plain file, which only a plain file may replace
    cases hFD : FL st D with
    | none => rfl
    | some b' =>
      have g1 := hI.dangling D (by rw [hFD]; rfl)
      cases hED : EL st D with
      | none => rw [hED] at g1; cases g1
      | some x0 =>
        have g2 := (hI.data S e he).1 (hDover x0 hED).2
        rw [hb] at g2; cases g2

theorem good_moveM (env : Env) (src dst : Str) (st : State) (h : Good True st)
    (hh : (moveM env src dst st).1 ≠ .hang) : Good True (moveM env src dst st).2 := by
  rcases moveM_cases env src dst st with ⟨o, ho, -⟩ | ⟨S, d, e, -, -, -, -, ho⟩ | ⟨S, d, e, hS, hd, hv, ho⟩
  · rw [ho]; exact h
  · rw [ho]; exact h
  · have hcwd := (h.2 trivial).2
    obtain ⟨f, hf⟩ : ∃ f, 8 * (st.entries.length + 2) = f + 1 := ⟨8 * (st.entries.length + 2) - 1, by omega⟩
    rw [ho, hf] at hh ⊢
    exact move_core h (absM_wf hS hcwd) (absM_wf hd hcwd) hv f hh

end Rivia.Lemmas.InvB
