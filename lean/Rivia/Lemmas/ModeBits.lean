/-
  Bit-level facts about `MemfsEntryOpts::mode` (`optsMode`) after the `mode_type_bits` repair:
  only the permission bits (`&&& 0o7777`) of a given mode count; the type bits are the entry's own.
-/
import Rivia.Model.Memfs

namespace Rivia.Lemmas.ModeBits
open Rivia Rivia.Memfs

theorem and_perm_of_lt (m : Nat) (h : m < 0o10000) : m &&& 0o7777 = m := by
  have := Nat.and_two_pow_sub_one_eq_mod m 12
  simp only [Nat.reducePow, Nat.reduceSub] at this
  rw [this]; exact Nat.mod_eq_of_lt h

theorem and_perm_lt (m : Nat) : m &&& 0o7777 < 0o10000 := by
  have := Nat.and_two_pow_sub_one_eq_mod m 12
  simp only [Nat.reducePow, Nat.reduceSub] at this
  rw [this]; exact Nat.mod_lt _ (by decide)

theorem or_eq_add_of_and_eq_zero (t : Nat) : ∀ x, t &&& x = 0 → t ||| x = t + x := by
  induction t using Nat.div2Induction with
  | ind t ih =>
    intro x h
    rcases Nat.eq_zero_or_pos t with rfl | ht
    · simp
    · have hd : t / 2 &&& x / 2 = 0 := by rw [← Nat.and_div_two, h]
      have hc : t % 2 ||| x % 2 = t % 2 + x % 2 := by
        rcases Nat.mod_two_eq_zero_or_one t with a | a
        · rw [a, Nat.zero_or, Nat.zero_add]
        · rcases Nat.mod_two_eq_zero_or_one x with b | b
          · rw [b, Nat.or_zero, Nat.add_zero]
          · have := Nat.and_mod_two_eq_one.mpr ⟨a, b⟩
            rw [h] at this; cases this
      -- split both sides into `2 * (· / 2) + · % 2`; the halves agree by induction, the low bits by `hc`
      rw [← Nat.div_add_mod (t ||| x) 2, Nat.or_div_two, ih ht _ hd, Nat.or_mod_two_pow (n := 1), Nat.pow_one, hc,
        Nat.mul_add, Nat.add_add_add_comm, Nat.div_add_mod, Nat.div_add_mod]

/-- `optsMode` on a given mode: only the permission bits of the argument count, the type bits are
    those of the entry flags (no flags = the intermediate builder object: mode taken as is) -/
theorem optsMode_some (link file dir : Bool) (m : Nat) :
    optsMode link file dir (some m) =
      if link then (m &&& 0o7777) ||| 0o120000 else if file then (m &&& 0o7777) ||| 0o100000
      else if dir then (m &&& 0o7777) ||| 0o40000 else m := by
  cases link <;> cases file <;> cases dir <;> simp [optsMode]

/-- `(p ||| 2^i·a) - 2^i·a = p` below `2^i` (type bits: dir `2^14`, file `2^15`, link `2^13·5`) -/
theorem or_sub_pow_mul (p i a : Nat) (h : p < 2 ^ i) : (p ||| 2 ^ i * a) - 2 ^ i * a = p := by
  have := Nat.two_pow_add_eq_or_of_lt h a
  rw [Nat.or_comm, ← this]; omega

/-- OR-ing one of the three type-bit patterns onto a permission value and subtracting it again -/
theorem or_sub_typeBits (p T : Nat) (hp : p < 0o10000)
    (hT : T = 0o40000 ∨ T = 0o100000 ∨ T = 0o120000) : (p ||| T) - T = p := by
  rcases hT with rfl | rfl | rfl
  · exact or_sub_pow_mul p 14 1 (by omega)
  · exact or_sub_pow_mul p 15 1 (by omega)
  · exact or_sub_pow_mul p 13 5 (by omega)

/-- the permission bits of `perm-bits ||| T` when `T` has none -/
theorem perm_of_or (m T : Nat) (hT : T &&& 0o7777 = 0) :
    ((m &&& 0o7777) ||| T) &&& 0o7777 = m &&& 0o7777 := by
  rw [Nat.and_or_distrib_right, Nat.and_assoc, hT]; simp

/-- the file-type bits (`S_IFMT = 0o170000`) of `perm-bits ||| T` when `T` consists of type bits -/
theorem type_of_or (m T : Nat) (hT : T &&& 0o170000 = T) :
    ((m &&& 0o7777) ||| T) &&& 0o170000 = T := by
  rw [Nat.and_or_distrib_right, Nat.and_assoc, hT]; simp

/-- `optsMode` with no given mode: the default of the kind (already canonical) -/
theorem optsMode_none (link file dir : Bool) :
    optsMode link file dir none =
      if link then 0o120777 else if file then 0o100644 else if dir then 0o40755 else 0o40755 := by
  cases link <;> cases file <;> cases dir <;> decide

end Rivia.Lemmas.ModeBits
