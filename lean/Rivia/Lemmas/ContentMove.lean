/-
  Rivia.Lemmas.ContentMove — what a successful `move_p` does to the DATA map: the relocation loop of
  Lemmas/MoveP.lean read at the level of `State.files` (the abstraction `nodeAt` reads the data
  through `getD []` and cannot tell "no data" from "empty data").
-/
import Rivia.Lemmas.MoveRefine

namespace Rivia.Lemmas.CT
open Rivia Rivia.Str Rivia.Memfs Rivia.Spec Rivia.Memfs.M Rivia.Lemmas

/-- **content after a successful `move_p`**: either source and final destination coincide and the
    state is unchanged, or (with `D = moveDst s sk dk`) the data of every `sk ++ r` is now at
    `D ++ r`, no key at or below `sk` has data, and every other key keeps its data -/
theorem moveM_content {env : Env} {a b : Str} {s s' : State} (hinv : Spec.Inv s) (hk : KeysWf s)
    (hkind : KindWf s) (hrun : moveM env a b s = (.ok (), s')) :
    ∃ sk dk srcE, absM env a s = (.ok sk, s) ∧ absM env b s = (.ok dk, s) ∧
      alLookup sk s.entries = some srcE ∧
      ((moveDst s sk dk = sk ∧ s' = s) ∨
       (MoveValid s sk dk srcE ∧
        (∀ r, alLookup (sk ++ r) s'.files = none) ∧
        (∀ r, alLookup (moveDst s sk dk ++ r) s'.files = alLookup (sk ++ r) s.files) ∧
        (∀ k, (∀ r, k ≠ sk ++ r) → (∀ r, k ≠ moveDst s sk dk ++ r) →
          alLookup k s'.files = alLookup k s.files))) := by
  have hi := invF_of_inv hinv
  have hdk : ResolvesWf env s b := resolvesWf_of_keysWf hk env b
  rcases moveM_cases env a b s with ⟨r, hr, hne⟩ | ⟨sk, dk, srcE, ha, hb, hsrc, hsame, hr⟩ |
    ⟨sk, dk, srcE, ha, hb, hv, hloop⟩
  · rw [hr] at hrun
    cases r with
    | ok u => exact absurd rfl (hne u)
    | err k => cases hrun
    | panic => cases hrun
    | hang => cases hrun
  · rw [hr] at hrun
    cases hrun
    exact ⟨sk, dk, srcE, ha, hb, hsrc, Or.inl ⟨hsame, rfl⟩⟩
  · have hs := moveSetup_of_valid hi hk hkind (hdk dk hb) hv
    obtain ⟨σ', hl, _, _, h1, h2, h3⟩ := moveLoop_view relocates_files hi hk hs
    rw [hloop, hl] at hrun
    cases hrun
    exact ⟨sk, dk, srcE, ha, hb, hv.src, Or.inr ⟨hv, h1, h2, h3⟩⟩

end Rivia.Lemmas.CT
