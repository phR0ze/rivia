/-
  Rivia.Lemmas.MovedEntry — the entry that `move_p` inserts at the destination key.

  Since the repair of `moved_link_rel_stale` the loop of `Memfs::move_p` recomputes the relative
  target of a moved symlink against the directory of its new key
  (`dst_entry.rel = dst_entry.alt.relative(dst_path.dir()?)?`).  This file names the result
  (`movedEntry`) and evaluates the monadic `if` that `moveLoop` runs between `removeEntry` and
  `setEntry`, so that the step lemmas of the other files can be stated with `movedEntry`.
-/
import Rivia.Model.Memfs

namespace Rivia.Memfs
open Rivia Rivia.Memfs.M

/-- `rel` of an entry re-keyed to `dst`: recomputed for links, untouched otherwise -/
def movedRel (e : Entry) (dst : FsPath) : Str :=
  if e.link then relative (renderP (e.alt.getD [])) (renderP dst.dropLast) else e.rel

/-- the entry `moveLoop` stores at `dst` when it re-keys `e` -/
def movedEntry (e : Entry) (dst : FsPath) : Entry := { e with path := dst, rel := movedRel e dst }

/-- the computation `moveLoop` runs between `removeEntry` and `setEntry` -/
def movedRelM (e : Entry) (dst : FsPath) : M Str :=
  (if e.link then do
      let ld ← dirOf dst
      M.pure (relative (renderP (e.alt.getD [])) (renderP ld))
    else M.pure e.rel : M Str)

/-- the moved entry can only fail to be computed for a link sent to the root key -/
def MovedOk (e : Entry) (dst : FsPath) : Prop := e.link = true → dst ≠ []

instance (e : Entry) (dst : FsPath) : Decidable (MovedOk e dst) := by unfold MovedOk; infer_instance

theorem movedOk_of_ne {e : Entry} {dst : FsPath} (h : dst ≠ []) : MovedOk e dst := fun _ => h
theorem movedOk_of_not_link {e : Entry} {dst : FsPath} (h : e.link = false) : MovedOk e dst :=
  fun hl => by rw [h] at hl; cases hl

theorem movedRelM_ok {e : Entry} {dst : FsPath} (h : MovedOk e dst) (s : State) :
    movedRelM e dst s = (.ok (movedRel e dst), s) := by
  unfold movedRelM movedRel
  cases hl : e.link with
  | false => rfl
  | true =>
    have hne := h hl
    simp only [if_true]
    show (dirOf dst >>= fun ld => M.pure (relative (renderP (e.alt.getD [])) (renderP ld))) s = _
    unfold dirOf
    rw [if_neg hne]
    rfl

theorem movedRelM_eq_pure {e : Entry} {dst : FsPath} (h : MovedOk e dst) :
    movedRelM e dst = M.pure (movedRel e dst) := funext (movedRelM_ok h)

theorem movedRelM_fail {e : Entry} {dst : FsPath} (hl : e.link = true) (hd : dst = []) (s : State) :
    movedRelM e dst s = (.err .parentNotFound, s) := by
  unfold movedRelM
  subst hd
  simp only [hl, if_true]
  rfl

theorem movedRelM_eq_fail {e : Entry} {dst : FsPath} (hl : e.link = true) (hd : dst = []) :
    movedRelM e dst = M.fail .parentNotFound := funext (movedRelM_fail hl hd)

/-- the outcome is `ok` or the one error of `dir()` -/
theorem movedRelM_cases (e : Entry) (dst : FsPath) (s : State) :
    movedRelM e dst s = (.ok (movedRel e dst), s) ∨
    (e.link = true ∧ dst = [] ∧ movedRelM e dst s = (.err .parentNotFound, s)) := by
  by_cases hl : e.link = true
  · by_cases hd : dst = []
    · exact .inr ⟨hl, hd, movedRelM_fail hl hd s⟩
    · exact .inl (movedRelM_ok (fun _ => hd) s)
  · exact .inl (movedRelM_ok (fun h => absurd h hl) s)

theorem movedRelM_state (e : Entry) (dst : FsPath) (s : State) : (movedRelM e dst s).2 = s := by
  rcases movedRelM_cases e dst s with h | ⟨_, _, h⟩ <;> rw [h]

/-- the loop body of `moveLoop` with the `rel` computation folded into `movedRelM`/`movedEntry` -/
theorem moveLoop_succ_cons (srcRoot dstRoot : FsPath) (copyInto : Bool) (f : Nat) (srcPath : FsPath)
    (work : List FsPath) :
    moveLoop srcRoot dstRoot copyInto (f + 1) (srcPath :: work) = (do
      let pre ← if copyInto then dirOf srcRoot else M.pure srcRoot
      let dstPath := dstOf dstRoot srcPath pre
      match (← removeEntry srcPath) with
      | none => fail .doesNotExist
      | some srcEntry =>
        let rel ← movedRelM srcEntry dstPath
        setEntry dstPath { srcEntry with path := dstPath, rel := rel }
        match (← removeFile srcPath) with
        | some b => setFile dstPath b
        | none => M.pure ()
        let sd ← dirOf srcPath
        match (← getEntry sd) with
        | some oldParent =>
          let op' ← liftO (oldParent.removeChild (baseName srcPath))
          setEntry sd op'
          let dd ← dirOf dstPath
          match (← getEntry dd) with
          | some newParent =>
            let (_, np') ← liftO (newParent.addChild (baseName dstPath))
            setEntry dd np'
          | none => fail .parentNotFound
        | none => M.pure ()
        let kids := match srcEntry.files with | some fs => fs.map (fun n => srcEntry.path ++ [n]) | none => []
        moveLoop srcRoot dstRoot copyInto f (kids.reverse ++ work)) := by
  rw [moveLoop]
  rfl

end Rivia.Memfs
