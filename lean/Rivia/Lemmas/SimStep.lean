/-
  Rivia.Lemmas.SimStep — `specStep` respects `TEquiv` (every operation of `Op`),
  and keeps the node keys duplicate-free.
-/
import Rivia.Lemmas.SimCongr
import Rivia.Lemmas.StdfsList

namespace Rivia.Lemmas.Sim
open Rivia Rivia.Memfs Rivia.File Rivia.Spec Rivia.Spec.TreeFs
open Rivia.Lemmas.RefineB (TEquiv selB chmodSym_eq)

variable {a b : T}

/-! ### listings -/

theorem mem_nodes_iff {t : T} (hn : NodupK t) (k : FsPath) (n : Node) : (k, n) ∈ t.nodes ↔ get t k = some n :=
  ⟨alLookup_of_mem hn, alLookup_mem⟩

/-- both sides sort the same set of keys, and a strictly sorted list is determined by its members -/
theorem listing_congr (h : TEquiv a b) (ha : NodupK a) (hb : NodupK b) (p : FsPath) (all : Bool)
    (want : Node → Bool) : TreeFs.listing a p all want = TreeFs.listing b p all want := by
  unfold TreeFs.listing
  rw [isDir_eq h]
  split
  · rfl
  · simp only
    congr 1
    apply StdfsL.sorted_unique _ _ (StdfsL.sorted_sortP _ (nodupK_filter ha _))
      (StdfsL.sorted_sortP _ (nodupK_filter hb _))
    intro x
    rw [StdfsL.mem_sortP, StdfsL.mem_sortP]
    simp only [List.mem_map, List.mem_filter]
    constructor
    · rintro ⟨⟨k, n⟩, ⟨hm, hc⟩, rfl⟩
      exact ⟨(k, n), ⟨(mem_nodes_iff hb k n).2 (by rw [← h.2]; exact (mem_nodes_iff ha k n).1 hm), hc⟩, rfl⟩
    · rintro ⟨⟨k, n⟩, ⟨hm, hc⟩, rfl⟩
      exact ⟨(k, n), ⟨(mem_nodes_iff ha k n).2 (by rw [h.2]; exact (mem_nodes_iff hb k n).1 hm), hc⟩, rfl⟩

/-! ### symbolic chmod -/

theorem chmodSym_agree (e : Eqv a b) (p : FsPath) (sym : List Char) (rec : Bool) :
    Agree a (chmodSym a p sym rec) (chmodSym b p sym rec) := by
  rw [chmodSym_eq, chmodSym_eq, e.eq.2 p]
  cases get b p with
  | none => exact agree_keep e
  | some _ =>
    cases parseExpr sym with
    | none => exact agree_keep e
    | some cs => exact agree_map_if e

/-! ### the wrappers of `specStep` -/

theorem resolve_eq (env : Env) (h : TEquiv a b) (p : Str) : resolve env a p = resolve env b p := by
  unfold resolve; rw [h.1]

theorem liftR_agree {α} (f : α → Val) {x y : R α × T} (h : Agree a x y) : Agree a (liftR f x) (liftR f y) := by
  obtain ⟨r, t⟩ := x
  obtain ⟨r', t'⟩ := y
  obtain ⟨⟨h1, h2⟩, h3⟩ := h
  cases h1
  cases r <;> exact ⟨⟨rfl, h2⟩, h3⟩

theorem withPath_agree (env : Env) (e : Eqv a b) (p : Str) {ka kb : FsPath → SR}
    (hk : ∀ k, Agree a (ka k) (kb k)) : Agree a (withPath env a p ka) (withPath env b p kb) := by
  unfold withPath
  rw [resolve_eq env e.eq]
  cases resolve env b p with
  | ok k => exact hk k
  | err _ => exact agree_keep e
  | panic => exact agree_keep e
  | hang => exact agree_keep e

theorem lifted_agree {α} (env : Env) (e : Eqv a b) (f : α → Val) (p : Str) {ka kb : FsPath → R α × T}
    (hk : ∀ k, Agree a (ka k) (kb k)) :
    Agree a (withPath env a p fun k => liftR f (ka k)) (withPath env b p fun k => liftR f (kb k)) :=
  withPath_agree env e p fun k => liftR_agree f (hk k)

theorem boolQ_agree (env : Env) (e : Eqv a b) (p : Str) {f g : FsPath → Bool} (hf : f = g) :
    Agree a (boolQ env a p f) (boolQ env b p g) := by
  unfold boolQ
  rw [resolve_eq env e.eq, hf]
  cases resolve env b p <;> exact agree_keep e

theorem nodeQ_agree (env : Env) (e : Eqv a b) (p : Str) (f : Node → Val) :
    Agree a (nodeQ env a p f) (nodeQ env b p f) := by
  refine withPath_agree env e p fun k => ?_
  rw [e.eq.2 k]
  cases get b k <;> exact agree_keep e

theorem listQ_agree (env : Env) (e : Eqv a b) (p : Str) (all : Bool) (want : Node → Bool) :
    Agree a (listQ env a p all want) (listQ env b p all want) := by
  unfold listQ
  rw [resolve_eq env e.eq]
  simp only [listing_congr e.eq e.left e.right]
  cases resolve env b p with
  | ok k => exact liftR_agree _ (agree_keep e)
  | err _ => exact agree_keep e
  | panic => exact agree_keep e
  | hang => exact agree_keep e

/-- both undefined, or both defined with equal results and equivalent post-states -/
def RelO : Option SR → Option SR → Prop
  | some x, some y => Rel x y
  | none, none => True
  | _, _ => False

theorem relO_some {x y : SR} (h : Rel x y) : RelO (some x) (some y) := h

theorem read_congr (h : TEquiv a b) (k : FsPath) (F : Option Node → R Val) :
    Rel (α := Val) (F (get a k), a) (F (get b k), b) := by
  rw [h.2 k]; exact rel_mk h

/-- `RelO` with `Agree` in place of `Rel` -/
def AgreeO (a : T) : Option SR → Option SR → Prop
  | some x, some y => Agree a x y
  | none, none => True
  | _, _ => False

theorem AgreeO.relO {x y : Option SR} (h : AgreeO a x y) : RelO x y := by
  cases x <;> cases y
  · trivial
  · exact h
  · exact h
  · exact h.1

theorem agreeO_ite {c : Prop} [Decidable c] {x x' y y' : Option SR} (h1 : AgreeO a x x')
    (h2 : AgreeO a y y') : AgreeO a (if c then x else y) (if c then x' else y') := by
  split
  · exact h1
  · exact h2

/-! ### `specStep` -/

theorem specStep_agree (env : Env) (e : Eqv a b) (op : Op) :
    AgreeO a (specStep env a op) (specStep env b op) := by
  cases op
  case mkfile p => exact lifted_agree env e _ p (mkfile_agree e)
  case mkdirP p => exact lifted_agree env e _ p fun k => mkdir_agree e k _
  case mkdirM p m => exact agreeO_ite (lifted_agree env e _ p fun k => mkdir_agree e k _) trivial
  case writeAll p d => exact lifted_agree env e _ p fun k => writeAll_agree e k _ _
  case appendAll p d => exact lifted_agree env e _ p fun k => writeAll_agree e k _ _
  case writeLines p ls => exact lifted_agree env e _ p fun k => writeAll_agree e k _ _
  case appendLines p ls => exact lifted_agree env e _ p fun k => writeAll_agree e k _ _
  case appendLine p l => exact lifted_agree env e _ p fun k => writeAll_agree e k _ _
  case readAll | readLines | read | readlink | readlinkAbs =>
    -- every branch answers from `get b k` and keeps the tree
    refine withPath_agree env e _ fun k => ?_
    rw [e.eq.2 k]
    repeat' split
    all_goals exact agree_keep e
  case remove p => exact lifted_agree env e _ p (remove_agree e)
  case removeAll p => exact lifted_agree env e _ p (removeAll_agree e)
  case symlink l tg =>
    refine withPath_agree env e l fun la => ?_
    rw [e.eq.2 la]
    exact agree_ite (agree_keep e) (lifted_agree env e _ _ (symlink_agree e la))
  case setCwd p => exact lifted_agree env e _ p (setCwd_agree e)
  case cwd => exact ⟨⟨by rw [e.eq.1], e.eq⟩, fun _ => e.left⟩
  case root => exact agree_keep e
  case abs p => exact withPath_agree env e p fun k => agree_keep e
  case «exists» p => exact boolQ_agree env e p (by rw [get_eq e.eq])
  case isFile p => exact boolQ_agree env e p (isFile_eq e.eq)
  case isDir p => exact boolQ_agree env e p (isDir_eq e.eq)
  case isSymlink p => exact boolQ_agree env e p (isLink_eq e.eq)
  case isSymlinkDir p => exact boolQ_agree env e p (by rw [get_eq e.eq])
  case isSymlinkFile p => exact boolQ_agree env e p (by rw [get_eq e.eq])
  case isExec p => exact boolQ_agree env e p (by rw [get_eq e.eq])
  case isReadonly p => exact boolQ_agree env e p (by rw [get_eq e.eq])
  case mode p => exact nodeQ_agree env e p _
  case uid p => exact nodeQ_agree env e p _
  case gid p => exact nodeQ_agree env e p _
  case owner p => exact nodeQ_agree env e p _
  case paths p => exact listQ_agree env e p _ _
  case dirs p => exact listQ_agree env e p _ _
  case files p => exact listQ_agree env e p _ _
  case allPaths p => exact listQ_agree env e p _ _
  case allDirs p => exact listQ_agree env e p _ _
  case allFiles p => exact listQ_agree env e p _ _
  case chmod p m =>
    exact agreeO_ite (lifted_agree env e _ p fun k => chmodOctal_agree e k _ _ _) trivial
  case chmodB p c =>
    exact agreeO_ite trivial (agreeO_ite
      (agreeO_ite (lifted_agree env e _ p fun k => chmodOctal_agree e k _ _ _) trivial)
      (agreeO_ite (lifted_agree env e _ p fun k => chmodSym_agree e k _ _) trivial))
  case chown p u g => exact lifted_agree env e _ p fun k => chown_agree e k _ _ _
  case chownB p c =>
    exact agreeO_ite trivial (lifted_agree env e _ p fun k => chown_agree e k _ _ _)
  case moveP x y =>
    exact withPath_agree env e x fun sa => lifted_agree env e _ y (moveP_agree e sa)
  all_goals trivial

theorem specStep_congr (env : Env) (h : TEquiv a b) (ha : NodupK a) (hb : NodupK b) (op : Op) :
    RelO (specStep env a op) (specStep env b op) :=
  (specStep_agree env ⟨h, ha, hb⟩ op).relO

theorem nodupK_specStep (env : Env) {t : T} (hn : NodupK t) (hA : AncDir t) (op : Op) (x : SR)
    (hx : specStep env t op = some x) : NodupK x.2 := by
  have h := specStep_agree env (Eqv.refl hn) op
  rw [hx] at h
  exact h.2 hA

/-! ### the abstraction of a well-formed Memfs state is duplicate-free and has directory ancestors -/

theorem nodupK_absS {s : State} (h : Inv s) : NodupK (absS s) := by
  unfold NodupK absS
  simp only [List.map_map]
  exact (RefineB.inv_props h).nodup

theorem ancDir_absS {s : State} (h : Inv s) : AncDir (absS s) := by
  intro p x r hk
  rw [RefineB.get_absS, Option.isSome_map] at hk
  obtain ⟨pe, fs, h1, h2, h3, _⟩ := RefineB.anc (RefineB.inv_props h) r.length r p x rfl hk
  rw [RefineB.isDir_absS, h1]
  simp [h2, h3]

end Rivia.Lemmas.Sim
