/-
  Rivia.Lemmas.ReachCopy — `copy` / `copy_b` without `follow` keep `EntriesOk` and `KeysW`.

  The per-entry body re-reads the source entry from the LIVE state; that it is no link whenever the
  snapshot entry is none needs a two-state invariant (`LinkCoh`: every key of the pre-state is still
  there with the same `link` flag), carried through the traversal by `copyM_inv`.
-/
import Rivia.Lemmas.ReachInv
import Rivia.Lemmas.CopyFrame

namespace Rivia.Lemmas.Reach
open Rivia Rivia.Memfs Rivia.Memfs.M Rivia.File Rivia.Spec Rivia.Spec.TreeFs Rivia.Lemmas
open Rivia.Lemmas.MoveLinkRel (AllEnts Tr tr_bind tr_then tr_ite tr_pure tr_mpure tr_fail tr_hang tr_liftO tr_get tr_dirOf)

/-- every key of `s0` is still present, with the same `link` flag -/
def LinkCoh (s0 st : State) : Prop :=
  ∀ k e, alLookup k s0.entries = some e → ∃ e', alLookup k st.entries = some e' ∧ e'.link = e.link

/-- the invariant of the copy loop -/
def CI (s0 st : State) : Prop := KI EK st ∧ LinkCoh s0 st

variable {s0 : State}

theorem ci_congr {st st' : State} (he : st'.entries = st.entries) (hc : st'.cwd = st.cwd) (h : CI s0 st) :
    CI s0 st' := by
  unfold CI KI AllEnts LinkCoh at *
  rw [he, hc]; exact h

theorem c_same {α} {m : M α} (h : ∀ st, (m st).2.entries = st.entries ∧ (m st).2.cwd = st.cwd) :
    Tr (CI s0) m (fun _ => True) :=
  fun st hs => ⟨ci_congr (h st).1 (h st).2 hs, fun _ _ => trivial⟩

theorem c_getFile (p : FsPath) : Tr (CI s0) (getFile p) (fun _ => True) := c_same (fun _ => ⟨rfl, rfl⟩)
theorem c_setFile (p : FsPath) (b : Bytes) : Tr (CI s0) (setFile p b) (fun _ => True) :=
  c_same (fun _ => ⟨rfl, rfl⟩)

theorem c_getEntry (p : FsPath) : Tr (CI s0) (getEntry p)
    (fun o => ∀ e, o = some e → EK p e ∧ ∀ e0, alLookup p s0.entries = some e0 → e.link = e0.link) := by
  intro st h
  refine ⟨h, fun a ha => ?_⟩
  cases ha
  intro e he
  refine ⟨h.1.1 (p, e) (alLookup_mem he), fun e0 h0 => ?_⟩
  obtain ⟨e', h1, h2⟩ := h.2 p e0 h0
  rw [he] at h1; cases h1; exact h2

theorem c_add (e : Entry) (he : EK e.path e) : Tr (CI s0) (Memfs.add e) (fun _ => True) := by
  intro st hs
  refine ⟨⟨(k_add entStable_EK e he st hs.1).1, ?_⟩, fun _ _ => trivial⟩
  rcases InvA.add_state_cases e st with h1 | ⟨d, b, d', hd, hnone, _, _, _, hac, h1⟩
  · rw [h1]; exact hs.2
  · rw [h1]
    intro k e0 h0
    obtain ⟨e', h1', h2'⟩ := hs.2 k e0 h0
    show ∃ e'', alLookup k (alInsert e.path.dropLast d' (alInsert e.path e st.entries)) = some e'' ∧ _
    rw [alLookup_alInsert, alLookup_alInsert]
    by_cases hk1 : e.path.dropLast = k
    · rw [if_pos hk1]
      subst hk1
      rw [hd] at h1'; cases h1'
      exact ⟨d', rfl, (MoveLinkRel.addChild_fields hac).1.trans h2'⟩
    · rw [if_neg hk1]
      by_cases hk2 : e.path = k
      · subst hk2; rw [hnone] at h1'; cases h1'
      · rw [if_neg hk2]; exact ⟨e', h1', h2'⟩

theorem c_mkdirM (p : FsPath) (mode : Option Nat) (hp : WfKey p) :
    Tr (CI s0) (mkdirM p mode) (fun _ => True) := by
  unfold mkdirM
  have : ∀ qs : List FsPath, (∀ q ∈ qs, WfKey q) →
      Tr (CI s0) (qs.forM (fun p => do let _ ← Memfs.add (mkDirEntry p mode))) (fun _ => True) := by
    intro qs
    induction qs with
    | nil => intro _; exact tr_pure _ trivial
    | cons q qs ih =>
      intro hq
      exact tr_then
        (tr_then (c_add _ ⟨RefineA.entryOk_mkDirEntry q mode, hq q List.mem_cons_self⟩) fun _ => tr_pure _ trivial)
        fun _ => ih fun x hx => hq x (List.mem_cons_of_mem _ hx)
  apply this
  intro q hq
  obtain ⟨n, rfl⟩ := InvA.mem_prefixes hq
  exact fun x hx => hp x (List.mem_of_mem_take hx)

theorem c_symlinkAbs (l t : FsPath) (hl : WfKey l) : Tr (CI s0) (symlinkAbs l t) (fun _ => True) := by
  unfold symlinkAbs
  refine tr_bind (c_getEntry _) fun x _ => tr_ite (tr_fail _) ?_
  refine tr_bind (tr_dirOf _) ?_
  rintro ldir ⟨_, rfl⟩
  refine tr_bind (c_getEntry _) fun y _ => ?_
  exact tr_then (c_add _ ⟨entryOk_linkEntry l t _, hl⟩) fun _ => tr_pure _ trivial

theorem entryOk_copied {k p : FsPath} {srcE : Entry} (m : Nat) (h : RefineA.entryOkB k srcE = true)
    (hl : srcE.link = false) : RefineA.entryOkB p (({ srcE with path := p }).setMode m) = true := by
  apply entryOk_setMode
  simp only [RefineA.entryOkB, Bool.and_eq_true, decide_eq_true_eq, Bool.or_eq_true,
    Bool.not_eq_true'] at h ⊢
  have hk : kindOf { srcE with path := p } = kindOf srcE := rfl
  exact ⟨⟨h.1.1, by rw [hk]; exact h.1.2⟩, Or.inl hl⟩

-- `dstOf` is kept folded: the unifier would open it before it looks at the `path` field of the new entry
attribute [local irreducible] dstOf in
/-- one entry of a no-follow copy -/
theorem copyStep_tr {dk rootPath : FsPath} {c : CopyOpts} {ci : Bool} (hf : c.follow = false) (e : Entry)
    (he : alLookup e.path s0.entries = some e)
    (hD : ∀ pre, (if ci = true then rootPath ≠ [] ∧ pre = rootPath.dropLast else pre = rootPath) →
      WfKey (dstOf dk e.path pre)) :
    ∀ st, CI s0 st → CI s0 (copyStep dk c ci rootPath e st).2 := by
  suffices h : Tr (CI s0) (copyStep dk c ci rootPath e) (fun _ => True) from fun st hs => (h st hs).1
  unfold copyStep
  extract_lets dm fm entry body
  clear_value dm fm
  suffices hentry : ∀ pre, WfKey (dstOf dk e.path pre) → Tr (CI s0) (entry pre) (fun _ => True) by
    show Tr (CI s0) body _
    cases ci with
    | true => exact tr_bind (tr_dirOf _) fun pre hpre => hentry pre (hD pre hpre)
    | false => exact tr_bind (tr_mpure (Q := fun y => y = rootPath) _ rfl) fun pre hpre => hentry pre (hD pre hpre)
  intro pre hdp
  have hdd : WfKey (dstOf dk e.path pre).dropLast := fun n hn => hdp n (List.dropLast_subset _ hn)
  refine MoveLinkRel.tr_ite_of (fun _ => tr_then (c_symlinkAbs _ _ hdp) fun _ => tr_pure _ trivial) fun hnl => ?_
  have hel : e.link = false := by
    cases h : e.link with
    | false => rfl
    | true => exact absurd ⟨by rw [hf]; rfl, h⟩ hnl
  refine tr_bind (c_getEntry _) fun o ho => ?_
  extract_lets copyOne
  have hone : ∀ srcE, EK e.path srcE → srcE.link = false → Tr (CI s0) (copyOne srcE) (fun _ => True) := by
    intro srcE hsk hsl
    refine tr_ite (c_mkdirM _ _ hdp) ?_
    refine tr_bind (tr_dirOf _) ?_
    rintro dd ⟨_, rfl⟩
    refine tr_bind (c_getEntry _) fun o2 _ => ?_
    extract_lets dstE copyData checkFile store mkParent
    have hdata : ∀ u, Tr (CI s0) (copyData u) (fun _ => True) := by
      intro _
      refine tr_bind (c_getFile _) fun ob _ => ?_
      cases ob with
      | none => exact tr_fail _
      | some b => exact c_setFile _ _
    have hcheck : ∀ u, Tr (CI s0) (checkFile u) (fun _ => True) := fun _ =>
      tr_ite (tr_then (tr_fail _) hdata) (hdata ())
    have hstore : ∀ u, Tr (CI s0) (store u) (fun _ => True) := by
      intro _
      refine tr_then (c_add dstE ⟨entryOk_copied _ hsk.1 hsl, hdp⟩) fun _ => tr_ite ?_ (tr_pure _ trivial)
      exact tr_then (c_getFile _) fun _ => tr_ite (tr_then (tr_fail _) hcheck) (hcheck ())
    have hparent : ∀ pm, Tr (CI s0) (mkParent pm) (fun _ => True) := fun _ =>
      tr_then (c_mkdirM _ _ hdd) hstore
    refine tr_ite ?_ (hstore ())
    cases dm with
    | some x => exact tr_then (tr_mpure _ trivial) hparent
    | none =>
      refine tr_bind (tr_dirOf _) fun sd _ => tr_bind (c_getEntry _) fun o3 _ => ?_
      cases o3 with
      | some x => exact tr_then (tr_mpure _ trivial) hparent
      | none => exact tr_then (tr_fail _) hparent
  cases o with
  | none => exact tr_bind (tr_fail (Q := fun _ => False) _) fun _ h => h.elim
  | some x =>
    have hx := ho x rfl
    exact tr_bind (tr_mpure (Q := fun y => y = x) _ rfl) fun y hy => hy ▸ hone x hx.1 ((hx.2 e he).trans hel)

theorem ci_refl (s : State) (h : EOk s ∧ KeysW s) : CI s s :=
  ⟨(ki_iff s).2 h, fun _ e he => ⟨e, he, rfl⟩⟩

/-- **a copy without `follow` keeps `EntriesOk` and the key well-formedness**, whatever its outcome -/
theorem copyM_ci (env : Env) (a b : Str) (c : CopyOpts) (s : State) (hI : Spec.Inv s)
    (hE : EOk s) (hk : KeysW s) (hfollow : c.follow = false) : CI s (copyM env a b c s).2 := by
  refine copyM_inv (invF_of_inv hI) hk hfollow (CI s) (ci_refl s ⟨hE, hk⟩) ?_
  intro sk dk _ hb hwsk e r w hr hwr hl hw
  refine copyStep_tr hfollow e (by rw [hr]; exact hl) (fun pre hpre => ?_) w hw
  have hdk : WfKey dk := absM_wf hk.2 hb
  rw [hr, dstOf_eq_copyDst hdk hwsk hwr hpre]
  refine WfKey.append ?_ hwr
  cases hci : isDirP s dk with
  | false => rw [copyDst, hci, if_neg Bool.false_ne_true]; exact hdk
  | true =>
    rw [hci, if_pos rfl] at hpre
    rw [copyDst, hci, if_pos rfl]
    exact WfKey.append hdk (wfKey_singleton (hwsk _ (baseName_mem hpre.1)))

/-- `copy` and `copy_b` without `follow` -/
def copyNoFollow : Op → Prop
  | .copy _ _ => True
  | .copyB _ _ c => c.follow = false
  | _ => False

instance : DecidablePred copyNoFollow := fun op => by unfold copyNoFollow; split <;> infer_instance

theorem step_copy_keeps (env : Env) (s : State) (op : Op) (hc : copyNoFollow op) (hI : Spec.Inv s)
    (hE : EOk s) (hk : KeysW s) : EOk (step env s op).2 ∧ KeysW (step env s op).2 := by
  unfold copyNoFollow at hc
  split at hc
  · exact (ki_iff _).1 (InvA.mapVal_run _ (copyM_ci env _ _ {} s hI hE hk rfl)).1
  · exact (ki_iff _).1 (InvA.mapVal_run _ (copyM_ci env _ _ _ s hI hE hk hc)).1
  · exact hc.elim

end Rivia.Lemmas.Reach
