/-
  Rivia.Lemmas.CopyP — `copy` / `copy_b` on the Memfs model: the per-entry body `copyStep`, the state
  update for one copied entry (`attach`), the single-file case in full, the reference copy onto a
  free destination, and the frame calculus (which keys an operation can touch).
-/
import Rivia.Lemmas.MoveRefine
import Rivia.Spec.CopySpec
import Rivia.Lemmas.ModeBits

set_option linter.unusedSimpArgs false

namespace Rivia.Lemmas
open Rivia Rivia.Str Rivia.Memfs Rivia.Spec Rivia.Spec.TreeFs Rivia.Memfs.M

/-! ### traversal of a single non-directory entry -/

/-- the traversal options `_copy` uses -/
def copyOpts (follow : Bool) : Opts := { follow := follow }

theorem process_nondir {σ} (snap : Snap) (preOp : Entry → σ → Outcome Unit × σ) (st : ISt) (e : Entry)
    (w : σ) (hd : e.dir = false) :
    process snap (copyOpts false) preOp st e w = (some (.ok e), st, w) := by
  unfold process
  simp [hd, copyOpts]

theorem copyOpts_follow (b : Bool) : (copyOpts b).follow = b := rfl
theorem copyOpts_cf (b : Bool) : (copyOpts b).contentsFirst = false := rfl

theorem runIter_single {σ} (snap : Snap) (rootE : Entry) (hd : rootE.dir = false)
    (step : Entry → σ → Outcome Unit × σ) (n : Nat) (w : σ) :
    runIter snap (copyOpts false) noPre rootE step (n + 2) {} w =
      match step rootE w with
      | (.ok (), w') => (.ok (), w')
      | r => r := by
  rw [runIter]
  simp only [nextE, copyOpts_follow, doFollow_false, Bool.not_false, if_true, process_nondir _ _ _ _ _ hd]
  cases hs : step rootE w with
  | mk r w' =>
    cases r with
    | ok u =>
      cases u
      simp only
      rw [runIter]
      simp only [nextE, Bool.not_true, Bool.false_eq_true, if_false, nextLoop, copyOpts_cf, false_and]
    | err k => rfl
    | panic => rfl
    | hang => rfl

/-! ### the per-entry body of `_copy` -/

def copyDirMode (c : CopyOpts) : Option Nat :=
  match c.mode with | some x => if c.cdirs ∨ !c.cfiles then some x else none | none => none

def copyFileMode (c : CopyOpts) : Option Nat :=
  match c.mode with | some x => if c.cfiles ∨ !c.cdirs then some x else none | none => none

/-- what `_copy` does for one yielded entry (`rootPath` = path of the traversal root,
    `copyInto` = the destination was an existing real directory when the call started) -/
def copyStep (dstRoot : FsPath) (c : CopyOpts) (copyInto : Bool) (rootPath : FsPath) :
    Entry → State → Outcome Unit × State := fun e st =>
  let dirMode := copyDirMode c
  let fileMode := copyFileMode c
  let body : M Unit := do
    let pre ← if copyInto then dirOf rootPath else M.pure rootPath
    let dstPath := dstOf dstRoot e.path pre
    if !c.follow ∧ e.link then
      let _ ← symlinkAbs dstPath (e.alt.getD [])
    else
      let srcE ← match (← getEntry e.path) with
        | some x => M.pure x
        | none => fail .doesNotExist
      if srcE.dir then
        mkdirM dstPath (some (dirMode.getD srcE.mode))
      else
        let dd ← dirOf dstPath
        if (← getEntry dd).isNone then
          let pm ← match dirMode with
            | some x => M.pure x
            | none => do
              let sd ← dirOf srcE.path
              match (← getEntry sd) with
              | some x => M.pure x.mode
              | none => fail .doesNotExist
          mkdirM dd (some pm)
        let dstE := ({ srcE with path := dstPath }).setMode (fileMode.getD srcE.mode)
        let _ ← add dstE
        if !srcE.link then
          if (← getFile dstPath).isNone then fail .isNotFile
          if !srcE.file then fail .isNotFile
          match (← getFile srcE.path) with
          | some b => setFile dstPath b
          | none => fail .doesNotExist
  body st

/-! ### `_copy` after argument resolution -/

theorem copyM_same {env : Env} {a b : Str} {c : CopyOpts} {s : State} {sk : FsPath}
    (ha : absM env a s = (.ok sk, s)) (hb : absM env b s = (.ok sk, s)) :
    copyM env a b c s = (.ok (), s) := by
  unfold copyM
  rw [bind_ok ha, bind_ok hb, if_pos rfl]
  rfl

theorem copyM_noSrc {env : Env} {a b : Str} {c : CopyOpts} {s : State} {sk dk : FsPath}
    (ha : absM env a s = (.ok sk, s)) (hb : absM env b s = (.ok dk, s)) (hne : sk ≠ dk)
    (hsrc : alLookup sk s.entries = none) :
    copyM env a b c s = (.err .doesNotExist, s) := by
  unfold copyM
  rw [bind_ok ha, bind_ok hb, if_neg hne, get_bind_apply, hsrc]
  rfl

theorem copyM_eq {env : Env} {a b : Str} {c : CopyOpts} {s : State} {sk dk : FsPath} {rootE0 : Entry}
    (ha : absM env a s = (.ok sk, s)) (hb : absM env b s = (.ok dk, s)) (hne : sk ≠ dk)
    (hsrc : alLookup sk s.entries = some rootE0) :
    copyM env a b c s =
      match entriesOf s (rootE0.doFollow c.follow).path with
      | .ok (travRoot, snap) =>
        runIter snap (copyOpts c.follow) noPre travRoot
          (copyStep dk c (isDirP s dk) (rootE0.doFollow c.follow).path) (travFuel snap) {} s
      | .err k => (.err k, s)
      | .panic => (.panic, s)
      | .hang => (.hang, s) := by
  unfold copyM
  rw [bind_ok ha, bind_ok hb, if_neg hne, get_bind_apply, hsrc]
  show (M.liftO (entriesOf s (rootE0.doFollow c.follow).path) >>= _) s = _
  cases entriesOf s (rootE0.doFollow c.follow).path with
  | ok p =>
    obtain ⟨travRoot, snap⟩ := p
    -- the consumer in the model is `copyStep` written out
    exact congrArg (fun st => runIter snap (copyOpts c.follow) noPre travRoot st (travFuel snap) {} s) rfl
  | err k => rfl
  | panic => rfl
  | hang => rfl

theorem copyM_resolved {env : Env} {a b : Str} {c : CopyOpts} {s : State} {sk dk : FsPath}
    {rootE0 travRoot : Entry} {snap : Snap}
    (ha : absM env a s = (.ok sk, s)) (hb : absM env b s = (.ok dk, s)) (hne : sk ≠ dk)
    (hsrc : alLookup sk s.entries = some rootE0)
    (hent : entriesOf s (rootE0.doFollow c.follow).path = .ok (travRoot, snap)) :
    copyM env a b c s =
      runIter snap (copyOpts c.follow) noPre travRoot
        (copyStep dk c (isDirP s dk) (rootE0.doFollow c.follow).path) (travFuel snap) {} s := by
  rw [copyM_eq ha hb hne hsrc, hent]

/-! ### a regular file as the source -/

theorem entriesOf_leaf {s : State} {k : FsPath} {e : Entry} (he : alLookup k s.entries = some e)
    (hf : e.files = none) (hl : e.link = false) :
    entriesOf s k = .ok (e, [(e.path, e)]) := by
  have hfuel : ∃ m, 4 * (s.entries.length + 1) * (s.entries.length + 1) = m + 2 := by
    have h1 : 1 ≤ (s.entries.length + 1) * (s.entries.length + 1) :=
      Nat.mul_pos (Nat.succ_pos _) (Nat.succ_pos _)
    rw [Nat.mul_assoc]
    generalize (s.entries.length + 1) * (s.entries.length + 1) = X at h1
    exact ⟨4 * X - 2, by omega⟩
  obtain ⟨m, hm⟩ := hfuel
  unfold entriesOf cloneEntries
  rw [he, hm]
  simp only [cloneLoop, he, hf, hl, alInsert, List.reverse_nil, List.nil_append]
  have h2 : ∀ acc, cloneLoop s.entries (m + 1) [] acc = .ok acc := fun acc => by rw [cloneLoop]
  cases e.alt <;> simp [h2]

/-! ### one copied entry: the state update -/

/-- attach a new entry at `K` (with optional byte content) and list it in its parent `pe` -/
def attach (σ : State) (K : FsPath) (newE pe : Entry) (fs : List Str) (data : Option File.Bytes) :
    State :=
  { σ with
    entries := alInsert K.dropLast { pe with files := some (insertName (baseName K) fs).2 }
      (alInsert K newE σ.entries)
    files := match data with
      | some b => alInsert K b (alInsert K [] σ.files)
      | none => σ.files }

theorem attach_entries (σ : State) (K : FsPath) (newE pe : Entry) (fs : List Str)
    (data : Option File.Bytes) (k : FsPath) :
    alLookup k (attach σ K newE pe fs data).entries =
      if K.dropLast = k then some { pe with files := some (insertName (baseName K) fs).2 }
      else if K = k then some newE else alLookup k σ.entries := by
  unfold attach
  simp only [alLookup_alInsert]

theorem attach_files (σ : State) (K : FsPath) (newE pe : Entry) (fs : List Str)
    (data : Option File.Bytes) (k : FsPath) :
    alLookup k (attach σ K newE pe fs data).files =
      if K = k then (match data with | some b => some b | none => alLookup k σ.files)
      else alLookup k σ.files := by
  unfold attach
  cases data with
  | none => simp
  | some b =>
    simp only [alLookup_alInsert]
    by_cases h : K = k <;> simp [h]

theorem nodeAt_attach_other {σ : State} {K : FsPath} {newE pe : Entry} {fs : List Str}
    {data : Option File.Bytes}
    (hpar : alLookup K.dropLast σ.entries = some pe) {k : FsPath} (hk : K ≠ k) :
    nodeAt (attach σ K newE pe fs data) k = nodeAt σ k := by
  unfold nodeAt
  rw [attach_entries]
  have hf : alLookup k (attach σ K newE pe fs data).files = alLookup k σ.files := by
    rw [attach_files, if_neg hk]
  by_cases h1 : K.dropLast = k
  · subst h1
    rw [if_pos rfl, hpar]
    exact congrArg some (absNode_eq_of rfl rfl rfl rfl rfl rfl (by rw [hf]))
  · rw [if_neg h1, if_neg hk]
    cases alLookup k σ.entries with
    | none => rfl
    | some e => exact congrArg some (absNode_eq_of rfl rfl rfl rfl rfl rfl (by rw [hf]))

theorem nodeAt_attach_self {σ : State} {K : FsPath} {newE pe : Entry} {fs : List Str}
    {data : Option File.Bytes} (hK : K ≠ []) :
    nodeAt (attach σ K newE pe fs data) K = some (absNode (attach σ K newE pe fs data) K newE) := by
  unfold nodeAt
  rw [attach_entries, if_neg (dropLast_ne_self hK), if_pos rfl]
  rfl

theorem copyStep_file_new {dk rootPath pre D : FsPath} {c : CopyOpts} {ci : Bool} {st : State}
    {e pe : Entry} {fs : List Str} {bytes : File.Bytes}
    (hfollow : c.follow = false)
    (hpre : if ci = true then rootPath ≠ [] ∧ pre = rootPath.dropLast else pre = rootPath)
    (hD : dstOf dk e.path pre = D) (hDne : D ≠ [])
    (he : alLookup e.path st.entries = some e)
    (hfile : e.file = true) (hlink : e.link = false) (hdir : e.dir = false)
    (hdata : alLookup e.path st.files = some bytes)
    (hpar : alLookup D.dropLast st.entries = some pe) (hped : pe.dir = true) (hpel : pe.link = false)
    (hpefs : pe.files = some fs) (hfree : alLookup D st.entries = none) (hname : baseName D ∉ fs)
    (hsd : e.path ≠ D) :
    copyStep dk c ci rootPath e st = (.ok (),
      attach st D (({ e with path := D }).setMode ((copyFileMode c).getD e.mode)) pe fs (some bytes)) := by
  let dstE : Entry := ({ e with path := D }).setMode ((copyFileMode c).getD e.mode)
  have hadd := add_new (s := st) (e := dstE) (d := pe) (fs := fs) hDne hpar hped hpel hpefs hfree hname
  have hdl : dstE.link = false := hlink
  have hdf : dstE.file = true := hfile
  have hcond : (!dstE.link && dstE.file) = true := by rw [hdl, hdf]; rfl
  rw [if_pos hcond] at hadd
  have hpath : dstE.path = D := rfl
  simp only [hpath] at hadd
  have hne' : D ≠ e.path := fun h => hsd h.symm
  have hlink' : (e.link = true) = False := by simp [hlink]
  have hdir' : (e.dir = true) = False := by simp [hdir]
  have hnl : (!e.link) = true := by simp [hlink]
  have hnf : (!e.file) = false := by simp [hfile]
  unfold copyStep
  extract_lets dm fm jp body
  show (if ci = true then dirOf rootPath >>= jp else M.pure rootPath >>= jp) st = _
  rw [cutPrefix_bind hpre]
  simp only [jp, dm, fm, hD, hfollow, hlink', Bool.not_false, Bool.false_eq_true, and_false,
    if_false, getEntry_bind_apply, he, mpure_bind, hdir', dirOf_ne_nil hDne, hpar, Option.isNone_some]
  rw [bind_ok hadd]
  simp only [getFile_bind_apply, alLookup_alInsert_self, Option.isNone_some, Bool.false_eq_true,
    if_false, hnl, hnf, alLookup_alInsert_ne hne', hdata, setFile_apply, pure_bind', if_true]
  rfl

/-- destination root of a copy: `dk/<name>` when `dk` is an existing real directory, else `dk` -/
def copyDst (s : State) (sk dk : FsPath) : FsPath :=
  if isDirP s dk = true then dk ++ [baseName sk] else dk

theorem dstOf_eq_copyDst {s : State} {sk dk r pre : FsPath} (hdk : WfKey dk) (hwsk : WfKey sk) (hr : WfKey r)
    (hpre : if isDirP s dk = true then sk ≠ [] ∧ pre = sk.dropLast else pre = sk) :
    dstOf dk (sk ++ r) pre = copyDst s sk dk ++ r := dstOf_sub hdk hwsk hr hpre

/-- the state after copying one regular file to a free slot -/
def fileCopied (s : State) (D : FsPath) (c : CopyOpts) (srcE pe : Entry) (fs : List Str)
    (bytes : File.Bytes) : State :=
  { s with
    entries := alInsert D.dropLast { pe with files := some (insertName (baseName D) fs).2 }
      (alInsert D (({ srcE with path := D }).setMode ((copyFileMode c).getD srcE.mode)) s.entries)
    files := alInsert D bytes (alInsert D [] s.files) }

theorem fileCopied_eq_attach (σ : State) (K : FsPath) (c : CopyOpts) (srcE pe : Entry) (fs : List Str)
    (bytes : File.Bytes) :
    fileCopied σ K c srcE pe fs bytes =
      attach σ K (({ srcE with path := K }).setMode ((copyFileMode c).getD srcE.mode)) pe fs (some bytes) := rfl

theorem copyM_file {env : Env} {a b : Str} {c : CopyOpts} {s : State} {sk dk : FsPath}
    {srcE pe : Entry} (hi : InvF s) (hk : KeysWf s) (hdk : WfKey dk)
    (ha : absM env a s = (.ok sk, s)) (hb : absM env b s = (.ok dk, s)) (hne : sk ≠ dk)
    (hfollow : c.follow = false)
    (hsrc : alLookup sk s.entries = some srcE) (hfile : srcE.file = true) (hlink : srcE.link = false)
    (hdir : srcE.dir = false)
    (hDne : copyDst s sk dk ≠ [])
    (hfree : alLookup (copyDst s sk dk) s.entries = none)
    (hpar : alLookup (copyDst s sk dk).dropLast s.entries = some pe) (hped : pe.dir = true)
    (hpel : pe.link = false) :
    ∃ fs bytes, pe.files = some fs ∧ alLookup sk s.files = some bytes ∧
      copyM env a b c s = (.ok (), fileCopied s (copyDst s sk dk) c srcE pe fs bytes) := by
  have hskne : sk ≠ [] := hi.ne_root_of_not_dir hsrc hdir
  have hp : srcE.path = sk := hi.path sk srcE hsrc
  have hwsk : WfKey sk := hk.key hsrc
  have hnofiles : srcE.files = none := hi.no_files_of_not_dir hsrc hdir
  obtain ⟨fs, hfs⟩ := hi.files_of_dir hpar hped
  obtain ⟨bytes, hbytes⟩ := hi.bytes_of_file hsrc hfile hlink
  refine ⟨fs, bytes, hfs, hbytes, ?_⟩
  have hent : entriesOf s (srcE.doFollow c.follow).path = .ok (srcE, [(sk, srcE)]) := by
    rw [hfollow, doFollow_false, hp]
    have := entriesOf_leaf hsrc hnofiles hlink
    rw [hp] at this; exact this
  rw [copyM_resolved ha hb hne hsrc hent, hfollow, doFollow_false, hp]
  have hfuel : travFuel [(sk, srcE)] = 574 + 2 := by simp [travFuel]
  rw [hfuel, runIter_single _ _ hdir]
  have hpre := preOf_spec (ci := isDirP s dk) fun _ => hskne
  have hD : dstOf dk srcE.path (preOf (isDirP s dk) sk) = copyDst s sk dk := by
    have := dstOf_eq_copyDst (r := []) hdk hwsk wfKey_nil hpre
    rw [List.append_nil, List.append_nil] at this
    rw [hp]; exact this
  have hname : baseName (copyDst s sk dk) ∉ fs := by
    intro hmem
    obtain ⟨x, hx⟩ := hi.child _ pe fs _ hpar hfs hmem
    rw [dropLast_append_baseName hDne, hfree] at hx
    cases hx
  have hsd : srcE.path ≠ copyDst s sk dk := by
    rw [hp]; intro h; rw [← h, hsrc] at hfree; cases hfree
  have hstep := copyStep_file_new (dk := dk) (rootPath := sk) (c := c) (ci := isDirP s dk) (st := s)
    (e := srcE) (pe := pe) (fs := fs) (bytes := bytes) hfollow
    hpre hD hDne (by rw [hp]; exact hsrc) hfile hlink hdir
    (by rw [hp]; exact hbytes) hpar hped hpel hfs hfree hname hsd
  rw [hstep]
  rfl

theorem or_sub_bit (i : Nat) {x : Nat} (h : x < 2 ^ i) : (x ||| 2 ^ i) - 2 ^ i = x := by
  have h2 := Nat.two_pow_add_eq_or_of_lt h 1
  rw [Nat.mul_one] at h2
  rw [Nat.or_comm, ← h2]
  omega

theorem or_sub_typebit {x : Nat} (h : x < 0o100000) : (x ||| 0o100000) - 0o100000 = x := or_sub_bit 15 h

/-- the abstract node of the new file -/
def copiedFileNode (c : CopyOpts) (srcE : Entry) (bytes : File.Bytes) : Node :=
  { kind := .file, perm := ((copyFileMode c).getD srcE.mode) &&& 0o7777,
    uid := srcE.uid, gid := srcE.gid, target := none, data := bytes }

theorem nodeAt_fileCopied {s : State} {D : FsPath} {c : CopyOpts} {srcE pe : Entry} {fs : List Str}
    {bytes : File.Bytes} (hDne : D ≠ []) (hpar : alLookup D.dropLast s.entries = some pe)
    (hfile : srcE.file = true) (hlink : srcE.link = false) (hdir : srcE.dir = false) (k : FsPath) :
    nodeAt (fileCopied s D c srcE pe fs bytes) k =
      if D = k then some (copiedFileNode c srcE bytes) else nodeAt s k := by
  rw [fileCopied_eq_attach]
  by_cases hk : D = k
  · subst hk
    rw [if_pos rfl, nodeAt_attach_self hDne]
    simp only [absNode, kindOf, Entry.setMode, ModeBits.optsMode_some, hlink, hfile, hdir, attach_files,
      copiedFileNode, Bool.false_eq_true, if_false, if_true, typeBits, Option.getD_some,
      or_sub_typebit (Nat.lt_trans (ModeBits.and_perm_lt _) (by decide : 0o10000 < 0o100000))]
  · rw [if_neg hk, nodeAt_attach_other hpar hk]

/-! ### the reference copy onto a free destination -/

theorem prefixes_dropLast (p : FsPath) :
    (prefixes p).dropLast = (List.range p.length).map (fun n => p.take n) := by
  unfold prefixes
  rw [List.range_succ, List.map_append]
  exact List.dropLast_concat

theorem proper_prefix_of_mem {p q : FsPath} (h : q ∈ (prefixes p).dropLast) :
    ∃ c, p.dropLast = q ++ c := by
  rw [prefixes_dropLast, List.mem_map] at h
  obtain ⟨i, hi, rfl⟩ := h
  rw [List.mem_range] at hi
  refine ⟨p.dropLast.drop i, ?_⟩
  have h1 : p.dropLast = p.take (p.length - 1) := List.dropLast_eq_take
  have h2 : p.take i = p.dropLast.take i := by
    rw [h1, List.take_take]
    congr 1
    omega
  rw [h2, List.take_append_drop]

theorem ancestors_are_dirs {s : State} (hi : InvF s) {D : FsPath} {pe : Entry}
    (hpar : alLookup D.dropLast s.entries = some pe) (hped : pe.dir = true) (hpel : pe.link = false) :
    ∀ q ∈ (prefixes D).dropLast, ∃ x, alLookup q s.entries = some x ∧ x.dir = true ∧ x.link = false := by
  intro q hq
  obtain ⟨c, hc⟩ := proper_prefix_of_mem hq
  by_cases hc0 : c = []
  · subst hc0
    rw [List.append_nil] at hc
    exact ⟨pe, by rw [← hc]; exact hpar, hped, hpel⟩
  · rw [hc] at hpar
    exact ancestor_is_dir hi c q pe hpar hc0

theorem mkAncestors_noop (perm : Nat) (t : T) :
    ∀ anc : List FsPath, (∀ q ∈ anc, ∃ n, TreeFs.get t q = some n) → mkAncestors perm anc t = t := by
  intro anc
  induction anc with
  | nil => intro _; rfl
  | cons q r ih =>
    intro h
    obtain ⟨n, hn⟩ := h q (by simp)
    unfold mkAncestors
    simp only [List.foldl_cons, hn]
    exact ih (fun q' hq' => h q' (List.mem_cons_of_mem _ hq'))

theorem get_put (t : T) (p : FsPath) (n : Node) (k : FsPath) :
    TreeFs.get (put t p n) k = if p = k then some n else TreeFs.get t k := by
  unfold TreeFs.get put
  exact alLookup_alInsert k p n t.nodes

/-- what the reference makes of a source node copied onto a free slot -/
def copiedNode (dm fm : Option Nat) (n : Node) : Node :=
  match n.kind with
  | .dir => { n with perm := dm.getD n.perm }
  | .file => { n with perm := fm.getD n.perm }
  | .link _ => n

theorem copiedNode_file {dm fm : Option Nat} {n : Node} (h : n.kind = Kind.file) :
    copiedNode dm fm n = { n with perm := fm.getD n.perm } := by
  unfold copiedNode; rw [h]

theorem copyOne_none (dm fm : Option Nat) (n : Node) :
    copyOne dm fm n none = .ok (copiedNode dm fm n) := by
  unfold copyOne copiedNode
  cases n.kind <;> rfl

theorem get_putOuts_ok (l : List (FsPath × Node)) (hn : (l.map (·.1)).Nodup) :
    ∀ (t : T) (k : FsPath),
      TreeFs.get (putOuts (l.map (fun kv => (kv.1, R.ok kv.2))) t) k =
        (alLookup k l).or (TreeFs.get t k) := by
  induction l with
  | nil => intro t k; rfl
  | cons x r ih =>
    intro t k
    obtain ⟨k1, v1⟩ := x
    simp only [List.map_cons, List.nodup_cons] at hn
    unfold putOuts
    simp only [List.map_cons, List.foldl_cons]
    have := ih hn.2 (put t k1 v1) k
    unfold putOuts at this
    rw [this, get_put]
    simp only [alLookup]
    by_cases h : k1 = k
    · subst h
      have : alLookup k1 r = none := alLookup_eq_none_iff.2 hn.1
      simp [this]
    · simp [h]

theorem putOuts_cwd (outs : List (FsPath × R Node)) : ∀ t : T, (putOuts outs t).cwd = t.cwd := by
  induction outs with
  | nil => intro t; rfl
  | cons o r ih =>
    intro t
    obtain ⟨k, v⟩ := o
    cases v with
    | ok n => exact ih (put t k n)
    | err e => exact ih t
    | unspecified => exact ih t

theorem any_unspec_ok (l : List (FsPath × Node)) :
    (l.map (fun kv => ((kv.1, R.ok kv.2) : FsPath × R Node))).any (fun o => o.2.isUnspecified) = false := by
  induction l with
  | nil => rfl
  | cons x r ih => simp only [List.map_cons, List.any_cons, R.isUnspecified, Bool.false_or]; exact ih

theorem any_err_ok (l : List (FsPath × Node)) :
    (l.map (fun kv => ((kv.1, R.ok kv.2) : FsPath × R Node))).any (fun o => o.2.isErr) = false := by
  induction l with
  | nil => rfl
  | cons x r ih => simp only [List.map_cons, List.any_cons, R.isErr, Bool.false_or]; exact ih

/-- **the reference copy onto a free destination** whose parent is an existing directory and which
    does not lie below the source: it succeeds, every node of the source subtree appears (re-written
    by the perm rule) at the corresponding destination key, and nothing else changes -/
theorem copySpec_free {s : State} {sk dk : FsPath} {rootE pe : Entry} (hi : InvF s)
    (hsrc : alLookup sk s.entries = some rootE) (hskne : sk ≠ []) (hne : sk ≠ dk)
    (hfree : alLookup (copyDst s sk dk) s.entries = none)
    (hpar : alLookup (copyDst s sk dk).dropLast s.entries = some pe) (hped : pe.dir = true)
    (hpel : pe.link = false) (hnotUnder : ¬ sk <+: copyDst s sk dk)
    (mode : Option Nat) (cdirs cfiles : Bool) :
    ∃ t2, copySpec (absS s) sk dk mode cdirs cfiles = (.ok (), t2) ∧ t2.cwd = s.cwd ∧
      (∀ r, TreeFs.get t2 (copyDst s sk dk ++ r) =
        (nodeAt s (sk ++ r)).map (copiedNode (dirPerm mode cdirs cfiles) (filePerm mode cdirs cfiles))) ∧
      (∀ k, (∀ r, k ≠ copyDst s sk dk ++ r) → TreeFs.get t2 k = nodeAt s k) := by
  have hget : TreeFs.get (absS s) sk = some (absNode s sk rootE) := (get_absS_nodeAt s sk).trans (nodeAt_some hsrc)
  have hroot : (if isDir (absS s) dk = true then dk ++ [baseName sk] else dk) = copyDst s sk dk := by
    rw [isDir_absS]; rfl
  generalize hDdef : copyDst s sk dk = D at *
  have hbelow : ∀ r, alLookup (D ++ r) s.entries = none := by
    intro r
    by_cases hr : r = []
    · subst hr; rw [List.append_nil]; exact hfree
    · exact nothing_below hi (Or.inl hfree) hr
  have hinc1 : isPrefixOrEq sk D = false := by
    rw [isPrefixOrEq_false_iff]
    intro t ht
    exact hnotUnder ⟨t, ht.symm⟩
  have hinc2 : isPrefixOrEq D sk = false := by
    rw [isPrefixOrEq_false_iff]
    intro t ht
    rw [ht, hbelow t] at hsrc; cases hsrc
  have hgetD : ∀ r, TreeFs.get (absS s) (D ++ r) = none :=
    fun r => (get_absS_nodeAt s _).trans (nodeAt_none (hbelow r))
  have houts : ((absS s).nodes.filter (fun kv => isPrefixOrEq sk kv.1)).map (fun kv =>
        (D ++ kv.1.drop sk.length,
          copyOne (dirPerm mode cdirs cfiles) (filePerm mode cdirs cfiles) kv.2
            (TreeFs.get (absS s) (D ++ kv.1.drop sk.length)))) =
      (reKey sk D (copiedNode (dirPerm mode cdirs cfiles) (filePerm mode cdirs cfiles))
        (absS s).nodes).map (fun kv => (kv.1, R.ok kv.2)) := by
    unfold reKey
    rw [List.map_map]
    apply List.map_congr_left
    intro kv _
    simp only [Function.comp, hgetD, copyOne_none]
  have hanc := ancestors_are_dirs hi hpar hped hpel
  have hancget : ∀ q ∈ (prefixes D).dropLast, ∃ n, TreeFs.get (absS s) q = some n ∧ n.kind = Kind.dir := by
    intro q hq
    obtain ⟨x, hx, hxd, hxl⟩ := hanc q hq
    exact ⟨absNode s q x, (get_absS_nodeAt s q).trans (nodeAt_some hx), (kindOf_dir_iff x).2 ⟨hxd, hxl⟩⟩
  have hnodup : ((absS s).nodes.map (·.1)).Nodup := by
    show ((s.entries.map (fun kv => (kv.1, absNode s kv.1 kv.2))).map (·.1)).Nodup
    rw [List.map_map]
    exact hi.nodup
  refine ⟨putOuts ((reKey sk D (copiedNode (dirPerm mode cdirs cfiles)
      (filePerm mode cdirs cfiles)) (absS s).nodes).map (fun kv => (kv.1, R.ok kv.2))) (absS s),
    ?_, ?_, ?_, ?_⟩
  · unfold copySpec
    simp only [hne, if_false, hget, hskne, hroot, hinc1, hinc2, Bool.or_self, Bool.false_eq_true,
      houts, any_unspec_ok, any_err_ok]
    rw [mkAncestors_noop _ _ _ (fun q hq => by obtain ⟨n, hn, _⟩ := hancget q hq; exact ⟨n, hn⟩)]
    rw [if_neg]
    intro h
    rw [List.any_eq_true] at h
    obtain ⟨q, hq, hq2⟩ := h
    obtain ⟨n, hn, hk⟩ := hancget q hq
    simp [hn, hk] at hq2
  · rw [putOuts_cwd]; rfl
  · intro r
    rw [get_putOuts_ok _ (nodup_reKey sk D _ hnodup), alLookup_reKey, hgetD, Option.or_none]
    show Option.map _ (TreeFs.get (absS s) (sk ++ r)) = _
    rw [get_absS_nodeAt]
  · intro k hk
    rw [get_putOuts_ok _ (nodup_reKey sk D _ hnodup), alLookup_reKey_other _ _ _ _ _ hk, get_absS_nodeAt]
    rfl

theorem copyFileMode_eq (c : CopyOpts) : copyFileMode c = filePerm c.mode c.cdirs c.cfiles := by
  unfold copyFileMode filePerm
  cases c.mode <;> cases c.cfiles <;> cases c.cdirs <;> simp

theorem copyDirMode_eq (c : CopyOpts) : copyDirMode c = dirPerm c.mode c.cdirs c.cfiles := by
  unfold copyDirMode dirPerm
  cases c.mode <;> cases c.cfiles <;> cases c.cdirs <;> simp


/-- a stored mode in canonical form (permission bits plus the type bits `T`): its permission part -/
theorem canon_sub {m T : Nat} (hT : ∀ x, x < 0o10000 → (x ||| T) - T = x)
    (hmode : (m &&& 0o7777) ||| T = m) : m - T = m &&& 0o7777 := by
  have := hT _ (ModeBits.and_perm_lt m)
  rw [hmode] at this
  exact this

/-- the permission bits `set_mode`/`mkdir_m` keep of the given-or-source mode are the reference's
    given-or-source permission (source mode canonical, given mode a permission value) -/
theorem getD_perm_eq' {m T : Nat} (o : Option Nat) (hT : ∀ x, x < 0o10000 → (x ||| T) - T = x)
    (hmode : (m &&& 0o7777) ||| T = m)
    (hperm : ∀ x, o = some x → x < 0o10000) :
    o.getD m &&& 0o7777 = o.getD (m - T) := by
  cases o with
  | none =>
    show m &&& 0o7777 = m - T
    exact (canon_sub hT hmode).symm
  | some x =>
    show x &&& 0o7777 = x
    exact ModeBits.and_perm_of_lt x (hperm x rfl)

theorem getD_perm_eq {m : Nat} (o : Option Nat) (hmode : (m &&& 0o7777) ||| 0o100000 = m)
    (hperm : ∀ x, o = some x → x < 0o10000) :
    o.getD m &&& 0o7777 = o.getD (m - 0o100000) :=
  getD_perm_eq' o (fun _ hx => or_sub_typebit (Nat.lt_trans hx (by decide))) hmode hperm

theorem typeBits_file : typeBits Kind.file = 0o100000 := rfl

/-- the new abstract node is the reference's copy of the source node.  `hmode`: the source mode is
    canonical (permission bits plus the file type bit — what every `optsMode` result is); `hperm`: a
    given mode is a permission value (the reference stores it uninterpreted, Memfs masks it) -/
theorem copiedFileNode_eq {s : State} {sk : FsPath} {c : CopyOpts} {srcE : Entry} {bytes : File.Bytes}
    (hlink : srcE.link = false) (hdir : srcE.dir = false)
    (hbytes : alLookup sk s.files = some bytes)
    (hmode : (srcE.mode &&& 0o7777) ||| 0o100000 = srcE.mode)
    (hperm : ∀ x, c.mode = some x → x < 0o10000) :
    copiedFileNode c srcE bytes =
      { absNode s sk srcE with
        perm := (filePerm c.mode c.cdirs c.cfiles).getD (absNode s sk srcE).perm } := by
  have hk : kindOf srcE = Kind.file := (kindOf_file_iff srcE).2 ⟨hdir, hlink⟩
  have hp := getD_perm_eq (m := srcE.mode) (copyFileMode c) hmode (by
    intro x hx
    apply hperm
    rw [copyFileMode_eq] at hx
    unfold filePerm at hx
    split at hx
    · exact hx
    · cases hx)
  unfold copiedFileNode absNode
  rw [hk, typeBits_file, hp, copyFileMode_eq, hlink, hbytes]
  rfl

theorem copy_file_refines {env : Env} {a b : Str} {c : CopyOpts} {s : State} {sk dk : FsPath}
    {srcE pe : Entry} (hi : InvF s) (hk : KeysWf s) (hdk : WfKey dk)
    (ha : absM env a s = (.ok sk, s)) (hb : absM env b s = (.ok dk, s)) (hne : sk ≠ dk)
    (hfollow : c.follow = false)
    (hsrc : alLookup sk s.entries = some srcE) (hfile : srcE.file = true) (hlink : srcE.link = false)
    (hdir : srcE.dir = false)
    (hDne : copyDst s sk dk ≠ [])
    (hfree : alLookup (copyDst s sk dk) s.entries = none)
    (hpar : alLookup (copyDst s sk dk).dropLast s.entries = some pe) (hped : pe.dir = true)
    (hpel : pe.link = false)
    (hmode : (srcE.mode &&& 0o7777) ||| 0o100000 = srcE.mode)
    (hperm : ∀ x, c.mode = some x → x < 0o10000) :
    ∃ s', copyM env a b c s = (.ok (), s') ∧
      (copySpec (absS s) sk dk c.mode c.cdirs c.cfiles).1 = .ok () ∧
      TEquiv (absS s') (copySpec (absS s) sk dk c.mode c.cdirs c.cfiles).2 := by
  obtain ⟨fs, bytes, hfs, hbytes, hrun⟩ :=
    copyM_file (c := c) hi hk hdk ha hb hne hfollow hsrc hfile hlink hdir hDne hfree hpar hped hpel
  have hskne : sk ≠ [] := hi.ne_root_of_not_dir hsrc hdir
  -- nothing lives below a regular file, so the destination's parent is not there
  have hleaf : ∀ r, r ≠ [] → alLookup (sk ++ r) s.entries = none :=
    fun r hr => nothing_below hi (Or.inr ⟨srcE, hsrc, hdir⟩) hr
  have hnotUnder : ¬ sk <+: copyDst s sk dk := by
    rintro ⟨t, ht⟩
    by_cases ht0 : t = []
    · rw [ht0, List.append_nil] at ht; rw [← ht, hsrc] at hfree; cases hfree
    · rw [← ht, List.dropLast_append_of_ne_nil ht0] at hpar
      by_cases ht1 : t.dropLast = []
      · rw [ht1, List.append_nil, hsrc] at hpar
        cases hpar; rw [hdir] at hped; cases hped
      · rw [hleaf _ ht1] at hpar; cases hpar
  obtain ⟨t2, hspec, hcwd2, hdst2, hother2⟩ :=
    copySpec_free hi hsrc hskne hne hfree hpar hped hpel hnotUnder c.mode c.cdirs c.cfiles
  rw [hspec]
  refine ⟨_, hrun, rfl, hcwd2.symm, fun k => ?_⟩
  rw [get_absS_nodeAt, nodeAt_fileCopied hDne hpar hfile hlink hdir]
  by_cases hk : ∃ r, k = copyDst s sk dk ++ r
  · obtain ⟨r, rfl⟩ := hk
    rw [hdst2 r]
    by_cases hr : r = []
    · subst hr
      rw [if_pos (List.append_nil _).symm, List.append_nil, nodeAt_some hsrc, Option.map_some,
        copiedFileNode_eq (s := s) (sk := sk) hlink hdir hbytes hmode hperm,
        copiedNode_file ((kindOf_file_iff srcE).2 ⟨hdir, hlink⟩)]
    · rw [if_neg (self_ne_append hr), nodeAt_none (nothing_below hi (Or.inl hfree) hr),
        nodeAt_none (hleaf r hr)]
      rfl
  · rw [hother2 k (fun r h => hk ⟨r, h⟩), if_neg (fun h => hk ⟨[], h.symm.trans (List.append_nil _).symm⟩)]

/-! ### frame calculus: which keys an operation can touch -/

/-- `m` changes the entry map and the data map only at keys satisfying `C`, and never the cwd -/
def Frame {α : Type} (C : FsPath → Prop) (m : M α) : Prop :=
  ∀ st, (∀ k, ¬ C k → alLookup k (m st).2.entries = alLookup k st.entries ∧
                       alLookup k (m st).2.files = alLookup k st.files) ∧ (m st).2.cwd = st.cwd

section
variable {α β : Type} {C : FsPath → Prop}

theorem frame_of_state_eq {m : M α} (h : ∀ st, (m st).2 = st) : Frame C m := by
  intro st; rw [h st]; exact ⟨fun _ _ => ⟨rfl, rfl⟩, rfl⟩

theorem frame_pure (a : α) : Frame C (Pure.pure a : M α) := frame_of_state_eq (fun _ => rfl)
theorem frame_mpure (a : α) : Frame C (M.pure a : M α) := frame_of_state_eq (fun _ => rfl)
theorem frame_fail (k : ErrKind) : Frame C (M.fail k : M α) := frame_of_state_eq (fun _ => rfl)
theorem frame_liftO (o : Outcome α) : Frame C (M.liftO o) := frame_of_state_eq (fun _ => rfl)
theorem frame_getEntry (p : FsPath) : Frame C (getEntry p) := frame_of_state_eq (fun _ => rfl)
theorem frame_getFile (p : FsPath) : Frame C (getFile p) := frame_of_state_eq (fun _ => rfl)
theorem frame_dirOf (p : FsPath) : Frame C (dirOf p) := by
  unfold dirOf; split
  · exact frame_fail _
  · exact frame_mpure _

theorem frame_setEntry {p : FsPath} (hp : C p) (e : Entry) : Frame C (setEntry p e) := by
  intro st
  refine ⟨fun k hk => ⟨?_, rfl⟩, rfl⟩
  show alLookup k (alInsert p e st.entries) = _
  exact alLookup_alInsert_ne (fun h => hk (by rw [← h]; exact hp)) _ _

theorem frame_setFile {p : FsPath} (hp : C p) (b : File.Bytes) : Frame C (setFile p b) := by
  intro st
  refine ⟨fun k hk => ⟨rfl, ?_⟩, rfl⟩
  show alLookup k (alInsert p b st.files) = _
  exact alLookup_alInsert_ne (fun h => hk (by rw [← h]; exact hp)) _ _

theorem frame_bind {m : M α} {f : α → M β} (hm : Frame C m) (hf : ∀ a, Frame C (f a)) :
    Frame C (m >>= f) := by
  intro st
  rw [bind_apply]
  have h1 := hm st
  cases hr : m st with
  | mk r s' =>
    rw [hr] at h1
    cases r with
    | ok a =>
      have h2 := hf a s'
      refine ⟨fun k hk => ?_, h2.2.trans h1.2⟩
      exact ⟨((h2.1 k hk).1).trans (h1.1 k hk).1, ((h2.1 k hk).2).trans (h1.1 k hk).2⟩
    | err k => exact h1
    | panic => exact h1
    | hang => exact h1

theorem frame_forM {γ : Type} (l : List γ) (f : γ → M PUnit) (h : ∀ a ∈ l, Frame C (f a)) :
    Frame C (l.forM f) := by
  induction l with
  | nil => exact frame_pure _
  | cons a r ih =>
    show Frame C (f a >>= fun _ => r.forM f)
    exact frame_bind (h a (by simp)) (fun _ => ih (fun b hb => h b (List.mem_cons_of_mem _ hb)))

end

theorem frame_ite {α : Type} {C : FsPath → Prop} {c : Prop} [Decidable c] {t e : M α}
    (ht : Frame C t) (he : Frame C e) : Frame C (if c then t else e) := prop_ite ht he

/-- `_add` touches the new key and its parent only -/
theorem frame_add {C : FsPath → Prop} (e : Entry) (h1 : C e.path) (h2 : C e.path.dropLast) :
    Frame C (add e) := by
  unfold add
  refine frame_ite (frame_pure _) (frame_bind (frame_getEntry _) (fun o => ?_))
  split
  · refine frame_ite (frame_fail _) (frame_bind (frame_getEntry _) (fun o => ?_))
    split
    · exact frame_ite (frame_fail _) (frame_ite (frame_fail _) (frame_ite (frame_fail _) (frame_pure _)))
    · extract_lets listIt
      have hlist : ∀ r, Frame C (listIt r) := fun _ =>
        frame_bind (frame_setEntry h1 _) (fun _ => frame_bind (frame_getEntry _) (fun o => by
          split
          · exact frame_bind (frame_liftO _) (fun x =>
              frame_bind (frame_setEntry h2 _) (fun _ => frame_ite (frame_fail _) (frame_pure _)))
          · exact frame_pure _))
      exact frame_ite (frame_bind (frame_setFile h1 _) hlist) (hlist ())
  · exact frame_fail _

theorem frame_mkdirM {C : FsPath → Prop} (p : FsPath) (mode : Option Nat)
    (h : ∀ q ∈ prefixes p, C q ∧ C q.dropLast) : Frame C (mkdirM p mode) := by
  unfold mkdirM
  apply frame_forM
  intro q hq
  have h1 : C (mkDirEntry q mode).path := (h q hq).1
  have h2 : C (mkDirEntry q mode).path.dropLast := (h q hq).2
  exact frame_bind (frame_add _ h1 h2) (fun _ => frame_pure _)

theorem frame_symlinkAbs {C : FsPath → Prop} (l t : FsPath) (h1 : C l) (h2 : C l.dropLast) :
    Frame C (symlinkAbs l t) := by
  unfold symlinkAbs
  refine frame_bind (frame_getEntry _) (fun o => ?_)
  split
  · exact frame_fail _
  · refine frame_bind (frame_dirOf _) (fun ldir => ?_)
    refine frame_bind (frame_getEntry _) (fun o2 => ?_)
    exact frame_bind (frame_add _ h1 h2) (fun _ => frame_pure _)

/-- `k` is an ancestor of `D`, `D` itself, or below `D` -/
def Cmp (D k : FsPath) : Prop := k <+: D ∨ D <+: k

theorem cmp_ext (D r : FsPath) : Cmp D (D ++ r) := Or.inr (List.prefix_append _ _)

theorem cmp_dropLast {D k : FsPath} (h : Cmp D k) : Cmp D k.dropLast := by
  rcases h with h | ⟨r, rfl⟩
  · exact Or.inl ((List.dropLast_prefix k).trans h)
  · by_cases hr : r = []
    · subst hr; rw [List.append_nil]; exact Or.inl (List.dropLast_prefix D)
    · rw [List.dropLast_append_of_ne_nil hr]; exact cmp_ext _ _

theorem cmp_prefix {D r q : FsPath} (h : q <+: D ++ r) : Cmp D q := by
  rcases List.prefix_or_prefix_of_prefix h (List.prefix_append D r) with h | h
  · exact Or.inl h
  · exact Or.inr h

theorem mem_prefixes {p q : FsPath} (h : q ∈ prefixes p) : q <+: p := by
  unfold prefixes at h
  rw [List.mem_map] at h
  obtain ⟨n, _, rfl⟩ := h
  exact List.take_prefix _ _

theorem cmp_prefixes {D p : FsPath} (hp : Cmp D p) :
    ∀ q ∈ prefixes p, Cmp D q ∧ Cmp D q.dropLast := by
  intro q hq
  have hqp := mem_prefixes hq
  have : Cmp D q := by
    rcases hp with hp | ⟨r, rfl⟩
    · exact Or.inl (hqp.trans hp)
    · exact cmp_prefix hqp
  exact ⟨this, cmp_dropLast this⟩

theorem frame_dirOf_bind {β : Type} {C : FsPath → Prop} {p : FsPath} {f : FsPath → M β}
    (h : p ≠ [] → Frame C (f p.dropLast)) : Frame C (dirOf p >>= f) := by
  by_cases hp : p = []
  · subst hp; rw [dirOf_nil, fail_bind]; exact frame_fail _
  · rw [dirOf_ne_nil hp, mpure_bind]; exact h hp

/-- the per-entry body of `_copy` touches only keys comparable with the destination root -/
theorem frame_copyStep {dk rootPath D : FsPath} {c : CopyOpts} {ci : Bool} (e : Entry)
    (hD : ∀ pre, (if ci = true then rootPath ≠ [] ∧ pre = rootPath.dropLast else pre = rootPath) →
      ∃ r, dstOf dk e.path pre = D ++ r) :
    Frame (Cmp D) (copyStep dk c ci rootPath e) := by
  unfold copyStep
  extract_lets dm fm d body
  clear_value dm fm
  have key : ∀ pre, (∃ r, dstOf dk e.path pre = D ++ r) → Frame (Cmp D) (d pre) := by
    intro pre ⟨r, hr⟩
    simp -zeta only [d]
    extract_lets dstPath jp1
    have hdp : dstPath = D ++ r := hr
    have h1 : Cmp D dstPath := hdp ▸ cmp_ext D r
    have h2 : Cmp D dstPath.dropLast := cmp_dropLast h1
    have h3 := cmp_prefixes h1
    have h4 := cmp_prefixes h2
    refine frame_ite (frame_bind (frame_symlinkAbs _ _ h1 h2) (fun _ => frame_pure _))
      (frame_bind (frame_getEntry _) (fun lift => ?_))
    have hjp1 : ∀ srcE, Frame (Cmp D) (jp1 srcE) := by
      intro srcE
      simp -zeta only [jp1]
      refine frame_ite (frame_mkdirM _ _ h3) (frame_dirOf_bind (fun _ => ?_))
      refine frame_bind (frame_getEntry _) (fun lift2 => ?_)
      extract_lets dstE jpA jpB jpC jpD
      have hA : ∀ u, Frame (Cmp D) (jpA u) := by
        intro u
        simp -zeta only [jpA]
        refine frame_bind (frame_getFile _) (fun lift4 => ?_)
        cases lift4 with
        | some b => exact frame_setFile h1 _
        | none => exact frame_fail _
      have hB : ∀ u, Frame (Cmp D) (jpB u) := by
        intro u
        simp -zeta only [jpB]
        exact frame_ite (frame_bind (frame_fail _) (fun r => hA r)) (hA ())
      have hC : ∀ u, Frame (Cmp D) (jpC u) := by
        intro u
        simp -zeta only [jpC]
        refine frame_bind (frame_add dstE h1 h2) (fun _ => frame_ite ?_ (frame_pure _))
        exact frame_bind (frame_getFile _) (fun lift3 =>
          frame_ite (frame_bind (frame_fail _) (fun r => hB r)) (hB ()))
      have hD' : ∀ pm, Frame (Cmp D) (jpD pm) := by
        intro pm
        simp -zeta only [jpD]
        exact frame_bind (frame_mkdirM _ _ h4) (fun r => hC r)
      refine frame_ite ?_ (hC ())
      cases dm with
      | some x => exact frame_bind (frame_mpure _) (fun pm => hD' pm)
      | none =>
        refine frame_bind (frame_dirOf _) (fun sd => frame_bind (frame_getEntry _) (fun lift5 => ?_))
        cases lift5 with
        | some x => exact frame_bind (frame_mpure _) (fun pm => hD' pm)
        | none => exact frame_bind (frame_fail _) (fun pm => hD' pm)
    cases lift with
    | some x => exact frame_bind (frame_mpure _) (fun x => hjp1 x)
    | none => exact frame_bind (frame_fail _) (fun x => hjp1 x)
  show Frame (Cmp D) body
  simp -zeta only [body]
  cases ci with
  | true =>
    simp only [if_true]
    by_cases hr : rootPath = []
    · subst hr
      rw [dirOf_nil, fail_bind]
      exact frame_fail _
    · rw [dirOf_ne_nil hr, mpure_bind]
      exact key _ (hD _ (by simp [hr]))
  | false =>
    simp only [Bool.false_eq_true, if_false, mpure_bind]
    exact key _ (hD _ (by simp))

end Rivia.Lemmas
