/-
  Rivia.Lemmas.User — helper lemmas for C18 (XDG directories, getrids):
  `mash` of a well-formed name, `homeOr`, `listOr`, `parseU32`.
-/
import Rivia.Model.User
import Rivia.Lemmas.Relative
import Rivia.Lemmas.PathLaws

namespace Rivia.Lemmas
open Rivia Rivia.Str Rivia.User

/-! ### mash -/

theorem components_mash_wf {d b : Str} (hd : d ≠ []) (hb : Wf b) :
    components (mash d b) = components d ++ [.normal b] := by
  rw [mash_components, Spec.mashComps, if_neg hd, stripSlashes_of_not_mem hb.2.1, Spec.bodyComps,
    splitSlash, splitOn_of_not_mem hb.2.1, List.filterMap_cons_some (bodyComp_of_wf hb)]
  rfl

theorem mash_wf_ne_nil {d b : Str} (hd : d ≠ []) (hb : Wf b) : mash d b ≠ [] := by
  intro h
  have := components_mash_wf hd hb
  rw [h, components_nil] at this
  exact List.append_ne_nil_of_right_ne_nil _ (List.cons_ne_nil _ _) this.symm

/-! ### homeOr / listOr -/

theorem homeOr_eq (env : Env) (var : String) (d : Str → Str) :
    homeOr env var d = match env var.toList with
      | some x => .ok x
      | none => match env "HOME".toList with
        | some h => .ok (d h)
        | none => .err .var := by
  unfold homeOr v homeDir proto
  cases env var.toList with
  | some x => rfl
  | none => cases env "HOME".toList <;> rfl

theorem homeOr_set {env : Env} {var : String} {x : Str} (d : Str → Str)
    (h : env var.toList = some x) : homeOr env var d = .ok x := by
  rw [homeOr_eq, h]

theorem homeOr_unset {env : Env} {var : String} {hm : Str} (d : Str → Str)
    (h : env var.toList = none) (hh : env "HOME".toList = some hm) :
    homeOr env var d = .ok (d hm) := by
  rw [homeOr_eq, h, hh]

theorem homeOr_err_iff (env : Env) (var : String) (d : Str → Str) :
    (∃ k, homeOr env var d = .err k) ↔ (env var.toList = none ∧ env "HOME".toList = none) := by
  rw [homeOr_eq]
  cases env var.toList <;> cases env "HOME".toList <;> simp

theorem userDirs_eq (env : Env) (var : String) (d : Str → Str) :
    (match homeOr env var d with | .ok c => [c] | _ => []) =
      match env var.toList with
      | some x => [x]
      | none => match env "HOME".toList with
        | some h => [d h]
        | none => [] := by
  rw [homeOr_eq]
  cases env var.toList with
  | some x => rfl
  | none => cases env "HOME".toList <;> rfl

theorem listOr_eq (env : Env) (var : String) (dflt : List Str) :
    listOr env var dflt = match env var.toList with
      | some x => if (splitOn ':' x).filter (fun s => s ≠ []) = [] then dflt
                  else (splitOn ':' x).filter (fun s => s ≠ [])
      | none => dflt := by
  unfold listOr v parsePaths
  cases env var.toList with
  | none => rfl
  | some x => simp only [List.isEmpty_iff]

theorem listOr_ne_nil (env : Env) (var : String) (dflt : List Str) (hd : ∀ d ∈ dflt, d ≠ []) :
    ∀ d ∈ listOr env var dflt, d ≠ [] := by
  rw [listOr_eq]
  cases env var.toList with
  | none => exact hd
  | some x =>
    simp only
    split
    · exact hd
    · exact fun d hd' => of_decide_eq_true (List.mem_filter.1 hd').2

/-! ### vfsConfigDir (repaired code) -/

theorem vfsConfigDir_eq (env : Env) (ex : Str → Bool) (name : Str) :
    vfsConfigDir env ex name =
      ((match configDir env with | .ok c => [c] | _ => []) ++ sysConfigDirs env).find?
        (fun d => ex (mash d name)) := by
  unfold vfsConfigDir
  cases configDir env <;> rfl

/-! ### parseU32 -/

def digitsVal (ds : Str) : Nat := ds.foldl (fun acc c => acc * 10 + (c.toNat - 48)) 0

def stripPlus (s : Str) : Str := match s with | '+' :: r => r | _ => s

def parseDigits (ds : Str) : Option Nat :=
  if ds = [] ∨ !ds.all Char.isDigit then none
  else if digitsVal ds < 2 ^ 32 then some (digitsVal ds) else none

theorem parseU32_eq (s : Str) : parseU32 s = parseDigits (stripPlus s) := rfl

theorem stripPlus_noplus {s : Str} (hs : s.head? ≠ some '+') : stripPlus s = s := by
  unfold stripPlus
  split
  · exact absurd rfl hs
  · rfl

theorem parseDigits_iff (r : Str) (n : Nat) :
    parseDigits r = some n ↔ (r ≠ [] ∧ (∀ c ∈ r, c.isDigit = true) ∧ digitsVal r = n ∧ n < 2 ^ 32) := by
  unfold parseDigits
  rw [← List.all_eq_true]
  by_cases h1 : r = []
  · simp [h1]
  · by_cases h2 : r.all Char.isDigit = true
    · by_cases hlt : digitsVal r < 2 ^ 32
      · simp only [h1, h2, hlt, Bool.not_true, Bool.false_eq_true, or_self, if_false, if_true,
          Option.some.injEq, ne_eq, not_false_eq_true, true_and]
        exact ⟨fun e => ⟨e, e ▸ hlt⟩, fun e => e.1⟩
      · simp only [h1, h2, hlt, Bool.not_true, Bool.false_eq_true, or_self, if_false,
          reduceCtorEq, ne_eq, not_false_eq_true, true_and, false_iff]
        exact fun e => hlt (e.1 ▸ e.2)
    · simp [h1, h2]

theorem parseU32_iff (s : Str) (n : Nat) :
    parseU32 s = some n ↔
      ∃ ds : Str, (s = ds ∨ s = '+' :: ds) ∧ ds ≠ [] ∧ (∀ c ∈ ds, c.isDigit = true) ∧
        ds.foldl (fun acc c => acc * 10 + (c.toNat - 48)) 0 = n ∧ n < 2 ^ 32 := by
  rw [parseU32_eq, parseDigits_iff]
  by_cases hp : s.head? = some '+'
  · obtain ⟨r, rfl⟩ : ∃ r, s = '+' :: r := by
      cases s with
      | nil => cases hp
      | cons c cs => exact ⟨cs, by rw [Option.some.inj hp]⟩
    constructor
    · exact fun h => ⟨r, Or.inr rfl, h⟩
    · rintro ⟨ds, h | h, h1, h2, h3⟩
      · -- `+` is not a digit
        exact absurd (h2 '+' (h ▸ List.mem_cons_self)) (by decide)
      · obtain rfl := (List.cons.inj h).2
        exact ⟨h1, h2, h3⟩
  · rw [stripPlus_noplus hp]
    constructor
    · exact fun h => ⟨s, Or.inl rfl, h⟩
    · rintro ⟨ds, rfl | rfl, h⟩
      · exact h
      · exact absurd rfl hp

end Rivia.Lemmas
