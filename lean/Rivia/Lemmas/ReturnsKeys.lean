/-
  Rivia.Lemmas.ReturnsKeys — the key-shape predicates of Lemmas/MoveWf.lean under the namespace
  `Rivia.Lemmas.Ret` (see Lemmas/Returns.lean).
-/
import Rivia.Lemmas.Returns

namespace Rivia.Lemmas.Ret
open Rivia Rivia.Str Rivia.Memfs Rivia.Spec

/-- the resolved destination of the call consists of ordinary components -/
def DstWf (env : Env) (s : State) (b : Str) : Prop :=
  match absM env b s with
  | (.ok dk, _) => WfKey dk
  | _ => True

instance (env : Env) (s : State) (b : Str) : Decidable (DstWf env s b) := by
  unfold DstWf; split <;> infer_instance

/-- all keys consist of ordinary path components -/
def NamesWf (s : State) : Prop := ∀ kv ∈ s.entries, WfKey kv.1

/-- a real directory is not also a regular file -/
def KindExcl (s : State) : Prop :=
  ∀ kv ∈ s.entries, kv.2.dir = true → kv.2.link = false → kv.2.file = false

instance (s : State) : Decidable (NamesWf s) := by unfold NamesWf; infer_instance
instance (s : State) : Decidable (KindExcl s) := by unfold KindExcl; infer_instance

end Rivia.Lemmas.Ret
