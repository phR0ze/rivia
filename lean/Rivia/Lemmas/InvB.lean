/-
  Rivia.Lemmas.InvB — C03, group B: `remove`, `removeAll`, `symlink`, `moveP` preserve the tree invariant.

  * `inv_step_B3`  : `remove`, `removeAll`, `symlink` preserve plain `Inv`, for every environment, every
                      argument and every outcome (also `hang`), with no further hypothesis.
  * `moveP` does NOT preserve plain `Inv` (three unreachable witnesses, see `Rivia/Props/C03B.lean`); it
    preserves the strengthened invariant `Strong s := Inv s ∧ KeysWf s ∧ SortedKids s ∧ FlagsOk s`.
  * `strong_step_B` : all four operations preserve `Strong` (outcome ≠ hang needed for `moveP` only).
  * `inv_step_B`    : plain `Inv` for all four, with the three extras as explicit hypotheses.
-/
import Rivia.Lemmas.InvBMove

namespace Rivia.Lemmas.InvB
open Rivia Rivia.Memfs Rivia.File Rivia.Spec Rivia.Lemmas

/-- the operations of group B -/
def CoveredB : Op → Prop
  | .remove _ | .removeAll _ | .symlink _ _ | .moveP _ _ => True
  | _ => False

instance : DecidablePred CoveredB := fun op => by
  unfold CoveredB; split <;> infer_instance

/-- the operations of group B that preserve the plain invariant -/
def CoveredB3 : Op → Prop
  | .remove _ | .removeAll _ | .symlink _ _ => True
  | _ => False

instance : DecidablePred CoveredB3 := fun op => by
  unfold CoveredB3; split <;> infer_instance

/-- the strengthened invariant: `Inv` plus well-formed key names, sorted child lists, exclusive kind flags -/
def Strong (s : State) : Prop := Spec.Inv s ∧ KeysWf s ∧ SortedKids s ∧ FlagsOk s

instance (s : State) : Decidable (Strong s) := by unfold Strong; infer_instance

theorem good_false_iff (s : State) : Good False s ↔ Spec.Inv s := by
  unfold Good
  rw [inv_iff]
  exact ⟨fun h => h.1, fun h => ⟨h, fun hf => hf.elim⟩⟩

theorem good_true_iff (s : State) : Good True s ↔ Strong s := by
  unfold Good Strong
  rw [inv_iff]
  constructor
  · rintro ⟨h1, h2⟩; exact ⟨h1, (extS_iff h1.1).1 (h2 trivial)⟩
  · rintro ⟨h1, h2⟩; exact ⟨h1, fun _ => (extS_iff h1.1).2 h2⟩

theorem good_step_B3 {b : Prop} (env : Env) (s : State) (op : Op) (hc : CoveredB3 op) (h : Good b s) :
    Good b (step env s op).2 := by
  unfold CoveredB3 at hc
  split at hc
  · show Good b (mapVal _ (removeM env _) s).2
    rw [mapVal_snd]; exact good_removeM env _ s h
  · show Good b (mapVal _ (removeAllM env _) s).2
    rw [mapVal_snd]; exact good_removeAllM env _ s h
  · show Good b (mapVal _ (symlinkM env _ _) s).2
    rw [mapVal_snd]; exact good_symlinkM env _ _ s h
  · exact hc.elim

/-- **remove / removeAll / symlink preserve `Inv`** — every environment, every argument, every outcome
    (error exits and `hang` included) -/
theorem inv_step_B3 (env : Env) (s : State) (op : Op) (hc : CoveredB3 op) (h : Spec.Inv s) :
    Spec.Inv (step env s op).2 :=
  (good_false_iff _).1 (good_step_B3 env s op hc ((good_false_iff s).2 h))

/-- **all four operations preserve the strengthened invariant** -/
theorem strong_step_B (env : Env) (s : State) (op : Op) (hc : CoveredB op) (h : Strong s)
    (hh : (step env s op).1 ≠ .hang) : Strong (step env s op).2 := by
  rw [← good_true_iff] at h ⊢
  unfold CoveredB at hc
  split at hc
  · exact good_step_B3 env s _ trivial h
  · exact good_step_B3 env s _ trivial h
  · exact good_step_B3 env s _ trivial h
  · show Good True (mapVal _ (moveM env _ _) s).2
    rw [mapVal_snd]
    exact good_moveM env _ _ s h (fun h0 => hh ((mapVal_hang _ _ _).2 h0))
  · exact hc.elim

/-- plain `Inv` for all of group B; `KeysWf`, `SortedKids`, `FlagsOk` are needed for `moveP` only
    (`inv_step_B3` covers the other three without them) -/
theorem inv_step_B (env : Env) (s : State) (op : Op) (hc : CoveredB op)
    (h : Spec.Inv s) (hk : KeysWf s) (hs : SortedKids s) (hf : FlagsOk s)
    (hh : (step env s op).1 ≠ .hang) : Spec.Inv (step env s op).2 :=
  (strong_step_B env s op hc ⟨h, hk, hs, hf⟩ hh).1

theorem extras_step_B (env : Env) (s : State) (op : Op) (hc : CoveredB op)
    (h : Spec.Inv s) (hk : KeysWf s) (hs : SortedKids s) (hf : FlagsOk s)
    (hh : (step env s op).1 ≠ .hang) :
    KeysWf (step env s op).2 ∧ SortedKids (step env s op).2 ∧ FlagsOk (step env s op).2 :=
  (strong_step_B env s op hc ⟨h, hk, hs, hf⟩ hh).2

/-- `KeysWf s` discharges the "abs only returns well-formed keys" hypothesis used by group A -/
theorem absWf_of_keysWf (env : Env) (s : State) (hk : KeysWf s) :
    ∀ raw a, absWith env (renderP s.cwd) raw = .ok a → ∀ n ∈ toPath a, BodyPiece n :=
  fun _ _ h => absWith_wf hk.2 h

end Rivia.Lemmas.InvB
