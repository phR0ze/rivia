/-
  Rivia.Lemmas.SnapshotCopy — the traversal hypothesis of the tree-copy theorem (C09 f) discharged:

  * `runIter_walk`: with `follow = false`, parents first, for ANY consumer `step` (it may fail and
    stop the loop, like the `?` in `for e in it`), the stack machine feeds the consumer exactly
    the recursive walk: `runIter … step … = runList step (entriesSpec …)`;
  * `preOrder_walk`: on a correct snapshot of a well-formed state the walk with the options of
    `copy` (`copyOpts false`: no filter, no sort, depth limit `u64::MAX`) is a `PreOrder` listing of
    the subtree — provided no key is `2^64` names deep (`DepthOk`, the model's `max_depth`);
  * `copy_tree_refines_strong`: `copy_tree_refines` without `entriesOf` / `PreOrder` / traversal
    hypotheses.
-/
import Rivia.Lemmas.Snapshot
import Rivia.Lemmas.CopyTree
import Rivia.Lemmas.WalkCF

namespace Rivia.Lemmas.Snap
open Rivia Rivia.Memfs Rivia.Spec Rivia.Spec.TreeFs Rivia.Lemmas

/-! ### the machine feeds any consumer the walk -/

set_option linter.unusedVariables false in
theorem runIter_walk {σ : Type} {snap : Snap} (hwf : SnapWf snap) {o : Opts} (hfol : o.follow = false)
    (hcf : o.contentsFirst = false) (hord : OrdOk o) (hk : KindOk o) {rootE : Entry}
    (hr : InSnap snap rootE) (step : Entry → σ → Outcome Unit × σ) (w : σ) :
    runIter snap o noPre rootE step (travFuel snap) {} w = runList step (entriesSpec snap o rootE) w := by
  rw [Walk.runIter_any hwf hfol hr step (runList step) (fun _ => rfl) (fun _ _ _ => rfl) _ (Nat.le_refl _),
    Walk.eff_eq hk hord]

/-! ### the walk of `copy` lists the subtree in pre-order -/

/-- no key is `2^64` or more names deep (the traversal's default `max_depth` is `u64::MAX`) -/
def DepthOk (s : State) : Prop := ∀ kv ∈ s.entries, kv.1.length < 2 ^ 64

instance (s : State) : Decidable (DepthOk s) := by unfold DepthOk; infer_instance

theorem copyOpts_facts : (copyOpts false).follow = false ∧ (copyOpts false).contentsFirst = false ∧
    OrdOk (copyOpts false) ∧ KindOk (copyOpts false) := by decide

theorem mem_copyWalk {s : State} (hinv : Spec.Inv s) (hd : DepthOk s) {sk : FsPath} {rootE : Entry}
    {snap : Snap} (hwf : SnapWf snap) (hr : InSnap snap rootE) (hso : SnapOf s sk snap)
    (hp : rootE.path = sk) (y : Entry) :
    y ∈ entriesSpec snap (copyOpts false) rootE ↔ ∃ r, y.path = sk ++ r ∧ alLookup (sk ++ r) s.entries = some y := by
  have hlk := Walk.snapOf_lookup hso
  rw [entriesSpec, Walk.mem_walk_iff hwf _ _ rootE 0 y hr (Nat.lt_succ_of_le (Walk.pot_le _ _)), hp]
  constructor
  · rintro ⟨hy, t, ht, _, _, _⟩
    refine ⟨t, ht, ?_⟩
    rw [← hlk _ (List.prefix_append sk t), ← ht]
    exact hy
  · rintro ⟨r, hyp, hy⟩
    have hys : alLookup (sk ++ r) snap = some y := by rw [hlk _ (List.prefix_append sk r)]; exact hy
    refine ⟨by unfold InSnap; rw [hyp]; exact hys, r, hyp, ?_, ?_, ?_⟩
    · right
      have := hd _ (alLookup_mem hy)
      simp only [List.length_append] at this
      simp only [copyOpts, Nat.zero_add]
      omega
    · intro t1 n t2 ht
      obtain ⟨pe, h1, h2, h3, h4⟩ := Walk.chain_of_inv hinv hy t1 n t2 ht
      exact ⟨pe, by rw [hlk _ (List.prefix_append sk t1)]; exact h1, h2, h3, h4⟩
    · simp [selected, copyOpts]

theorem preOrder_walk {s : State} (hinv : Spec.Inv s) (hd : DepthOk s) {sk : FsPath} {rootE : Entry}
    {snap : Snap} (hwf : SnapWf snap) (hr : InSnap snap rootE) (hso : SnapOf s sk snap)
    (hp : rootE.path = sk) : PreOrder s sk (entriesSpec snap (copyOpts false) rootE) := by
  have hmem := mem_copyWalk hinv hd hwf hr hso hp
  have hf := invF_of_inv hinv
  refine ⟨fun e he => ?_, fun r e he => (hmem e).2 ⟨r, hf.path _ _ he, he⟩,
    Walk.walk_nodup hwf _ _ rootE 0 hr, ?_⟩
  · exact (hmem e).1 he
  · intro L1 e L2 hL r r' her hpre hne
    have he : e ∈ entriesSpec snap (copyOpts false) rootE := by rw [hL]; simp
    obtain ⟨r0, h0, hlk⟩ := (hmem e).1 he
    have hr0 : r0 = r := List.append_cancel_left (h0.symm.trans her)
    subst hr0
    obtain ⟨t, rfl⟩ := hpre
    -- the ancestor exists, hence is listed
    obtain ⟨pe, hpe⟩ := Walk.inv_prefix hinv (sk ++ r') t.length t e rfl (by rw [List.append_assoc]; exact hlk)
    have hpp : pe.path = sk ++ r' := hf.path _ _ hpe
    have hpeL : pe ∈ entriesSpec snap (copyOpts false) rootE := (hmem pe).2 ⟨r', hpp, hpe⟩
    have hpw := Walk.walk_parents_first hwf (copyOpts false) rfl (snap.length + 1) rootE 0 hr
    have hpw' : (L1 ++ e :: L2).Pairwise (fun a b => ¬ (b.path <+: a.path ∧ b.path ≠ a.path)) := by
      rw [← hL]; exact hpw
    have hanc : pe.path <+: e.path ∧ pe.path ≠ e.path := by
      rw [hpp, her]
      refine ⟨⟨t, by simp⟩, ?_⟩
      intro h
      have := List.append_cancel_left h
      exact hne this
    rw [hL] at hpeL
    rcases List.mem_append.1 hpeL with h | h
    · exact ⟨pe, h, hpp⟩
    · exfalso
      rcases List.mem_cons.1 h with h | h
      · subst h; exact hanc.2 rfl
      · have h2 := (List.pairwise_append.1 hpw').2.1
        exact (List.pairwise_cons.1 h2).1 pe h hanc

/-! ### the tree copy without traversal hypotheses -/

theorem copy_tree_refines_strong {env : Env} {a b : Str} {c : CopyOpts} {s : State} {sk dk : FsPath}
    {rootE : Entry}
    (hinv : Spec.Inv s) (hs : Sorted s.entries) (hd : DepthOk s)
    (ctx : TreeCtx s sk dk c)
    (ha : absM env a s = (.ok sk, s)) (hb : absM env b s = (.ok dk, s)) (hne : sk ≠ dk)
    (hsrc : alLookup sk s.entries = some rootE) :
    ∃ s', copyM env a b c s = (.ok (), s') ∧
      (copySpec (absS s) sk dk c.mode c.cdirs c.cfiles).1 = .ok () ∧
      TEquiv (absS s') (copySpec (absS s) sk dk c.mode c.cdirs c.cfiles).2 := by
  obtain ⟨snap, hent, hwf, hr, hso, _⟩ := snapshot_correct_core hinv hs hsrc
  have hp : rootE.path = sk := ctx.hi.path sk rootE hsrc
  obtain ⟨f1, f2, f3, f4⟩ := copyOpts_facts
  exact copy_tree_refines ctx ha hb hne hsrc hent (preOrder_walk hinv hd hwf hr hso hp)
    (fun step w => runIter_walk hwf f1 f2 f3 f4 hr step w)

end Rivia.Lemmas.Snap
