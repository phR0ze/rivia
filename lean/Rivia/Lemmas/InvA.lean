/-
  Rivia.Lemmas.InvA — C03 (tree invariant): the common ground of the three groups of operations, and
  group A (queries, creation, content, handles, cwd, chmod / chown).

  `InvP` is `Rivia.Spec.Inv` as a structure of propositions over `alLookup` (`inv_iff`).
  `Pres I m` says that every exit of `m` (ok, error, panic or hang) from an `I` state is an `I` state;
  an operation is taken apart with `Pres.bind` / `Pres.ite`, the pieces that only read keep every `I`.
  `runIter_pres`: a traversal changes the threaded state only through its two closures.
  `StepAInv I Q` collects what the group-A operations need of an invariant `I`; the tree invariant,
  well-formed keys and sorted child lists are instances (`EntryOps.stepAInv` for the per-entry ones).
-/
import Rivia.Lemmas.MemfsBase

namespace Rivia.Lemmas.InvA
open Rivia Rivia.Memfs Rivia.Spec Rivia.Memfs.M

section AL
variable {β : Type}

/-- the keys of an association list, in order -/
abbrev alKeys (l : List (FsPath × β)) : List FsPath := l.map (·.1)

@[simp] theorem alLookup_nil (k : FsPath) : alLookup k ([] : List (FsPath × β)) = none := rfl

theorem alLookup_cons (k k' : FsPath) (v : β) (l : List (FsPath × β)) :
    alLookup k ((k', v) :: l) = if k' = k then some v else alLookup k l := rfl

theorem alLookup_isNone_iff (k : FsPath) (l : List (FsPath × β)) :
    (alLookup k l).isNone ↔ k ∉ alKeys l := by
  rw [Option.isNone_iff_eq_none]; exact alLookup_eq_none_iff

@[simp] theorem alLookup_alInsert_self (k : FsPath) (v : β) (l : List (FsPath × β)) :
    alLookup k (alInsert k v l) = some v := Lemmas.alLookup_alInsert_self k v l

theorem alLookup_alInsert_ne {k k' : FsPath} (h : k' ≠ k) (v : β) (l : List (FsPath × β)) :
    alLookup k' (alInsert k v l) = alLookup k' l := Lemmas.alLookup_alInsert_ne h.symm v l

theorem mem_alKeys_alInsert (k k' : FsPath) (v : β) (l : List (FsPath × β)) :
    k' ∈ alKeys (alInsert k v l) ↔ k' = k ∨ k' ∈ alKeys l := by
  rw [← alLookup_isSome_iff_mem_keys, ← alLookup_isSome_iff_mem_keys, alLookup_alInsert]
  by_cases h : k = k'
  · simp [h]
  · simp [h, Ne.symm h]

theorem alInsert_length_of_mem {k : FsPath} (v : β) {l : List (FsPath × β)} (h : k ∈ alKeys l) :
    (alInsert k v l).length = l.length := length_alInsert_of_mem h

theorem alKeys_alErase (k : FsPath) (l : List (FsPath × β)) :
    alKeys (alErase k l) = (alKeys l).erase k := by
  induction l with
  | nil => rfl
  | cons kv r ih =>
    obtain ⟨k0, v0⟩ := kv
    simp only [alErase, alKeys, List.map_cons]
    by_cases h0 : k0 = k
    · subst h0; simp
    · have : (k0 == k) = false := by simpa using h0
      simp only [h0, if_false, List.map_cons, List.erase_cons, this]
      exact congrArg _ ih

theorem nodup_alKeys_alErase (k : FsPath) {l : List (FsPath × β)} (h : (alKeys l).Nodup) :
    (alKeys (alErase k l)).Nodup := nodup_alErase h

/-- lookup after erase (needs distinct keys: `alErase` removes only the first occurrence) -/
theorem alLookup_alErase (k k' : FsPath) {l : List (FsPath × β)} (hn : (alKeys l).Nodup) :
    alLookup k' (alErase k l) = if k' = k then none else alLookup k' l := by
  rw [Lemmas.alLookup_alErase hn]
  by_cases h : k' = k
  · rw [if_pos h, if_pos h.symm]
  · rw [if_neg h, if_neg (Ne.symm h)]

theorem mem_alKeys_alErase (k k' : FsPath) {l : List (FsPath × β)} (hn : (alKeys l).Nodup) :
    k' ∈ alKeys (alErase k l) ↔ k' ≠ k ∧ k' ∈ alKeys l := by
  rw [alKeys_alErase]; exact List.Nodup.mem_erase_iff hn

theorem alErase_of_not_mem {k : FsPath} {l : List (FsPath × β)} (h : k ∉ alKeys l) :
    alErase k l = l := Lemmas.alErase_of_not_mem h

theorem alErase_length_of_mem {k : FsPath} {l : List (FsPath × β)} (h : k ∈ alKeys l) :
    (alErase k l).length + 1 = l.length := length_alErase_of_mem h

theorem mem_iff_of_alLookup_eq {l l' : List (FsPath × β)} (hn : (alKeys l).Nodup)
    (hn' : (alKeys l').Nodup) (h : ∀ k, alLookup k l = alLookup k l') (kv : FsPath × β) :
    kv ∈ l ↔ kv ∈ l' := by
  obtain ⟨k, v⟩ := kv
  exact ⟨fun hm => alLookup_mem (h k ▸ alLookup_of_mem hn hm),
    fun hm => alLookup_mem (h k ▸ alLookup_of_mem hn' hm)⟩

end AL

theorem insertName_fst_false {n : Str} {l : List Str} (h : (insertName n l).1 = false) : n ∈ l := by
  induction l with
  | nil => simp [insertName] at h
  | cons y ys ih =>
    simp only [insertName] at h
    split at h
    · rename_i h'; simp [h']
    · split at h
      · simp at h
      · exact List.mem_cons_of_mem _ (ih h)

theorem insertName_nodup {n : Str} {l : List Str} (hn : n ∉ l) (h : l.Nodup) :
    (insertName n l).2.Nodup := by
  induction l with
  | nil => simp [insertName]
  | cons y ys ih =>
    simp only [List.mem_cons, not_or] at hn
    simp only [insertName]
    split
    · exact h
    · split
      · exact List.nodup_cons.mpr ⟨by simp [hn.1, hn.2], h⟩
      · simp only [List.nodup_cons] at h ⊢
        refine ⟨?_, ih hn.2 h.2⟩
        rw [mem_insertName]
        rintro (h' | h')
        · exact hn.1 h'.symm
        · exact h.1 h'

/-- child lists are kept in non-decreasing `strLt` order -/
abbrev SortedNames (l : List Str) : Prop := l.Pairwise (fun a b => strLt b a = false)

theorem strLt_irrefl (a : Str) : strLt a a = false := Lemmas.strLt_irrefl a

theorem pairwise_insertName (n : Str) {l : List Str} (h : SortedNames l) :
    SortedNames (insertName n l).2 := by
  induction l with
  | nil => simp [insertName, SortedNames]
  | cons x xs ih =>
    simp only [insertName]
    split
    · exact h
    · split
      · rename_i hlt
        refine List.pairwise_cons.mpr ⟨?_, h⟩
        intro y hy
        rcases List.mem_cons.mp hy with rfl | hy
        · exact strLt_asymm _ _ hlt
        · have hxy : strLt y x = false := (List.pairwise_cons.mp h).1 y hy
          cases hyn : strLt y n with
          | false => rfl
          | true => rw [strLt_trans _ _ _ hyn hlt] at hxy; cases hxy
      · rename_i hlt
        have hx := List.pairwise_cons.mp h
        refine List.pairwise_cons.mpr ⟨?_, ih hx.2⟩
        intro y hy
        rw [mem_insertName] at hy
        rcases hy with rfl | hy
        · simpa using hlt
        · exact hx.1 y hy

/-- `MemfsEntry::add(name)` only replaces the child list -/
theorem addChild_eq {d d' : Entry} {n : Str} {b : Bool} (h : d.addChild n = .ok (b, d')) :
    d' = { d with files := some (match d.files with | some fs => (insertName n fs).2 | none => [n]) } := by
  unfold Entry.addChild at h
  split at h
  · cases h
  · split at h <;> cases h <;> simp [*]

theorem dropLast_concat' (k : FsPath) (n : Str) : (k ++ [n]).dropLast = k := by simp

theorem baseName_concat (k : FsPath) (n : Str) : baseName (k ++ [n]) = n := baseName_snoc k n

theorem mem_prefixes {p q : FsPath} (h : q ∈ prefixes p) : ∃ n, q = p.take n := by
  unfold prefixes at h
  obtain ⟨n, _, rfl⟩ := List.mem_map.mp h
  exact ⟨n, rfl⟩

theorem bind_getEntry {β} (p : FsPath) (f : Option Entry → M β) (s : State) :
    M.bind (Memfs.getEntry p) f s = f (alLookup p s.entries) s := rfl
theorem bind_getFile {β} (p : FsPath) (f : Option File.Bytes → M β) (s : State) :
    M.bind (Memfs.getFile p) f s = f (alLookup p s.files) s := rfl
theorem bind_modify {β} (g : State → State) (f : Unit → M β) (s : State) :
    M.bind (M.modify g) f s = f () (g s) := rfl
theorem bind_liftO_ok {α β} (a : α) (f : α → M β) (s : State) :
    M.bind (M.liftO (.ok a)) f s = f a s := rfl
theorem bind_pure {α β} (a : α) (f : α → M β) (s : State) :
    M.bind (M.pure a) f s = f a s := rfl

/-! ### the invariant as a proposition -/

/-- Prop-level form of the C03 invariant (`Rivia.Spec.Inv`) -/
structure InvP (s : State) : Prop where
  keysNodup : (alKeys s.entries).Nodup
  rootOk : ∃ e, alLookup [] s.entries = some e ∧ e.dir = true ∧ e.link = false
  rootNil : s.root = []
  parent : ∀ k e, alLookup k s.entries = some e → k ≠ [] →
    ∃ pe fs, alLookup k.dropLast s.entries = some pe ∧ pe.dir = true ∧ pe.link = false ∧
      pe.files = some fs ∧ baseName k ∈ fs
  child : ∀ k e fs n, alLookup k s.entries = some e → e.files = some fs → n ∈ fs →
    (alLookup (k ++ [n]) s.entries).isSome = true
  data : ∀ k e, alLookup k s.entries = some e →
    ((e.file = true ∧ e.link = false) ↔ (alLookup k s.files).isSome = true)
  dataKey : ∀ k, (alLookup k s.files).isSome = true → (alLookup k s.entries).isSome = true
  dataNodup : (alKeys s.files).Nodup
  pathField : ∀ k e, alLookup k s.entries = some e → e.path = k
  filesDir : ∀ k e, alLookup k s.entries = some e → (e.files.isSome = true ↔ e.dir = true)
  childNodup : ∀ k e fs, alLookup k s.entries = some e → e.files = some fs → fs.Nodup

theorem ite_some_eq_none {α} {c : Prop} [Decidable c] {a : α} {x : Option α}
    (h : (if c then some a else x) = none) : ¬ c ∧ x = none := by
  split at h
  · cases h
  · rename_i hc; exact ⟨hc, h⟩

theorem inv_imp (s : State) (h : Spec.Inv s) : InvP s := by
  unfold Spec.Inv invViolation at h
  -- name the seven searches: what is left of `h` is a small chain of tests
  generalize h4 : List.find? _ s.entries = o4 at h
  generalize h5 : List.find? _ s.entries = o5 at h
  generalize h6 : List.find? _ s.entries = o6 at h
  generalize h7 : List.find? _ s.files = o7 at h
  generalize h9 : List.find? _ s.entries = o9 at h
  generalize h10 : List.find? _ s.entries = o10 at h
  generalize h11 : List.find? _ s.entries = o11 at h
  obtain ⟨h1, h⟩ := ite_some_eq_none h
  obtain ⟨h2, h⟩ := ite_some_eq_none h
  obtain ⟨h3, h⟩ := ite_some_eq_none h
  split at h
  · cases h
  split at h
  · cases h
  split at h
  · cases h
  split at h
  · cases h
  obtain ⟨h8, h⟩ := ite_some_eq_none h
  split at h
  · cases h
  split at h
  · cases h
  split at h
  · cases h
  clear h
  have h1' : (alKeys s.entries).Nodup := by simpa using h1
  have h8' : (alKeys s.files).Nodup := by simpa using h8
  have h3' : s.root = [] := by simpa using h3
  rw [List.find?_eq_none] at h4 h5 h6 h7 h9 h10 h11
  have L : ∀ {k e}, alLookup k s.entries = some e → (k, e) ∈ s.entries := alLookup_mem
  refine ⟨h1', ?_, h3', ?_, ?_, ?_, ?_, h8', ?_, ?_, ?_⟩
  · cases hr : alLookup [] s.entries with
    | none => simp [hr] at h2
    | some e =>
      simp only [hr, Option.map_some] at h2
      have : (e.dir && !e.link) = true := by simpa using h2
      simp only [Bool.and_eq_true, Bool.not_eq_true'] at this
      exact ⟨e, rfl, this.1, this.2⟩
  · intro k e hk hne
    have := h4 _ (L hk)
    cases hpe : alLookup k.dropLast s.entries with
    | none => simp [hpe, hne] at this
    | some pe =>
      cases hfs : pe.files with
      | none => simp [hpe, hne, hfs] at this
      | some fs =>
        simp only [hpe, hfs] at this
        have : pe.dir = true ∧ pe.link = false ∧ baseName k ∈ fs := by
          have := by simpa using this
          have := this hne
          exact ⟨this.1.1, this.1.2, this.2⟩
        exact ⟨pe, fs, rfl, this.1, this.2.1, hfs, this.2.2⟩
  · intro k e fs n hk hfs hn
    have := h5 _ (L hk)
    simp only [hfs, List.any_eq_true, not_exists, not_and] at this
    have := this n hn
    cases hh : alLookup (k ++ [n]) s.entries <;> simp [hh] at this ⊢
  · intro k e hk
    have := h6 _ (L hk)
    simp only [bne_iff_ne, ne_eq, Decidable.not_not] at this
    rw [← this]
    simp
  · intro k hk
    rw [alLookup_isSome_iff_mem_keys] at hk
    obtain ⟨⟨k', b⟩, hm, rfl⟩ := List.mem_map.mp hk
    have := h7 _ hm
    cases hh : alLookup k' s.entries <;> simp [hh] at this ⊢
  · intro k e hk
    have := h9 _ (L hk)
    simpa using this
  · intro k e hk
    have := h10 _ (L hk)
    simp only [bne_iff_ne, ne_eq, Decidable.not_not] at this
    rw [this]
  · intro k e fs hk hfs
    have := h11 _ (L hk)
    simpa [hfs] using this

theorem imp_inv (s : State) (h : InvP s) : Spec.Inv s := by
  obtain ⟨h1, ⟨re, hr, hrd, hrl⟩, h3, h4, h5, h6, h7, h8, h9, h10, h11⟩ := h
  have L : ∀ {kv : FsPath × Entry}, kv ∈ s.entries → alLookup kv.1 s.entries = some kv.2 :=
    fun {kv} hm => alLookup_of_mem h1 hm
  have h1' : (List.map (fun x : FsPath × Entry => x.1) s.entries).Nodup := h1
  have h8' : (List.map (fun x : FsPath × File.Bytes => x.1) s.files).Nodup := h8
  unfold Spec.Inv invViolation
  simp only []
  rw [if_neg (by simp [h1']), if_neg (by simp [hr, hrd, hrl]), if_neg (by simp [h3])]
  split
  · rename_i kv hk
    exfalso
    have hp := List.find?_some hk
    have hm := L (List.mem_of_find?_eq_some hk)
    by_cases hne : kv.1 = []
    · simp [hne] at hp
    · obtain ⟨pe, fs, hpe, hd, hl, hfs, hb⟩ := h4 _ _ hm hne
      simp [hne, hpe, hd, hl, hfs, hb] at hp
  split
  · rename_i kv hk
    exfalso
    have hp := List.find?_some hk
    have hm := L (List.mem_of_find?_eq_some hk)
    split at hp
    · rename_i fs hfs
      simp only [List.any_eq_true] at hp
      obtain ⟨n, hn, hnone⟩ := hp
      have := h5 _ _ _ n hm hfs hn
      cases hh : alLookup (kv.1 ++ [n]) s.entries <;> simp [hh] at this hnone
    · simp at hp
  split
  · rename_i kv hk
    exfalso
    have hp := List.find?_some hk
    have hm := L (List.mem_of_find?_eq_some hk)
    have := h6 _ _ hm
    simp only [bne_iff_ne, ne_eq] at hp
    apply hp
    rw [Bool.eq_iff_iff, ← this]
    simp
  split
  · rename_i kv hk
    exfalso
    have hp := List.find?_some hk
    have hm := List.mem_of_find?_eq_some hk
    have : (alLookup kv.1 s.files).isSome = true := by
      exact alLookup_isSome_iff_mem_keys.mpr (List.mem_map.mpr ⟨kv, hm, rfl⟩)
    have := h7 _ this
    cases hh : alLookup kv.1 s.entries <;> simp [hh] at this hp
  rw [if_neg (by simp [h8'])]
  split
  · rename_i kv hk
    exfalso
    have hp := List.find?_some hk
    have hm := L (List.mem_of_find?_eq_some hk)
    simp [h9 _ _ hm] at hp
  split
  · rename_i kv hk
    exfalso
    have hp := List.find?_some hk
    have hm := L (List.mem_of_find?_eq_some hk)
    have := h10 _ _ hm
    simp only [bne_iff_ne, ne_eq] at hp
    apply hp
    rw [Bool.eq_iff_iff]; exact this
  split
  · rename_i kv hk
    exfalso
    have hp := List.find?_some hk
    have hm := L (List.mem_of_find?_eq_some hk)
    split at hp
    · rename_i fs hfs
      simp [h11 _ _ _ hm hfs] at hp
    · simp at hp
  rfl

theorem inv_iff (s : State) : Spec.Inv s ↔ InvP s := ⟨inv_imp s, imp_inv s⟩

/-! ### every exit keeps the invariant -/

/-- every exit of `m` (ok, error, panic or hang) from an `I` state is an `I` state -/
structure Pres {α} (I : State → Prop) (m : M α) : Prop where
  run : ∀ s, I s → I (m s).2

theorem Pres.bind_run {α β} {I : State → Prop} {m : M α} {f : α → M β} {s : State}
    (hm : I (m s).2) (hf : ∀ a, Pres I (f a)) : I ((m >>= f) s).2 := by
  show I (M.bind m f s).2
  unfold M.bind
  split
  · rename_i a s' heq; rw [heq] at hm; exact (hf a).run s' hm
  all_goals (rename_i heq; rw [heq] at hm; exact hm)

theorem Pres.bind {α β} {I : State → Prop} {m : M α} {f : α → M β}
    (hm : Pres I m) (hf : ∀ a, Pres I (f a)) : Pres I (m >>= f) :=
  ⟨fun s hs => Pres.bind_run (hm.run s hs) hf⟩

theorem Pres.ite {α} {I : State → Prop} {c : Prop} [Decidable c] {a b : M α} (ha : Pres I a)
    (hb : Pres I b) : Pres I (if c then a else b) := by
  split
  · exact ha
  · exact hb

theorem Pres.pure {α} {I : State → Prop} (a : α) : Pres I (Pure.pure a : M α) := ⟨fun _ h => h⟩
theorem Pres.pure' {α} {I : State → Prop} (a : α) : Pres I (M.pure a : M α) := ⟨fun _ h => h⟩
theorem Pres.fail {α} {I : State → Prop} (k : ErrKind) : Pres I (M.fail k : M α) := ⟨fun _ h => h⟩
theorem Pres.hang {α} {I : State → Prop} : Pres I (M.hang : M α) := ⟨fun _ h => h⟩
theorem Pres.get {I : State → Prop} : Pres I M.get := ⟨fun _ h => h⟩
theorem Pres.liftO {α} {I : State → Prop} (o : Outcome α) : Pres I (M.liftO o) := ⟨fun _ h => h⟩
theorem Pres.const {α} {I : State → Prop} (o : Outcome α) : Pres I (fun st => (o, st)) := ⟨fun _ h => h⟩
theorem Pres.getEntry {I : State → Prop} (p : FsPath) : Pres I (getEntry p) := ⟨fun _ h => h⟩
theorem Pres.getFile {I : State → Prop} (p : FsPath) : Pres I (getFile p) := ⟨fun _ h => h⟩
theorem Pres.dirOf {I : State → Prop} (p : FsPath) : Pres I (Memfs.dirOf p) :=
  Pres.ite (Pres.fail _) (Pres.pure' _)
theorem Pres.absM {I : State → Prop} (env : Env) (p : Str) : Pres I (absM env p) :=
  ⟨fun s h => by rw [absM_state]; exact h⟩

theorem mapVal_run {α} {I : State → Prop} (f : α → Val) {m : M α} {s : State} (h : I (m s).2) :
    I (mapVal f m s).2 := by rw [mapVal_snd]; exact h

theorem Pres.mapVal {α} {I : State → Prop} {m : M α} (f : α → Val) (h : Pres I m) : Pres I (mapVal f m) :=
  ⟨fun s hs => mapVal_run f (h.run s hs)⟩

theorem Pres.modify {I : State → Prop} (f : State → State) (h : ∀ s, I s → I (f s)) : Pres I (M.modify f) :=
  ⟨fun s hs => h s hs⟩

theorem Pres.forM_mem {α} {I : State → Prop} (l : List α) (f : α → M PUnit)
    (h : ∀ a ∈ l, Pres I (f a)) : Pres I (l.forM f) := by
  induction l with
  | nil => exact Pres.pure _
  | cons a as ih =>
    exact Pres.bind (h a List.mem_cons_self) (fun _ => ih (fun b hb => h b (List.mem_cons_of_mem _ hb)))

theorem Pres.forM {α} {I : State → Prop} (l : List α) (f : α → M PUnit) (h : ∀ a, Pres I (f a)) :
    Pres I (l.forM f) := Pres.forM_mem l f (fun a _ => h a)

theorem Pres.ignore {α} {I : State → Prop} {m : M α} (h : Pres I m) :
    Pres I (fun s => let (_, s') := m s; ((.ok () : Outcome Unit), s')) :=
  ⟨fun s hs => h.run s hs⟩

/-- the first `_abs` of a call: the continuation only has to keep `I` for keys `_abs` can return
    in this state -/
theorem absM_bind_run {β} {I : State → Prop} {Q : FsPath → Prop} {env : Env} {p : Str}
    {f : FsPath → M β} {s : State} (hs : I s)
    (hq : ∀ a s', absM env p s = (.ok a, s') → Q a) (hf : ∀ a, Q a → Pres I (f a)) :
    I ((absM env p >>= f) s).2 := by
  show I (M.bind (absM env p) f s).2
  unfold M.bind
  have h2 := absM_state env p s
  split
  · rename_i a s' heq
    rw [heq] at h2
    obtain rfl := h2
    exact (hf a (hq a _ heq)).run _ hs
  all_goals (rename_i heq; rw [heq] at h2; obtain rfl := h2; exact hs)

/-! the pieces that only read keep every predicate -/

theorem Pres.cloneFileM {I : State → Prop} (env : Env) (p : Str) : Pres I (cloneFileM env p) := by
  unfold Memfs.cloneFileM
  refine Pres.bind (Pres.absM _ _) fun a => Pres.bind (Pres.getEntry _) fun oe => ?_
  extract_lets rest
  have hrest : ∀ r, Pres I (rest r) := fun _ => Pres.bind (Pres.getFile _) fun ob => by
    cases ob with
    | none => exact Pres.fail _
    | some b => exact Pres.pure _
  cases oe with
  | none => exact Pres.bind (Pres.pure' _) hrest
  | some e => exact Pres.ite (Pres.bind (Pres.fail _) hrest) (Pres.bind (Pres.pure' _) hrest)

theorem Pres.readAllM {I : State → Prop} (env : Env) (p : Str) : Pres I (readAllM env p) := by
  unfold Memfs.readAllM
  refine Pres.bind (Pres.cloneFileM _ _) fun b => ?_
  cases decodeUtf8 b with
  | none => exact Pres.fail _
  | some s => exact Pres.pure _

theorem Pres.readLinesM {I : State → Prop} (env : Env) (p : Str) : Pres I (readLinesM env p) := by
  unfold Memfs.readLinesM
  refine Pres.bind (Pres.cloneFileM _ _) fun b => ?_
  cases decodeUtf8 b with
  | none => exact Pres.fail _
  | some s => exact Pres.pure _

theorem Pres.absM_getEntry {α} {I : State → Prop} (env : Env) (p : Str) {f : Option Entry → M α}
    (hf : ∀ oe, Pres I (f oe)) : Pres I (do let a ← Memfs.absM env p; f (← Memfs.getEntry a)) :=
  Pres.bind (Pres.absM _ _) fun _ => Pres.bind (Pres.getEntry _) hf

theorem Pres.entryQuery {α} {I : State → Prop} (env : Env) (p : Str) (f : Entry → α) :
    Pres I (entryQuery env p f) := by
  unfold Memfs.entryQuery
  refine Pres.absM_getEntry env p fun oe => ?_
  cases oe with
  | none => exact Pres.fail _
  | some e => exact Pres.pure _

theorem Pres.boolQuery {I : State → Prop} (env : Env) (p : Str) (f : Entry → Bool) :
    Pres I (boolQuery env p f) := by
  constructor
  intro s h; unfold Memfs.boolQuery; split <;> exact h

theorem Pres.listing {I : State → Prop} (env : Env) (p : Str) (d : Option Nat) (a b : Bool) :
    Pres I (listing env p d a b) := by
  unfold Memfs.listing
  refine Pres.bind Pres.get fun s => Pres.ite (Pres.fail _) ?_
  refine Pres.bind (Pres.absM _ _) fun k => Pres.bind (Pres.liftO _) fun rs => ?_
  exact Pres.bind (Pres.liftO _) fun es => Pres.pure _

theorem Pres.travM {I : State → Prop} (env : Env) (p : Str) (r : TravReq) :
    Pres I (travM env p r) := by
  unfold Memfs.travM
  refine Pres.bind (Pres.absM _ _) fun k => Pres.bind Pres.get fun st => Pres.bind (Pres.liftO _) fun rs => ?_
  dsimp only
  split
  · exact Pres.pure _
  · exact Pres.pure _
  · exact Pres.const _
  · exact Pres.const _

/-! ### state changes that keep the invariant -/

/-- the invariant only reads `entries`, the key set of `files`, and `root` -/
theorem InvP.congr {s s' : State} (h : InvP s) (he : s'.entries = s.entries)
    (hf : alKeys s'.files = alKeys s.files) (hr : s'.root = s.root) : InvP s' := by
  have hl : ∀ k, (alLookup k s'.files).isSome = (alLookup k s.files).isSome := by
    intro k
    rw [Bool.eq_iff_iff, alLookup_isSome_iff_mem_keys, alLookup_isSome_iff_mem_keys]
    show k ∈ alKeys s'.files ↔ k ∈ alKeys s.files
    rw [hf]
  obtain ⟨h1, h2, h3, h4, h5, h6, h7, h8, h9, h10, h11⟩ := h
  refine ⟨?_, ?_, ?_, ?_, ?_, ?_, ?_, ?_, ?_, ?_, ?_⟩
  · rw [he]; exact h1
  · rw [he]; exact h2
  · rw [hr]; exact h3
  · rw [he]; exact h4
  · rw [he]; exact h5
  · rw [he]; intro k e hk; rw [hl]; exact h6 k e hk
  · rw [he]; intro k hk; rw [hl] at hk; exact h7 k hk
  · rw [hf]; exact h8
  · rw [he]; exact h9
  · rw [he]; exact h10
  · rw [he]; exact h11

theorem InvP.setFile_present {s : State} (h : InvP s) {p : FsPath} (b : File.Bytes)
    (hp : (alLookup p s.files).isSome = true) :
    InvP { s with files := alInsert p b s.files } :=
  h.congr rfl ((keys_alInsert p b s.files).trans (if_pos (alLookup_isSome_iff_mem_keys.mp hp))) rfl

/-- the fields of an entry the invariant reads -/
structure Entry.Same (e e' : Entry) : Prop where
  path : e'.path = e.path
  dir : e'.dir = e.dir
  file : e'.file = e.file
  link : e'.link = e.link
  files : e'.files = e.files

theorem Entry.Same.rfl' (e : Entry) : Entry.Same e e := ⟨rfl, rfl, rfl, rfl, rfl⟩
theorem Entry.Same.symm {e e' : Entry} (h : Entry.Same e e') : Entry.Same e' e :=
  ⟨h.path.symm, h.dir.symm, h.file.symm, h.link.symm, h.files.symm⟩

theorem Entry.same_setMode (e : Entry) (m : Nat) : Entry.Same e (e.setMode m) := ⟨rfl, rfl, rfl, rfl, rfl⟩
theorem Entry.same_setOwner (e : Entry) (u g : Option Nat) : Entry.Same e (e.setOwner u g) :=
  ⟨rfl, rfl, rfl, rfl, rfl⟩

/-- the invariant reads the entry map only through keys and the `Same` fields -/
theorem InvP.congr_entries {s s' : State} (h : InvP s)
    (hkeys : (alKeys s'.entries).Nodup)
    (hfw : ∀ k e, alLookup k s.entries = some e → ∃ e', alLookup k s'.entries = some e' ∧ Entry.Same e e')
    (hbw : ∀ k e', alLookup k s'.entries = some e' → ∃ e, alLookup k s.entries = some e ∧ Entry.Same e e')
    (hf : s'.files = s.files) (hr : s'.root = s.root) : InvP s' := by
  obtain ⟨h1, h2, h3, h4, h5, h6, h7, h8, h9, h10, h11⟩ := h
  have hmono : ∀ k, (alLookup k s.entries).isSome = true → (alLookup k s'.entries).isSome = true := by
    intro k hk
    obtain ⟨c, hc⟩ := Option.isSome_iff_exists.mp hk
    obtain ⟨c', hc', _⟩ := hfw _ _ hc
    rw [hc']; rfl
  refine ⟨hkeys, ?_, hr.trans h3, ?_, ?_, ?_, ?_, hf ▸ h8, ?_, ?_, ?_⟩
  · obtain ⟨e, he, hd, hl⟩ := h2
    obtain ⟨e', he', hs⟩ := hfw _ _ he
    exact ⟨e', he', hs.dir.trans hd, hs.link.trans hl⟩
  · intro k e' hk hne
    obtain ⟨e, he, hs⟩ := hbw _ _ hk
    obtain ⟨pe, fs, hpe, hd, hl, hfs, hb⟩ := h4 k e he hne
    obtain ⟨pe', hpe', hs'⟩ := hfw _ _ hpe
    exact ⟨pe', fs, hpe', hs'.dir.trans hd, hs'.link.trans hl, hs'.files.trans hfs, hb⟩
  · intro k e' fs n hk hfs hn
    obtain ⟨e, he, hs⟩ := hbw _ _ hk
    exact hmono _ (h5 k e fs n he (hs.files.symm.trans hfs) hn)
  · intro k e' hk
    obtain ⟨e, he, hs⟩ := hbw _ _ hk
    rw [hf, hs.file, hs.link]
    exact h6 k e he
  · intro k hk
    rw [hf] at hk
    exact hmono _ (h7 k hk)
  · intro k e' hk
    obtain ⟨e, he, hs⟩ := hbw _ _ hk
    exact hs.path.trans (h9 k e he)
  · intro k e' hk
    obtain ⟨e, he, hs⟩ := hbw _ _ hk
    rw [hs.files, hs.dir]
    exact h10 k e he
  · intro k e' fs hk hfs
    obtain ⟨e, he, hs⟩ := hbw _ _ hk
    exact h11 k e fs he (hs.files.symm.trans hfs)

theorem InvP.replaceEntry {s : State} (h : InvP s) {k : FsPath} {e e' : Entry}
    (hk : alLookup k s.entries = some e) (hs : Entry.Same e e') :
    InvP { s with entries := alInsert k e' s.entries } := by
  refine h.congr_entries (nodup_alInsert h.keysNodup) ?_ ?_ rfl rfl
  · intro k0 e0 hk0
    show ∃ e1, alLookup k0 (alInsert k e' s.entries) = some e1 ∧ _
    rw [alLookup_alInsert]
    by_cases hh : k = k0
    · subst hh
      rw [hk] at hk0
      cases hk0
      exact ⟨e', if_pos rfl, hs⟩
    · exact ⟨e0, (if_neg hh).trans hk0, Entry.Same.rfl' _⟩
  · intro k0 e1 hk0
    have hk0' : alLookup k0 (alInsert k e' s.entries) = some e1 := hk0
    rw [alLookup_alInsert] at hk0'
    by_cases hh : k = k0
    · subst hh
      rw [if_pos rfl] at hk0'
      cases hk0'
      exact ⟨e, hk, hs⟩
    · rw [if_neg hh] at hk0'
      exact ⟨e1, hk0', Entry.Same.rfl' _⟩

/-! ### `_add` -/

/-- what `_add` does to the state: nothing, or (for a new key under a real directory) the three
    insertions -/
theorem add_state_cases (e : Entry) (s : State) :
    (Memfs.add e s).2 = s ∨
    ∃ d b d', alLookup e.path.dropLast s.entries = some d ∧ alLookup e.path s.entries = none ∧
      e.path ≠ [] ∧ d.dir = true ∧ d.link = false ∧ d.addChild (baseName e.path) = .ok (b, d') ∧
      (Memfs.add e s).2 =
        { s with files := if (!e.link && e.file) = true then alInsert e.path [] s.files else s.files,
                 entries := alInsert e.path.dropLast d' (alInsert e.path e s.entries) } := by
  generalize hr : (Memfs.add e s).2 = s'
  unfold Memfs.add at hr
  by_cases hp : e.path = []
  · rw [if_pos hp] at hr; exact Or.inl hr.symm
  rw [if_neg hp] at hr
  -- `store`: the entry, then the name in the parent's list; it runs after the optional `setFile`
  extract_lets store at hr
  change (M.bind (Memfs.getEntry e.path.dropLast) _ s).2 = s' at hr
  rw [bind_getEntry] at hr
  cases hd : alLookup e.path.dropLast s.entries with
  | none => rw [hd] at hr; exact Or.inl hr.symm
  | some d =>
    rw [hd] at hr
    dsimp only at hr
    by_cases hc : (!d.dir || d.link) = true
    · rw [if_pos hc] at hr; exact Or.inl hr.symm
    rw [if_neg hc] at hr
    change (M.bind (Memfs.getEntry e.path) _ s).2 = s' at hr
    rw [bind_getEntry] at hr
    cases hx : alLookup e.path s.entries with
    | some x =>
      rw [hx] at hr
      refine Or.inl (hr.symm.trans ?_)
      dsimp only
      split
      · rfl
      · split
        · rfl
        · split <;> rfl
    | none =>
      rw [hx] at hr
      simp only [Bool.or_eq_true, Bool.not_eq_true', not_or, Bool.not_eq_false, Bool.not_eq_true] at hc
      obtain ⟨b, d', hadd⟩ : ∃ b d', d.addChild (baseName e.path) = .ok (b, d') := by
        unfold Entry.addChild
        rw [if_neg (by simp [hc.1])]
        cases d.files with
        | none => exact ⟨_, _, rfl⟩
        | some fs => exact ⟨_, _, rfl⟩
      have hne : e.path ≠ e.path.dropLast := (dropLast_ne_self hp).symm
      have hstore : ∀ t : State, alLookup e.path.dropLast t.entries = some d →
          (store () t).2 = { t with entries := alInsert e.path.dropLast d' (alInsert e.path e t.entries) } := by
        intro t ht
        unfold store
        simp only [Memfs.setEntry, Bind.bind, bind_modify, bind_getEntry, alLookup_alInsert, hne, if_false, ht,
          hadd, bind_liftO_ok]
        split <;> rfl
      refine Or.inr ⟨d, b, d', rfl, rfl, hp, hc.1, hc.2, hadd, hr.symm.trans ?_⟩
      dsimp only
      split
      · exact hstore _ hd
      · exact hstore _ hd

/-- the state `_add` produces for a new key: data (for a regular file), the entry, the parent
    listing the new name -/
theorem InvP.addEntry {s : State} (h : InvP s) {p : FsPath} {e d : Entry} {fs : List Str}
    {F' : List (FsPath × File.Bytes)}
    (hp : p ≠ []) (habs : alLookup p s.entries = none)
    (hd : alLookup p.dropLast s.entries = some d) (hdd : d.dir = true) (hdl : d.link = false)
    (hdf : d.files = some fs)
    (hep : e.path = p) (hef : e.files = if e.dir then some [] else none)
    (hF : F' = if (!e.link && e.file) = true then alInsert p [] s.files else s.files) :
    InvP { s with files := F',
                  entries := alInsert p.dropLast { d with files := some (insertName (baseName p) fs).2 }
                    (alInsert p e s.entries) } := by
  obtain ⟨h1, h2, h3, h4, h5, h6, h7, h8, h9, h10, h11⟩ := h
  generalize hd' : ({ d with files := some (insertName (baseName p) fs).2 } : Entry) = d'
  have d'dir : d'.dir = true := by subst hd'; exact hdd
  have d'link : d'.link = false := by subst hd'; exact hdl
  have d'file : d'.file = d.file := by subst hd'; rfl
  have d'path : d'.path = d.path := by subst hd'; rfl
  have d'files : d'.files = some (insertName (baseName p) fs).2 := by subst hd'; rfl
  generalize hE : alInsert p.dropLast d' (alInsert p e s.entries) = E'
  have L : ∀ k, alLookup k E' = if p.dropLast = k then some d' else if p = k then some e else alLookup k s.entries := by
    intro k; subst hE; rw [alLookup_alInsert, alLookup_alInsert]
  have hne : p.dropLast ≠ p := dropLast_ne_self hp
  have hnb : baseName p ∉ fs := by
    intro hm
    have := h5 _ d fs _ hd hdf hm
    rw [dropLast_append_baseName hp, habs] at this
    simp at this
  have hmono : ∀ k, (alLookup k s.entries).isSome = true → (alLookup k E').isSome = true := by
    intro k hk; rw [L]; split
    · rfl
    · split
      · rfl
      · exact hk
  have LF : ∀ k, (alLookup k F').isSome = true ↔ ((!e.link && e.file) = true ∧ k = p) ∨ (alLookup k s.files).isSome = true := by
    intro k; subst hF
    split
    · rename_i hc
      rw [alLookup_alInsert]
      by_cases hk : p = k
      · simp [hk, hc]
      · simp [hk, Ne.symm hk, hc]
    · rename_i hc; simp [hc]
  have C : ∀ k e0, alLookup k E' = some e0 →
      (k = p.dropLast ∧ e0 = d') ∨ (k = p ∧ e0 = e) ∨
        (k ≠ p.dropLast ∧ k ≠ p ∧ alLookup k s.entries = some e0) := by
    intro k e0 hk
    rw [L] at hk
    by_cases hk1 : p.dropLast = k
    · rw [if_pos hk1] at hk; cases hk
      exact Or.inl ⟨hk1.symm, rfl⟩
    · rw [if_neg hk1] at hk
      by_cases hk2 : p = k
      · rw [if_pos hk2] at hk; cases hk
        exact Or.inr (Or.inl ⟨hk2.symm, rfl⟩)
      · rw [if_neg hk2] at hk
        exact Or.inr (Or.inr ⟨Ne.symm hk1, Ne.symm hk2, hk⟩)
  have Ld : alLookup p.dropLast E' = some d' := by rw [L, if_pos rfl]
  have Lp : alLookup p E' = some e := by rw [L, if_neg hne, if_pos rfl]
  refine ⟨?_, ?_, h3, ?_, ?_, ?_, ?_, ?_, ?_, ?_, ?_⟩
  · subst hE; exact nodup_alInsert (nodup_alInsert h1)
  · show ∃ e0, alLookup [] E' = some e0 ∧ _
    rw [L]
    by_cases hr : p.dropLast = []
    · rw [if_pos hr]; exact ⟨d', rfl, d'dir, d'link⟩
    · rw [if_neg hr, if_neg hp]; exact h2
  · show ∀ k e0, alLookup k E' = some e0 → k ≠ [] → ∃ pe fs0, alLookup k.dropLast E' = some pe ∧ _
    intro k e0 hk hkne
    rcases C k e0 hk with ⟨hk1, _⟩ | ⟨hk2, _⟩ | ⟨hk1, hk2, hk⟩
    · obtain ⟨pe, fs0, hpe, r⟩ := h4 _ d hd (hk1 ▸ hkne)
      refine ⟨pe, fs0, ?_, hk1 ▸ r⟩
      have hpp : p ≠ p.dropLast.dropLast := by
        intro e0
        have := congrArg List.length e0
        simp only [List.length_dropLast] at this
        have := List.length_pos_iff.mpr hp
        omega
      rw [L, hk1, if_neg (dropLast_ne_self (hk1 ▸ hkne)).symm, if_neg hpp]
      exact hpe
    · subst hk2
      refine ⟨d', _, Ld, d'dir, d'link, d'files, ?_⟩
      rw [mem_insertName]; exact Or.inl rfl
    · obtain ⟨pe, fs0, hpe, hped, hpel, hpef, hb⟩ := h4 _ _ hk hkne
      by_cases hk3 : k.dropLast = p.dropLast
      · rw [hk3, hd] at hpe
        cases hpe
        rw [hdf] at hpef
        cases hpef
        refine ⟨d', _, hk3 ▸ Ld, d'dir, d'link, d'files, ?_⟩
        rw [mem_insertName]; exact Or.inr hb
      · have hk4 : k.dropLast ≠ p := by
          intro e; rw [e, habs] at hpe; cases hpe
        refine ⟨pe, fs0, ?_, hped, hpel, hpef, hb⟩
        rw [L, if_neg (Ne.symm hk3), if_neg (Ne.symm hk4)]; exact hpe
  · show ∀ k e0 fs0 n, alLookup k E' = some e0 → _ → _ → (alLookup (k ++ [n]) E').isSome = true
    intro k e0 fs0 n hk hfs hn
    rcases C k e0 hk with ⟨hk1, he0⟩ | ⟨hk2, he0⟩ | ⟨hk1, hk2, hk⟩
    · subst he0
      rw [d'files] at hfs
      cases hfs
      rw [mem_insertName] at hn
      rcases hn with hn | hn
      · rw [hk1, hn, dropLast_append_baseName hp, Lp]; rfl
      · exact hmono _ (hk1 ▸ h5 _ d fs n hd hdf hn)
    · subst he0
      rw [hef] at hfs
      split at hfs
      · cases hfs; simp at hn
      · cases hfs
    · exact hmono _ (h5 _ _ _ n hk hfs hn)
  · show ∀ k e0, alLookup k E' = some e0 → ((e0.file = true ∧ e0.link = false) ↔ (alLookup k F').isSome = true)
    intro k e0 hk
    rw [LF]
    rcases C k e0 hk with ⟨hk1, he0⟩ | ⟨hk2, he0⟩ | ⟨hk1, hk2, hk⟩
    · subst he0
      have := h6 _ d hd
      rw [d'file, d'link, hk1, ← this, hdl]
      simp [hne]
    · subst he0
      have hnf : (alLookup k s.files).isSome = false := by
        cases hh : (alLookup k s.files).isSome
        · rfl
        · exfalso; have := h7 _ hh; rw [hk2, habs] at this; simp at this
      rw [hnf]
      cases e0.link <;> cases e0.file <;> simp [hk2]
    · simp only [hk2, and_false, false_or]
      exact h6 _ _ hk
  · show ∀ k, (alLookup k F').isSome = true → (alLookup k E').isSome = true
    intro k hk
    rw [LF] at hk
    rcases hk with ⟨_, hk⟩ | hk
    · rw [hk, Lp]; rfl
    · exact hmono _ (h7 _ hk)
  · show (alKeys F').Nodup
    subst hF; split
    · exact nodup_alInsert h8
    · exact h8
  · show ∀ k e0, alLookup k E' = some e0 → e0.path = k
    intro k e0 hk
    rcases C k e0 hk with ⟨hk1, he0⟩ | ⟨hk2, he0⟩ | ⟨hk1, hk2, hk⟩
    · subst he0; rw [d'path, hk1]; exact h9 _ _ hd
    · subst he0; rw [hep, hk2]
    · exact h9 _ _ hk
  · show ∀ k e0, alLookup k E' = some e0 → (e0.files.isSome = true ↔ e0.dir = true)
    intro k e0 hk
    rcases C k e0 hk with ⟨hk1, he0⟩ | ⟨hk2, he0⟩ | ⟨hk1, hk2, hk⟩
    · subst he0; simp [d'files, d'dir]
    · subst he0; rw [hef]; cases e0.dir <;> simp
    · exact h10 _ _ hk
  · show ∀ k e0 fs0, alLookup k E' = some e0 → e0.files = some fs0 → fs0.Nodup
    intro k e0 fs0 hk hfs
    rcases C k e0 hk with ⟨hk1, he0⟩ | ⟨hk2, he0⟩ | ⟨hk1, hk2, hk⟩
    · subst he0
      rw [d'files] at hfs
      cases hfs
      exact insertName_nodup hnb (h11 _ d fs hd hdf)
    · subst he0
      rw [hef] at hfs
      split at hfs
      · cases hfs; simp
      · cases hfs
    · exact h11 _ _ _ hk hfs

/-- `_add` keeps the invariant at every exit, for any entry without children -/
theorem Pres.add (e : Entry) (hef : e.files = if e.dir then some [] else none) :
    Pres InvP (Memfs.add e) := by
  constructor
  intro s h
  rcases add_state_cases e s with h0 | ⟨d, b, d', hd, hx, hp, hdd, hdl, hadd, h0⟩
  · rw [h0]; exact h
  · obtain ⟨fs, hdf⟩ := Option.isSome_iff_exists.mp ((h.filesDir _ d hd).mpr hdd)
    rw [h0, addChild_eq hadd, hdf]
    exact h.addEntry hp hx hd hdd hdl hdf rfl hef rfl

/-! ### group A over an arbitrary invariant

  `StepAInv I Q` collects what an invariant `I` must satisfy for the group-A operations to keep it;
  `Q` is a property of keys known for the result of the *first* `_abs` of the call (the only place
  a group-A operation gets new keys from). The invariant of C03 (`InvP`, `Q := True`) and the two
  auxiliary invariants needed by `move_p` (`KeysWf`, `SortedKids`) are instances. -/

theorem mkFileEntry_files (p : FsPath) :
    (mkFileEntry p).files = if (mkFileEntry p).dir then some [] else none := rfl
theorem mkDirEntry_files (p : FsPath) (m : Option Nat) :
    (mkDirEntry p m).files = if (mkDirEntry p m).dir then some [] else none := rfl

structure StepAInv (I : State → Prop) (Q : FsPath → Prop) : Prop where
  /-- `_add` of a fresh regular-file entry at a good key -/
  addFile : ∀ p, Q p → Pres I (Memfs.add (mkFileEntry p))
  /-- `_mkdir_m` at a good key -/
  mkdir : ∀ p m, Q p → Pres I (Memfs.mkdirM p m)
  sync : ∀ p b, Pres I (Memfs.syncM p b)
  cwd : ∀ p s, Q p → I s → I { s with cwd := p }
  handles : ∀ hs s, I s → I { s with handles := hs }
  setMode : ∀ s k e m, I s → alLookup k s.entries = some e →
    I { s with entries := alInsert k (e.setMode m) s.entries }
  setOwner : ∀ s k e u g, I s → alLookup k s.entries = some e →
    I { s with entries := alInsert k (e.setOwner u g) s.entries }


namespace StepAInv
variable {I : State → Prop} {Q : FsPath → Prop}

/-- the hypothesis on the first `_abs` of a call in state `s` -/
abbrev AbsQ (Q : FsPath → Prop) (env : Env) (s : State) : Prop :=
  ∀ raw a s', absM env raw s = (.ok a, s') → Q a

theorem mkfileM (h : StepAInv I Q) (env : Env) (p : Str) {s : State} (hs : I s) (hq : AbsQ Q env s) :
    I (Memfs.mkfileM env p s).2 := by
  unfold Memfs.mkfileM
  exact absM_bind_run hs (hq p) fun a ha => Pres.bind (h.addFile a ha) fun r =>
    Pres.bind (Pres.getFile _) fun _ => Pres.ite (Pres.fail _) (Pres.pure _)

theorem mkdirOp (h : StepAInv I Q) (env : Env) (p : Str) (m : Option Nat) {s : State} (hs : I s)
    (hq : AbsQ Q env s) : I (Memfs.mkdirOp env p m s).2 := by
  unfold Memfs.mkdirOp
  exact absM_bind_run hs (hq p) fun a ha => Pres.bind (h.mkdir a m ha) fun _ => Pres.pure _

theorem writeAllM (h : StepAInv I Q) (env : Env) (p : Str) (d : File.Bytes) {s : State} (hs : I s)
    (hq : AbsQ Q env s) : I (Memfs.writeAllM env p d s).2 := by
  unfold Memfs.writeAllM
  refine absM_bind_run hs (hq p) (fun a ha => ?_)
  apply Pres.bind (h.addFile a ha); intro r
  apply Pres.bind (Pres.getFile _); intro r
  split
  · exact Pres.fail _
  · exact Pres.ignore (h.sync _ _)

theorem appendAllM (h : StepAInv I Q) (env : Env) (p : Str) (d : File.Bytes) {s : State} (hs : I s)
    (hq : AbsQ Q env s) : I (Memfs.appendAllM env p d s).2 := by
  unfold Memfs.appendAllM
  refine absM_bind_run hs (hq p) (fun a ha => ?_)
  apply Pres.bind (h.addFile a ha); intro r
  apply Pres.bind (Pres.getFile _); intro r
  split
  · apply Pres.bind (h.sync _ _); intro _
    exact Pres.ignore (h.sync _ _)
  · exact Pres.fail _

theorem writeLinesM (h : StepAInv I Q) (env : Env) (p : Str) (ls : List Str) {s : State} (hs : I s)
    (hq : AbsQ Q env s) : I (Memfs.writeLinesM env p ls s).2 := by
  unfold Memfs.writeLinesM
  cases joinLines ls with
  | some b => exact h.writeAllM env p _ hs hq
  | none => exact hs

theorem appendLinesM (h : StepAInv I Q) (env : Env) (p : Str) (ls : List Str) {s : State} (hs : I s)
    (hq : AbsQ Q env s) : I (Memfs.appendLinesM env p ls s).2 := by
  unfold Memfs.appendLinesM
  cases joinLines ls with
  | some b => exact h.appendAllM env p _ hs hq
  | none => exact hs

theorem appendLineM (h : StepAInv I Q) (env : Env) (p : Str) (l : Str) {s : State} (hs : I s)
    (hq : AbsQ Q env s) : I (Memfs.appendLineM env p l s).2 := by
  unfold Memfs.appendLineM
  split
  · exact hs
  · exact h.appendAllM env p _ hs hq

theorem setCwdM (h : StepAInv I Q) (env : Env) (p : Str) {s : State} (hs : I s)
    (hq : AbsQ Q env s) : I (Memfs.setCwdM env p s).2 := by
  unfold Memfs.setCwdM
  refine absM_bind_run hs (hq p) (fun a ha => ?_)
  apply Pres.bind (Pres.getEntry _); intro r
  split
  · exact Pres.fail _
  · split
    · exact Pres.fail _
    · apply Pres.bind
      · exact Pres.modify _ (fun s hs => h.cwd a s ha hs)
      · intro _; exact Pres.pure _

theorem openWriteM (h : StepAInv I Q) (env : Env) (p : Str) (id : Nat) {s : State} (hs : I s)
    (hq : AbsQ Q env s) : I (Memfs.openWriteM env p id s).2 := by
  unfold Memfs.openWriteM
  refine absM_bind_run hs (hq p) (fun a ha => ?_)
  apply Pres.bind (h.addFile a ha); intro r
  apply Pres.bind (Pres.getFile _); intro r
  split
  · exact Pres.fail _
  · exact Pres.modify _ (fun s hs => h.handles _ s hs)

theorem openAppendM (h : StepAInv I Q) (env : Env) (p : Str) (id : Nat) {s : State} (hs : I s)
    (hq : AbsQ Q env s) : I (Memfs.openAppendM env p id s).2 := by
  unfold Memfs.openAppendM
  refine absM_bind_run hs (hq p) (fun a ha => ?_)
  apply Pres.bind (h.addFile a ha); intro r
  apply Pres.bind (Pres.getFile _); intro r
  split
  · exact Pres.modify _ (fun s hs => h.handles _ s hs)
  · exact Pres.fail _

theorem handleWriteM (h : StepAInv I Q) (id : Nat) (c : File.Bytes) : Pres I (Memfs.handleWriteM id c) := by
  unfold Memfs.handleWriteM
  exact Pres.modify _ (fun s hs => h.handles _ s hs)

theorem handleFlushM (h : StepAInv I Q) (id : Nat) : Pres I (Memfs.handleFlushM id) := by
  unfold Memfs.handleFlushM
  apply Pres.bind Pres.get; intro s
  split
  · exact h.sync _ _
  · exact Pres.pure' _

theorem handleDropM (h : StepAInv I Q) (id : Nat) : Pres I (Memfs.handleDropM id) := by
  constructor
  intro s hs
  unfold Memfs.handleDropM
  split
  · exact h.handles _ _ ((h.sync _ _).run s hs)
  · exact hs

end StepAInv

/-! ### the traversal only touches the threaded state through its two closures -/

section Iter
variable {σ : Type} {I : σ → Prop}

theorem ite_thd {α β} {c : Prop} [Decidable c] {a b : α × β × σ} (ha : I a.2.2) (hb : I b.2.2) :
    I (if c then a else b).2.2 := by
  split
  · exact ha
  · exact hb

theorem process_pres (snap : Snap) (o : Opts) (preOp : Entry → σ → Outcome Unit × σ)
    (hpre : ∀ e w, I w → I (preOp e w).2) (st : ISt) (e : Entry) (w : σ) (hw : I w) :
    I (process snap o preOp st e w).2.2 := by
  unfold process
  extract_lets depth descend
  -- `descend` ends in `w` or in what `preOp e w` left; the rest of `process` passes that on
  have hd : I descend.2.2 := by
    have hp := hpre e w hw
    unfold descend
    generalize preOp e w = r at hp
    obtain ⟨r1, w'⟩ := r
    refine ite_thd (ite_thd hw (ite_thd ?_ hw)) hw
    cases r1 with
    | ok u =>
      cases mkIter snap o e.path with
      | ok it => exact ite_thd hp hp
      | _ => exact hp
    | _ => exact hp
  clear_value descend
  obtain ⟨r, st', w'⟩ := descend
  cases r with
  | some r => exact hd
  | none =>
    exact ite_thd hd (ite_thd hd (ite_thd hd hd))

theorem nextLoop_pres (snap : Snap) (o : Opts) (preOp : Entry → σ → Outcome Unit × σ)
    (hpre : ∀ e w, I w → I (preOp e w).2) (f : Nat) (st : ISt) (w : σ) (hw : I w) :
    I (nextLoop snap o preOp f st w).2.2 := by
  induction f generalizing st w with
  | zero => exact hw
  | succ f ih =>
    unfold nextLoop
    split
    · split
      · split <;> exact hw
      · exact hw
    · split
      · split <;> exact hw
      · split
        · have hp := fun st1 e1 => process_pres snap o preOp hpre st1 e1 w hw
          dsimp only
          split
          · rename_i heq; exact (congrArg (fun t => I t.2.2) heq).mp (hp _ _)
          · rename_i heq; exact ih _ _ ((congrArg (fun t => I t.2.2) heq).mp (hp _ _))
        · exact ih _ _ hw

theorem nextE_pres (snap : Snap) (o : Opts) (preOp : Entry → σ → Outcome Unit × σ)
    (hpre : ∀ e w, I w → I (preOp e w).2) (rootE : Entry) (f : Nat) (st : ISt) (w : σ) (hw : I w) :
    I (nextE snap o preOp rootE f st w).2.2 := by
  unfold nextE
  split
  · have hp := process_pres snap o preOp hpre { st with started := true } (rootE.doFollow o.follow) w hw
    split
    · rename_i heq; rw [heq] at hp; exact hp
    · rename_i heq; rw [heq] at hp; exact nextLoop_pres snap o preOp hpre _ _ _ hp
  · exact nextLoop_pres snap o preOp hpre _ _ _ hw

theorem runIter_pres (snap : Snap) (o : Opts) (preOp : Entry → σ → Outcome Unit × σ)
    (hpre : ∀ e w, I w → I (preOp e w).2) (rootE : Entry) (step : Entry → σ → Outcome Unit × σ)
    (hstep : ∀ e w, I w → I (step e w).2) (f : Nat) (st : ISt) (w : σ) (hw : I w) :
    I (runIter snap o preOp rootE step f st w).2 := by
  induction f generalizing st w with
  | zero => exact hw
  | succ f ih =>
    unfold runIter
    have hn := nextE_pres snap o preOp hpre rootE (f + 1) st w hw
    split
    · rename_i heq; rw [heq] at hn; exact hn
    · rename_i e st' w' heq
      rw [heq] at hn
      have hs := hstep e w' hn
      split
      · rename_i heq2; rw [heq2] at hs; exact ih _ _ hs
      · exact hs
    all_goals (rename_i heq; rw [heq] at hn; exact hn)

end Iter

namespace StepAInv
variable {I : State → Prop} {Q : FsPath → Prop}

/-- `chmod`: both closures only replace an existing entry by `setMode` of itself -/
theorem chmodM (h : StepAInv I Q) (env : Env) (p : Str) (c : ChmodOpts) : Pres I (Memfs.chmodM env p c) := by
  unfold Memfs.chmodM
  apply Pres.bind (Pres.absM _ _); intro a
  apply Pres.bind Pres.get; intro s0
  apply Pres.bind (Pres.liftO _); intro rs
  obtain ⟨rootE, snap⟩ := rs
  constructor
  intro s hs
  apply runIter_pres (I := I)
  · intro x st hst
    split
    · split
      · cases hk : alLookup x.path st.entries with
        | none => exact hst
        | some e => exact h.setMode _ _ _ _ hst hk
      · exact hst
    all_goals exact hst
  · intro x st hst
    simp only []
    split
    · split
      · cases hk : alLookup x.path st.entries with
        | none => exact hst
        | some e => exact h.setMode _ _ _ _ hst hk
      · exact hst
    all_goals exact hst
  · exact hs

/-- `chown`: the consumer closure only replaces an existing entry by `setOwner` of itself -/
theorem chownM (h : StepAInv I Q) (env : Env) (p : Str) (c : ChownOpts) : Pres I (Memfs.chownM env p c) := by
  unfold Memfs.chownM
  apply Pres.bind (Pres.absM _ _); intro a
  apply Pres.bind Pres.get; intro s0
  apply Pres.bind (Pres.liftO _); intro rs
  obtain ⟨rootE, snap⟩ := rs
  constructor
  intro s hs
  apply runIter_pres (I := I)
  · intro x st hst; exact hst
  · intro x st hst
    cases hk : alLookup x.path st.entries with
    | none => exact hst
    | some e => exact h.setOwner _ _ _ _ _ hst hk
  · exact hs

end StepAInv

/-! ### the step function -/

/-- the operations that never change the state -/
def readOnlyOp : Op → Bool
  | .readAll _ | .readLines _ | .read _ | .readlink _ | .readlinkAbs _ | .cwd | .root | .abs _
  | .exists _ | .isFile _ | .isDir _ | .isSymlink _ | .isSymlinkDir _ | .isSymlinkFile _
  | .isExec _ | .isReadonly _ | .mode _ | .uid _ | .gid _ | .owner _ | .entry _
  | .paths _ | .dirs _ | .files _ | .allPaths _ | .allDirs _ | .allFiles _ | .entries _ _ => true
  | _ => false

/-- `ReadOnlyOp op`: `op` is one of the query / read / listing / traversal operations -/
def ReadOnlyOp (op : Op) : Prop := readOnlyOp op = true
instance (op : Op) : Decidable (ReadOnlyOp op) := by unfold ReadOnlyOp; infer_instance

/-- group A: read-only ops, creation of files and directories, content, handles, cwd, chmod/chown -/
def coveredA : Op → Bool
  | .mkfile _ | .mkdirP _ | .mkdirM _ _ | .writeAll _ _ | .appendAll _ _ | .writeLines _ _
  | .appendLines _ _ | .appendLine _ _ | .hWrite _ _ | .hAppend _ _ | .hPut _ _ | .hFlush _ | .hDrop _
  | .setCwd _ | .chmod _ _ | .chmodB _ _ | .chown _ _ _ | .chownB _ _ | .mkfileM _ _ => true
  | op => readOnlyOp op

def CoveredA (op : Op) : Prop := coveredA op = true
instance (op : Op) : Decidable (CoveredA op) := by unfold CoveredA; infer_instance

theorem linkField {α} {I : State → Prop} {f : Entry → α} (oe : Option Entry) :
    Pres I (match oe with
      | some e => if (!e.link) = true then M.fail .isNotSymlink else Pure.pure (f e)
      | none => M.fail .doesNotExist) := by
  cases oe with
  | none => exact Pres.fail _
  | some e => exact Pres.ite (Pres.fail _) (Pres.pure _)

theorem step_readonly_pres {I : State → Prop} (env : Env) (s : State) (op : Op) (hr : ReadOnlyOp op)
    (h : I s) : I (step env s op).2 := by
  cases op
  case readAll p => exact (Pres.mapVal _ (Pres.readAllM env p)).run s h
  case readLines p => exact (Pres.mapVal _ (Pres.readLinesM env p)).run s h
  case read p => exact (Pres.mapVal _ (Pres.cloneFileM env p)).run s h
  case readlink p | readlinkAbs p => exact (Pres.mapVal _ (Pres.absM_getEntry env p linkField)).run s h
  case cwd | root => exact h
  case abs p => exact (Pres.mapVal _ (Pres.absM env p)).run s h
  case «exists» p | isFile p | isDir p | isSymlink p | isSymlinkDir p | isSymlinkFile p | isExec p
      | isReadonly p => exact (Pres.boolQuery env p _).run s h
  case mode p | uid p | gid p | owner p | entry p => exact (Pres.mapVal _ (Pres.entryQuery env p _)).run s h
  case paths p | dirs p | files p | allPaths p | allDirs p | allFiles p =>
    exact (Pres.mapVal _ (Pres.listing env p _ _ _)).run s h
  case entries p r => exact (Pres.travM env p r).run s h
  all_goals cases hr

theorem step_readonly (env : Env) (s : State) (op : Op) (hr : ReadOnlyOp op) :
    (step env s op).2 = s :=
  step_readonly_pres (I := fun t => t = s) env s op hr rfl

theorem StepAInv.step {I : State → Prop} {Q : FsPath → Prop} (hI : StepAInv I Q) (env : Env) (s : State)
    (op : Op) (hc : CoveredA op) (hq : StepAInv.AbsQ Q env s) (h : I s) : I (step env s op).2 := by
  cases op
  case mkfile p => exact mapVal_run _ <| hI.mkfileM env p h hq
  case mkfileM p m =>
    exact mapVal_run _ <| Pres.bind_run (hI.mkfileM env p h hq) fun _ =>
      Pres.bind (hI.chmodM _ _ _) fun _ => Pres.pure _
  case mkdirP p | mkdirM p m => exact mapVal_run _ <| hI.mkdirOp env p _ h hq
  case writeAll p d => exact mapVal_run _ <| hI.writeAllM env p d h hq
  case appendAll p d => exact mapVal_run _ <| hI.appendAllM env p d h hq
  case writeLines p d => exact mapVal_run _ <| hI.writeLinesM env p d h hq
  case appendLines p d => exact mapVal_run _ <| hI.appendLinesM env p d h hq
  case appendLine p d => exact mapVal_run _ <| hI.appendLineM env p d h hq
  case setCwd p => exact mapVal_run _ <| hI.setCwdM env p h hq
  case chmod p m | chmodB p c => exact (Pres.mapVal _ (hI.chmodM env p _)).run s h
  case chown p u g | chownB p c => exact (Pres.mapVal _ (hI.chownM env p _)).run s h
  case hWrite id p => exact mapVal_run _ <| hI.openWriteM env p id h hq
  case hAppend id p => exact mapVal_run _ <| hI.openAppendM env p id h hq
  case hPut id d => exact (Pres.mapVal _ (hI.handleWriteM id d)).run s h
  case hFlush id => exact (Pres.mapVal _ (hI.handleFlushM id)).run s h
  case hDrop id => exact (Pres.mapVal _ (hI.handleDropM id)).run s h
  case remove | removeAll | symlink | copy | copyB | moveP => cases hc
  all_goals exact step_readonly_pres env s _ rfl h

theorem run_pres {I : State → Prop} {C : Op → Prop} {env : Env}
    (hstep : ∀ s op, C op → I s → I (step env s op).2) (s : State) (ops : List Op)
    (hc : ∀ op ∈ ops, C op) (h : I s) : I (run env s ops) := by
  induction ops generalizing s with
  | nil => exact h
  | cons op ops ih =>
    exact ih _ (fun o ho => hc o (List.mem_cons_of_mem _ ho)) (hstep s op (hc op List.mem_cons_self) h)

/-! ### the C03 invariant is a group-A invariant -/

theorem Pres.syncM (p : FsPath) (b : File.Bytes) : Pres InvP (Memfs.syncM p b) := by
  constructor
  intro s h
  simp only [Memfs.syncM, Bind.bind, bind_getEntry]
  cases alLookup p s.entries with
  | none => exact h
  | some e =>
    simp only [bind_getFile]
    cases hf : alLookup p s.files with
    | none => exact h
    | some b0 => exact h.setFile_present b (by rw [hf]; rfl)

theorem Pres.mkdirM (p : FsPath) (m : Option Nat) : Pres InvP (Memfs.mkdirM p m) :=
  Pres.forM _ _ fun a => Pres.bind (Pres.add _ (mkDirEntry_files a m)) fun _ => Pres.pure _

theorem invP_stepAInv : StepAInv InvP (fun _ => True) where
  addFile := fun p _ => Pres.add _ (mkFileEntry_files p)
  mkdir := fun p m _ => Pres.mkdirM p m
  sync := Pres.syncM
  cwd := fun _ _ _ h => h.congr rfl rfl rfl
  handles := fun _ _ h => h.congr rfl rfl rfl
  setMode := fun _ _ e m h hk => h.replaceEntry hk (Entry.same_setMode e m)
  setOwner := fun _ _ e u g h hk => h.replaceEntry hk (Entry.same_setOwner e u g)

theorem invP_step_A (env : Env) (s : State) (op : Op) (hc : CoveredA op) (h : InvP s) :
    InvP (step env s op).2 :=
  invP_stepAInv.step env s op hc (fun _ _ _ _ => trivial) h

/-- group A keeps the invariant at every exit; the hang hypothesis is not needed for this group -/
theorem inv_step_A' (env : Env) (s : State) (op : Op) (hc : CoveredA op) (h : Spec.Inv s) :
    Spec.Inv (step env s op).2 :=
  (inv_iff _).mpr (invP_step_A env s op hc ((inv_iff s).mp h))

theorem inv_step_A (env : Env) (s : State) (op : Op) (hc : CoveredA op) (h : Spec.Inv s)
    (_hh : (step env s op).1 ≠ .hang) : Spec.Inv (step env s op).2 :=
  inv_step_A' env s op hc h

/-! ### invariants that speak of each stored entry and of the working directory

  `move_p` needs two of them beside the tree invariant: well-formed keys, sorted child lists. -/

/-- a property of every stored (key, entry) pair -/
def AllE (P : FsPath → Entry → Prop) (s : State) : Prop := ∀ kv ∈ s.entries, P kv.1 kv.2

/-- `P` of every stored pair and `C` of the working directory -/
abbrev PerEntry (P : FsPath → Entry → Prop) (C : FsPath → Prop) (s : State) : Prop := AllE P s ∧ C s.cwd

theorem AllE.replace {P : FsPath → Entry → Prop} {s : State} (h : AllE P s) {k : FsPath} {e e' : Entry}
    (hk : alLookup k s.entries = some e) (hP : P k e → P k e') :
    AllE P { s with entries := alInsert k e' s.entries } := by
  intro kv hkv
  rcases mem_alInsert hkv with rfl | hkv
  · exact hP (h (k, e) (alLookup_mem hk))
  · exact h kv hkv

theorem add_allE {P : FsPath → Entry → Prop} (e : Entry) {s : State} (h : AllE P s) (hnew : P e.path e)
    (hpar : ∀ d b d', (e.path.dropLast, d) ∈ s.entries → d.addChild (baseName e.path) = .ok (b, d') →
      P e.path.dropLast d') :
    AllE P (Memfs.add e s).2 ∧ (Memfs.add e s).2.cwd = s.cwd := by
  rcases add_state_cases e s with h0 | ⟨d, b, d', hd, _, _, _, _, hadd, h0⟩
  · rw [h0]; exact ⟨h, rfl⟩
  · rw [h0]
    refine ⟨?_, rfl⟩
    intro kv hkv
    rcases mem_alInsert hkv with rfl | hkv
    · exact hpar d b d' (alLookup_mem hd) hadd
    · rcases mem_alInsert hkv with rfl | hkv
      · exact hnew
      · exact h kv hkv

theorem syncM_entries (p : FsPath) (b : File.Bytes) (s : State) :
    (Memfs.syncM p b s).2.entries = s.entries ∧ (Memfs.syncM p b s).2.cwd = s.cwd := by
  simp only [Memfs.syncM, Bind.bind, bind_getEntry]
  cases alLookup p s.entries with
  | none => exact ⟨rfl, rfl⟩
  | some e =>
    simp only [bind_getFile]
    cases alLookup p s.files with
    | none => exact ⟨rfl, rfl⟩
    | some b0 => exact ⟨rfl, rfl⟩

section PerEntry
variable {P : FsPath → Entry → Prop} {C : FsPath → Prop}

/-- `_add` keeps a per-entry invariant that `MemfsEntry::add(name)` keeps and the new entry satisfies -/
theorem PerEntry.add (hchild : ∀ k d n b d', P k d → Entry.addChild d n = .ok (b, d') → P k d')
    (e : Entry) (he : P e.path e) : Pres (PerEntry P C) (Memfs.add e) :=
  ⟨fun s h => by
    have := add_allE e h.1 he (fun d b d' hm hadd => hchild _ d _ b d' (h.1 _ hm) hadd)
    exact ⟨this.1, this.2 ▸ h.2⟩⟩

theorem PerEntry.mkdirM (hchild : ∀ k d n b d', P k d → Entry.addChild d n = .ok (b, d') → P k d')
    (p : FsPath) (m : Option Nat) (hdir : ∀ n, P (p.take n) (mkDirEntry (p.take n) m)) :
    Pres (PerEntry P C) (Memfs.mkdirM p m) := by
  refine Pres.forM_mem _ _ fun q hq => ?_
  obtain ⟨n, rfl⟩ := mem_prefixes hq
  exact Pres.bind (PerEntry.add hchild _ (hdir n)) fun _ => Pres.pure _

/-- the entry `_symlink` stores for the link `l` to `t` (`tIsDir`: the target is a directory) -/
def linkEntry (l t : FsPath) (rel : Str) (tIsDir : Bool) : Entry :=
  { path := l, alt := some t, rel := rel, dir := tIsDir, file := !tIsDir, link := true,
    mode := optsMode true (!tIsDir) tIsDir none, uid := 1000, gid := 1000,
    follow := false, cached := false, files := if tIsDir then some [] else none }

/-- `P` survives what the operations do to a single entry, and holds of the entries they create under
    keys satisfying `K` -/
structure EntryOps (P : FsPath → Entry → Prop) (K : FsPath → Prop) : Prop where
  addChild : ∀ k d n b d', P k d → Entry.addChild d n = .ok (b, d') → P k d'
  file : ∀ p, K p → P p (mkFileEntry p)
  dir : ∀ p m, K p → P p (mkDirEntry p m)
  link : ∀ l t rel b, K l → P l (linkEntry l t rel b)
  setMode : ∀ k e m, P k e → P k (e.setMode m)
  setOwner : ∀ k e u g, P k e → P k (e.setOwner u g)
  rekey : ∀ k e p m, P k e → K p → P p (({ e with path := p }).setMode m)
  take : ∀ k n, K k → K (k.take n)

/-- group A keeps `PerEntry P C`, given `EntryOps P K` for the keys `K` that `_abs` returns -/
theorem EntryOps.stepAInv {K : FsPath → Prop} (h : EntryOps P K) (hcwd : ∀ p, K p → C p) :
    StepAInv (PerEntry P C) K where
  addFile := fun p hp => PerEntry.add h.addChild _ (h.file p hp)
  mkdir := fun p m hp => PerEntry.mkdirM h.addChild p m fun n => h.dir _ m (h.take p n hp)
  sync := fun p b => ⟨fun s hs => by
    unfold PerEntry AllE; rw [(syncM_entries p b s).1, (syncM_entries p b s).2]; exact hs⟩
  cwd := fun p _ hp hs => ⟨hs.1, hcwd p hp⟩
  handles := fun _ _ hs => hs
  setMode := fun _ k _ m hs hk => ⟨hs.1.replace hk (h.setMode k _ m), hs.2⟩
  setOwner := fun _ k _ u g hs hk => ⟨hs.1.replace hk (h.setOwner k _ u g), hs.2⟩

end PerEntry

/-! #### well-formed keys -/

/-- every name in every key and in the cwd is a non-empty name other than `.` without `/` -/
def KeysWf (s : State) : Prop :=
  (∀ kv ∈ s.entries, ∀ n ∈ kv.1, BodyPiece n) ∧ (∀ n ∈ s.cwd, BodyPiece n)

/-- `_abs` in state `s` only returns well-formed keys (a consequence of `KeysWf s`, proved with the
    path-cleaning lemmas of group B / C05; taken as a hypothesis here) -/
def AbsWf (env : Env) (s : State) : Prop :=
  ∀ raw a, absWith env (renderP s.cwd) raw = .ok a → ∀ n ∈ toPath a, BodyPiece n

theorem AbsWf.absQ {env : Env} {s : State} (h : AbsWf env s) :
    StepAInv.AbsQ (fun p => ∀ n ∈ p, BodyPiece n) env s := by
  intro raw a s' ha
  unfold Memfs.absM at ha
  split at ha
  · rename_i x hx
    cases ha
    exact h raw x hx
  all_goals cases ha

theorem keysWf_ops : EntryOps (fun k _ => ∀ n ∈ k, BodyPiece n) (fun k => ∀ n ∈ k, BodyPiece n) where
  addChild := fun _ _ _ _ _ h _ => h
  file := fun _ h => h
  dir := fun _ _ h => h
  link := fun _ _ _ _ h => h
  setMode := fun _ _ _ h => h
  setOwner := fun _ _ _ _ h => h
  rekey := fun _ _ _ _ _ h => h
  take := fun _ _ h x hx => h x (List.mem_of_mem_take hx)

theorem KeysWf.replace {s : State} (h : KeysWf s) {k : FsPath} {e : Entry} (e' : Entry)
    (hk : alLookup k s.entries = some e) : KeysWf { s with entries := alInsert k e' s.entries } :=
  ⟨AllE.replace (P := fun k _ => ∀ n ∈ k, BodyPiece n) h.1 hk id, h.2⟩

theorem KeysWf.add (e : Entry) (hq : ∀ n ∈ e.path, BodyPiece n) : Pres KeysWf (Memfs.add e) :=
  PerEntry.add (C := fun c => ∀ n ∈ c, BodyPiece n) keysWf_ops.addChild e hq

/-- group A keeps `KeysWf` (every exit), provided `_abs` returns well-formed keys in the pre-state -/
theorem keysWf_step_A (env : Env) (s : State) (op : Op) (hc : CoveredA op) (ha : AbsWf env s)
    (h : KeysWf s) : KeysWf (step env s op).2 :=
  (keysWf_ops.stepAInv fun _ hp => hp).step env s op hc ha.absQ h

/-! #### sorted child lists -/

def SortedKids (s : State) : Prop :=
  ∀ kv ∈ s.entries, ∀ fs, kv.2.files = some fs → fs.Pairwise (fun a b => strLt b a = false)

theorem addChild_sorted {d d' : Entry} {n : Str} {b : Bool}
    (hd : ∀ fs, d.files = some fs → SortedNames fs) (h : d.addChild n = .ok (b, d')) :
    ∀ fs, d'.files = some fs → SortedNames fs := by
  rw [addChild_eq h]
  intro fs hfs
  cases hfs
  cases hf : d.files with
  | none => simp [SortedNames]
  | some fs0 => exact pairwise_insertName n (hd fs0 hf)

theorem sorted_ops : EntryOps (fun _ e => ∀ fs, e.files = some fs → SortedNames fs) (fun _ => True) where
  addChild := fun _ _ _ _ _ hd hadd => addChild_sorted hd hadd
  file := fun _ _ _ hfs => by cases hfs
  dir := fun _ _ _ _ hfs => by cases hfs; exact List.Pairwise.nil
  link := fun _ _ _ b _ fs hfs => by
    cases b
    · cases hfs
    · cases hfs; exact List.Pairwise.nil
  setMode := fun _ _ _ h => h
  setOwner := fun _ _ _ _ h => h
  rekey := fun _ _ _ _ h _ => h
  take := fun _ _ _ => trivial

theorem SortedKids.replace {s : State} (h : SortedKids s) {k : FsPath} {e e' : Entry}
    (hk : alLookup k s.entries = some e) (hf : e'.files = e.files) :
    SortedKids { s with entries := alInsert k e' s.entries } :=
  AllE.replace (P := fun _ x => ∀ fs, x.files = some fs → SortedNames fs) h hk (fun he => hf ▸ he)

theorem SortedKids.add (e : Entry) (he : ∀ fs, e.files = some fs → SortedNames fs) :
    Pres SortedKids (Memfs.add e) :=
  ⟨fun _ h => (add_allE (P := fun _ x => ∀ fs, x.files = some fs → SortedNames fs) e h he
    (fun _ _ _ hm hadd => addChild_sorted (h _ hm) hadd)).1⟩

theorem sortedKids_step_A (env : Env) (s : State) (op : Op) (hc : CoveredA op) (h : SortedKids s) :
    SortedKids (step env s op).2 :=
  ((sorted_ops.stepAInv (C := fun _ => True) fun _ _ => trivial).step env s op hc
    (fun _ _ _ _ => trivial) ⟨h, trivial⟩).1

end Rivia.Lemmas.InvA
