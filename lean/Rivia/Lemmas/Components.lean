/-
  Rivia.Lemmas.Components — `components` as a function of the `/`-pieces (`compsP`), how `push`
  extends the component list, and the round trip `components (render cs) = cs` on well-formed
  component lists.
-/
import Rivia.Lemmas.PathBasics

namespace Rivia.Lemmas
open Rivia Rivia.Str

/-! ### `bodyComp` -/

theorem mem_takeWhile_true {α} (p : α → Bool) {l : List α} {x : α} (h : x ∈ l.takeWhile p) : p x = true :=
  List.all_eq_true.1 List.all_takeWhile x h

theorem bodyComp_nil : bodyComp [] = none := by decide
theorem bodyComp_dot : bodyComp ['.'] = none := by decide

theorem bodyComp_eq_none_iff {p : Str} : bodyComp p = none ↔ (p = [] ∨ p = ['.']) := by
  unfold bodyComp
  split
  · next h => simp [h]
  · next h => split <;> simp [h]

theorem bodyComp_eq_some_iff {p : Str} {c : Comp} :
    bodyComp p = some c ↔
      (p ≠ [] ∧ p ≠ ['.']) ∧ c = if p = ['.', '.'] then .parent else .normal p := by
  unfold bodyComp
  split
  · next h => exact ⟨(nomatch ·), fun e => absurd h (not_or.2 e.1)⟩
  · next h =>
    rw [← apply_ite some]
    exact ⟨fun e => ⟨not_or.1 h, (Option.some.inj e).symm⟩, fun e => congrArg some e.2.symm⟩

theorem bodyComp_eq_none_iff_isBody {p : Str} : bodyComp p = none ↔ isBody p = false := by
  rw [bodyComp_eq_none_iff, isBody, Bool.not_eq_false', Bool.or_eq_true, beq_iff_eq, beq_iff_eq]

theorem isBody_bodyComp {p : Str} (h : isBody p = true) : ∃ c, bodyComp p = some c := by
  cases hc : bodyComp p with
  | none => rw [bodyComp_eq_none_iff_isBody.1 hc] at h; cases h
  | some c => exact ⟨c, rfl⟩

theorem nonbody_none : ∀ x : Str, nb x = true → bodyComp x = none := by
  intro x hx
  rw [bodyComp_eq_none_iff_isBody]
  simpa using hx

theorem bodyComp_str {p : Str} {c : Comp} (h : bodyComp p = some c) : c.str = p := by
  rw [(bodyComp_eq_some_iff.1 h).2]
  split
  · next h => rw [h]; rfl
  · rfl

theorem bodyComp_ne_root {p : Str} {c : Comp} (h : bodyComp p = some c) : c ≠ .root := by
  rw [(bodyComp_eq_some_iff.1 h).2]
  split <;> simp

theorem bodyComp_ne_cur {p : Str} {c : Comp} (h : bodyComp p = some c) : c ≠ .cur := by
  rw [(bodyComp_eq_some_iff.1 h).2]
  split <;> simp

/-- A `/`-piece that is a real path element: non-empty, not `.`, and slash-free. -/
def BodyPiece (p : Str) : Prop := p ≠ [] ∧ p ≠ ['.'] ∧ '/' ∉ p

theorem bodyComp_of_bodyPiece {p : Str} (h : BodyPiece p) :
    bodyComp p = some (if p = ['.', '.'] then .parent else .normal p) :=
  bodyComp_eq_some_iff.2 ⟨⟨h.1, h.2.1⟩, rfl⟩

theorem bodyPiece_of_bodyComp {p : Str} {c : Comp} (hp : '/' ∉ p) (hc : bodyComp p = some c) :
    BodyPiece p :=
  ⟨(bodyComp_eq_some_iff.1 hc).1.1, (bodyComp_eq_some_iff.1 hc).1.2, hp⟩

theorem map_str_filterMap_bodyComp {l : List Str} (h : ∀ p ∈ l, BodyPiece p) :
    (l.filterMap bodyComp).map Comp.str = l := by
  induction l with
  | nil => rfl
  | cons a r ih =>
    have hc := bodyComp_of_bodyPiece (h a List.mem_cons_self)
    rw [List.filterMap_cons_some hc, List.map_cons, bodyComp_str hc,
      ih fun p hp => h p (List.mem_cons_of_mem _ hp)]

/-! ### `components` on the piece list -/

/-- `components`, computed from the list of `/`-pieces. -/
def compsP : List Str → List Comp
  | [] => []
  | p0 :: rest =>
    (if p0 = [] ∧ rest ≠ [] then [.root] else if p0 = ['.'] then [.cur] else [])
      ++ (p0 :: rest).filterMap bodyComp

theorem components_eq_compsP (s : Str) : components s = compsP (splitSlash s) := by
  unfold components
  cases hs : splitSlash s with
  | nil => exact absurd hs (splitSlash_ne_nil s)
  | cons p0 rest =>
    by_cases hr : isRooted s = true
    · obtain ⟨r, hr1, hr2⟩ := (isRooted_iff_split s).1 hr
      obtain ⟨rfl, rfl⟩ := List.cons.inj (hs ▸ hr2)
      simp [hr, compsP, hr1]
    · have hn : ¬ (p0 = [] ∧ rest ≠ []) := by
        rintro ⟨rfl, h2⟩
        exact hr ((isRooted_iff_split s).2 ⟨rest, h2, hs⟩)
      simp only [hr, compsP, hn, if_false, List.head?_cons, Option.some.injEq]
      rfl

theorem components_joinWith {L : List Str} (hne : L ≠ []) (h : ∀ p ∈ L, '/' ∉ p) :
    components (joinWith '/' L) = compsP L := by
  rw [components_eq_compsP, splitSlash, splitOn_joinWith hne h]

theorem components_nil : components [] = [] := by decide

theorem compsP_tail (p0 : Str) (rest : List Str) :
    (compsP (p0 :: rest)).tail = rest.filterMap bodyComp := by
  by_cases h1 : p0 = []
  · subst h1
    by_cases h2 : rest = []
    · subst h2; decide
    · simp [compsP, h2, bodyComp_nil]
  · by_cases h2 : p0 = ['.']
    · subst h2; simp [compsP, bodyComp_dot]
    · obtain ⟨c, hc⟩ := isBody_bodyComp (isBody_eq_true h1 h2)
      simp [compsP, h1, h2, hc]

/-- Further pieces only add their body components, as long as they do not turn an empty first
    piece into the root marker. -/
theorem compsP_cons_eq {p0 : Str} {rest rest' : List Str} {B : List Comp}
    (h0 : p0 = [] → (rest = [] ↔ rest' = []))
    (hf : rest.filterMap bodyComp = rest'.filterMap bodyComp ++ B) :
    compsP (p0 :: rest) = compsP (p0 :: rest') ++ B := by
  have hl : (p0 = [] ∧ rest ≠ []) ↔ (p0 = [] ∧ rest' ≠ []) :=
    and_congr_right fun h => not_congr (h0 h)
  simp only [compsP, List.filterMap_cons, hf, hl]
  cases bodyComp p0 <;> simp

theorem getLast?_compsP_snoc {init : List Str} {y : Str} {c : Comp} (hc : bodyComp y = some c) :
    (compsP (init ++ [y])).getLast? = some c := by
  cases init with
  | nil =>
    simp only [List.nil_append, compsP, List.filterMap_cons_some hc, List.filterMap_nil]
    exact List.getLast?_concat
  | cons i0 irest =>
    simp only [List.cons_append, compsP]
    rw [← List.cons_append, List.filterMap_append, List.filterMap_cons_some hc,
      List.filterMap_nil, ← List.append_assoc]
    exact List.getLast?_concat

/-! ### `components` of a longer string -/

theorem components_of_split_append {s a : Str} {B : List Str} (hr : isRooted s = isRooted a)
    (hs : splitSlash s = splitSlash a ++ B) :
    components s = components a ++ B.filterMap bodyComp := by
  unfold components
  have hh : (splitSlash a ++ B).head? = (splitSlash a).head? := by
    cases h : splitSlash a with
    | nil => exact absurd h (splitSlash_ne_nil a)
    | cons x r => rfl
  rw [hs, hr, hh, List.filterMap_append]
  split
  · rfl
  · exact (List.append_assoc _ _ _).symm

theorem components_append_slash_cons {d : Str} (hd : d ≠ []) (q : Str) :
    components (d ++ '/' :: q) = components d ++ (splitSlash q).filterMap bodyComp :=
  components_of_split_append (isRooted_append hd _) (splitOn_append_cons_sep '/' d q)

theorem components_slash_cons (q : Str) :
    components ('/' :: q) = .root :: (splitSlash q).filterMap bodyComp := by
  simp [components, isRooted, splitSlash, splitOn_cons_sep, bodyComp_nil]

theorem components_snoc_slash {d : Str} (hd : d ≠ []) : components (d ++ ['/']) = components d := by
  rw [components_append_slash_cons hd]
  exact List.append_nil _

theorem components_push {d q : Str} (hd : d ≠ []) (hq : isRooted q = false) :
    components (push d q) = components d ++ (splitSlash q).filterMap bodyComp := by
  unfold push
  rw [hq, if_neg Bool.false_ne_true]
  by_cases he : endsWithSlash d = false
  · rw [if_pos ⟨hd, he⟩]
    exact components_append_slash_cons hd q
  · rw [if_neg (fun h => he h.2)]
    obtain ⟨d', rfl⟩ := endsWithSlash_true (by simpa using he)
    rw [List.append_assoc, List.singleton_append]
    by_cases hd' : d' = []
    · subst hd'
      exact components_slash_cons q
    · rw [components_append_slash_cons hd', components_snoc_slash hd']

theorem components_push_nil {d : Str} (hd : d ≠ []) : components (push d []) = components d := by
  rw [components_push hd rfl]
  exact List.append_nil _

theorem push_ne_nil {d : Str} (hd : d ≠ []) (p : Str) : push d p ≠ [] := by
  unfold push
  split
  · next h => rintro rfl; cases h
  · split <;> exact List.append_ne_nil_of_left_ne_nil hd _

/-! ### well-formed component lists and `render` -/

/-- A body component (`..` or a normal name) as produced by `components`. -/
def BodyC (c : Comp) : Prop := bodyComp c.str = some c ∧ '/' ∉ c.str

/-- Shape of the component lists produced by `components`: an optional root or leading `.`
    followed by body components. -/
def CompsOK (cs : List Comp) : Prop :=
  ∃ body, (cs = body ∨ cs = .root :: body ∨ cs = .cur :: body) ∧ ∀ c ∈ body, BodyC c

theorem BodyC.bodyPiece {c : Comp} (h : BodyC c) : BodyPiece c.str :=
  bodyPiece_of_bodyComp h.2 h.1

theorem bodyC_filterMap {L : List Str} (h : ∀ p ∈ L, '/' ∉ p) :
    ∀ c ∈ L.filterMap bodyComp, BodyC c := by
  intro c hc
  obtain ⟨x, hx, hxc⟩ := List.mem_filterMap.1 hc
  rw [← bodyComp_str hxc] at hx hxc
  exact ⟨hxc, h _ hx⟩

theorem bodyPiece_map_str {body : List Comp} (h : ∀ c ∈ body, BodyC c) :
    ∀ q ∈ body.map Comp.str, BodyPiece q := by
  intro q hq
  obtain ⟨c, hc, rfl⟩ := List.mem_map.1 hq
  exact (h c hc).bodyPiece

theorem components_ok (s : Str) : CompsOK (components s) := by
  refine ⟨(splitSlash s).filterMap bodyComp, ?_, bodyC_filterMap (splitSlash_not_mem s)⟩
  unfold components
  split
  · exact Or.inr (Or.inl rfl)
  · split
    · exact Or.inr (Or.inr rfl)
    · exact Or.inl rfl

theorem mem_compsOK {cs : List Comp} (h : CompsOK cs) {c : Comp} (hc : c ∈ cs) :
    c = .root ∨ c = .cur ∨ BodyC c := by
  obtain ⟨body, hcs, hb⟩ := h
  rcases hcs with rfl | rfl | rfl
  · exact Or.inr (Or.inr (hb c hc))
  · exact (List.mem_cons.1 hc).imp id fun hc => Or.inr (hb c hc)
  · exact Or.inr ((List.mem_cons.1 hc).imp id (hb c))

theorem BodyC.components_str {c : Comp} (h : BodyC c) : components c.str = [c] := by
  have := components_joinWith (L := [c.str]) (List.cons_ne_nil _ _)
    (List.forall_mem_singleton.2 h.2)
  rw [joinWith_singleton] at this
  simp [this, compsP, h.bodyPiece.1, h.bodyPiece.2.1, h.1]

theorem components_foldl_push {body : List Comp} (hb : ∀ c ∈ body, BodyC c) {d : Str}
    (hd : d ≠ []) :
    components (body.foldl (fun b c => push b c.str) d) = components d ++ body := by
  induction body generalizing d with
  | nil => exact (List.append_nil _).symm
  | cons c r ih =>
    have hc := hb c List.mem_cons_self
    rw [List.foldl_cons, ih (fun c hc => hb c (List.mem_cons_of_mem _ hc)) (push_ne_nil hd _),
      components_push hd (isRooted_of_not_mem hc.2), splitSlash, splitOn_of_not_mem hc.2]
    simp [hc.1]

theorem components_render {cs : List Comp} (h : CompsOK cs) : components (render cs) = cs := by
  obtain ⟨body, hcs, hb⟩ := h
  rcases hcs with rfl | rfl | rfl
  · cases cs with
    | nil => decide
    | cons c r =>
      have hc := hb c List.mem_cons_self
      unfold render
      rw [List.foldl_cons, push_nil_left,
        components_foldl_push (fun c hc => hb c (List.mem_cons_of_mem _ hc)) hc.bodyPiece.1,
        hc.components_str]
      rfl
  · unfold render
    rw [List.foldl_cons, push_nil_left, components_foldl_push hb (by decide)]
    rfl
  · unfold render
    rw [List.foldl_cons, push_nil_left, components_foldl_push hb (by decide)]
    rfl

theorem render_components_render {cs : List Comp} (h : CompsOK cs) :
    render (components (render cs)) = render cs := by
  rw [components_render h]

end Rivia.Lemmas
