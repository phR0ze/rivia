/-
  Rivia.Lemmas.RefineB — refinement of the destructive / structural Memfs operations (`remove`,
  `remove_all`, `symlink`, `move_p`, `chown`, octal `chmod`) against the reference tree filesystem
  (C01, group B).  The development lives in `Rivia/Lemmas/RefineB/*`.
-/
import Rivia.Lemmas.RefineB.Move
import Rivia.Lemmas.RefineB.Chmod
