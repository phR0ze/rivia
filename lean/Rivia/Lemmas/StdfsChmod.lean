/-
  Rivia.Lemmas.StdfsChmod — C02: octal `chmod` / `chmod_b` (no `follow`, no symbolic
  expression) against the reference `chmodOctal`.
-/
import Rivia.Lemmas.StdfsWalk

namespace Rivia.Lemmas.StdfsL
open Rivia Rivia.Memfs Rivia.File Rivia.Spec Rivia.Spec.TreeFs Rivia.Posix Rivia.Stdfs
open Rivia.Lemmas.RefineA (TEquiv ResMatch get_put)
open Rivia.Stdfs.SM
open Rivia.Lemmas.RefineB (permFn)

variable {env : Env} {t : T}

/-! ### modes -/

theorem mode_big (n : Node) : 0o40000 ≤ n.mode := by
  unfold Node.mode
  have h1 : 0o40000 ≤ typeBits n.kind := by cases n.kind <;> simp [typeBits]
  exact Nat.le_trans h1 Nat.left_le_or

theorem entryFrom_key_big (h : Ctx env t) (hrt : keysRT env t = true) {k : FsPath} {n : Node}
    (hg : get t k = some n) :
    ∃ e, entryFrom env t (renderP k) = .ok e ∧ EntryFor k n e ∧ 0o40000 ≤ e.mode := by
  obtain ⟨e, he, hef⟩ := entryFrom_key h hrt hg
  refine ⟨e, he, hef, ?_⟩
  have ha := keysRT_lookup hrt hg
  cases hk : n.kind with
  | dir =>
    rw [entryFrom_nonlink h ha hg (by simp [hk, isLinkKind])] at he
    cases he; exact mode_big n
  | file =>
    rw [entryFrom_nonlink h ha hg (by simp [hk, isLinkKind])] at he
    cases he; exact mode_big n
  | link b =>
    obtain ⟨alt, m, tg, _, _, _, he'⟩ := entryFrom_link h ha hg hk
    rw [he'] at he
    cases he; exact mode_big m

theorem childEntries_gMap (h : Ctx env t) (hrt : keysRT env t = true) {g : Node → Node} (hg : GOk g)
    (S : FsPath → Bool) {a : FsPath} (hd : isDir t a = true) :
    ∃ es, childEntries env (gMap g S t) a = .ok es ∧ es.map (·.path) = (childNodes t a).map (·.1) ∧
      ∀ e ∈ es, ∃ kv ∈ childNodes t a, EntryFor kv.1 kv.2 e ∧ 0o40000 ≤ e.mode := by
  unfold childEntries
  rw [readDir_dir (ctx_gMap hg S h) (by rw [isDir_gMap hg]; exact hd), childNodes_gMap, List.map_map]
  simp only [List.map_map]
  apply sequenceO_map _ (fun kv : FsPath × Node => kv.1) (·.path)
    (fun kv e => EntryFor kv.1 kv.2 e ∧ 0o40000 ≤ e.mode)
  intro kv hkv
  obtain ⟨hgc, x, hx⟩ := child_get h hkv
  obtain ⟨e, he, hef, hbig⟩ := entryFrom_key_big (ctx_gMap hg S h) (keysRT_gMap g S hrt)
    (show get (gMap g S t) kv.1 = some (if S kv.1 then g kv.2 else kv.2) by rw [get_gMap, hgc]; rfl)
  refine ⟨e, ?_, hef.path, entryFor_gnode hg _ hef, hbig⟩
  simp only [Function.comp, gkv_def, hx, baseName_snoc]
  rw [← hx]; exact he

/-! ### the rewrite -/

theorem permFn_ok (dm fm : Option Nat) : GOk (permFn dm fm) := by
  refine ⟨?_, ?_, ?_⟩ <;> intro n <;> obtain ⟨kind, perm, uid, gid, target, data⟩ := n <;>
    cases kind <;> cases dm <;> cases fm <;> rfl

/-- `0` means "not given" -/
def oct (x : Nat) : Option Nat := if x = 0 then none else some x

/-- `fs::set_permissions` on a node of the rewritten tree -/
theorem setPerm_gMap (h : Ctx env t) {g : Node → Node} (hg : GOk g) (S : FsPath → Bool) {k : FsPath} {n : Node}
    (hk : get t k = some n) (hnl : isLinkKind n.kind = false) (m : Nat) (hm : m < 0o10000)
    (hgn : ∀ n' : Node, n'.kind = n.kind → ({ n' with perm := m } : Node) = g n' ) :
    setPerm (gMap g S t) k m = (.ok (), gMap g (fun q => S q || q == k) t) := by
  have hc := ctx_gMap hg S h
  have hgk : get (gMap g S t) k = some (if S k then g n else n) := by rw [get_gMap, hk]; rfl
  have hnl' : isLinkKind (if S k then g n else n).kind = false := by rw [kind_gnode hg]; exact hnl
  simp only [setPerm, Posix.chmod, linkFuel]
  rw [followFinal_nonlink hc.wf hgk hnl']
  simp only [hgk, and_7777 hm]
  have : ({ (if S k = true then g n else n) with perm := m } : Node) = g n := by
    by_cases hs : S k = true
    · simp only [hs, if_true]
      rw [hgn (g n) (hg.kind n), hg.idem]
    · simp only [hs, Bool.false_eq_true, if_false]
      exact hgn n rfl
  rw [this, put_gMap _ S h.wf.nodup hk]

/-! ### `pre_op` and the loop body of `_chmod`, octal -/

/-- octal options without `follow` and with storable modes -/
structure OctalOpts (c : ChmodOpts) : Prop where
  sym : c.sym = []
  follow : c.follow = false
  dirs : c.dirs < 0o10000
  files : c.files < 0o10000

theorem oct_zero : oct 0 = none := rfl
theorem oct_ne {x : Nat} (h : x ≠ 0) : oct x = some x := by simp [oct, h]

/-- what `permFn` does to nodes of one kind, in terms of the octal mode `m` given for that kind -/
def PermOf (dm fm : Option Nat) (K : Kind) (m : Nat) : Prop :=
  ∀ n' : Node, n'.kind = K → permFn dm fm n' = match oct m with | some x => { n' with perm := x } | none => n'

theorem permOf_dir (c : ChmodOpts) : PermOf (oct c.dirs) (oct c.files) .dir c.dirs := by
  intro n' hk; unfold permFn; rw [hk]; cases oct c.dirs <;> rfl
theorem permOf_file (c : ChmodOpts) : PermOf (oct c.dirs) (oct c.files) .file c.files := by
  intro n' hk; unfold permFn; rw [hk]; cases oct c.files <;> rfl

variable {c : ChmodOpts}

theorem setPerm_octal (h : Ctx env t) (S : FsPath → Bool) {k : FsPath} {n : Node} (hk : get t k = some n)
    (hnl : isLinkKind n.kind = false) {m : Nat} (hm : m < 0o10000) (h0 : m ≠ 0)
    (hp : PermOf (oct c.dirs) (oct c.files) n.kind m) :
    setPerm (gMap (permFn (oct c.dirs) (oct c.files)) S t) k m =
      (.ok (), gMap (permFn (oct c.dirs) (oct c.files)) (fun q => S q || q == k) t) :=
  setPerm_gMap h (permFn_ok _ _) S hk hnl m hm fun n' hn' => by rw [hp n' hn', oct_ne h0]

/-- the loop body on a node that is not a link: the mode is applied unless it is 0 ("not given"); it never
    equals the recorded mode, which carries the type bits -/
theorem octal_apply (h : Ctx env t) (S : FsPath → Bool) {k : FsPath} {n : Node} (hk : get t k = some n)
    (hnl : isLinkKind n.kind = false) {m x : Nat} (hm : m < 0o10000) (hx : 0o40000 ≤ x)
    (hp : PermOf (oct c.dirs) (oct c.files) n.kind m) :
    (if (decide (m ≠ x) && decide (m ≠ 0)) = true then setPerm (gMap (permFn (oct c.dirs) (oct c.files)) S t) k m
      else (.ok (), gMap (permFn (oct c.dirs) (oct c.files)) S t)) =
      (.ok (), gMap (permFn (oct c.dirs) (oct c.files)) (fun q => S q || q == k) t) := by
  rw [decide_eq_true (show m ≠ x by omega), Bool.true_and]
  by_cases h0 : m = 0
  · have := hp n rfl
    rw [h0, oct_zero] at this
    rw [decide_eq_false (fun hn => hn h0), if_neg Bool.false_ne_true, gMap_add_fixed _ S h.wf.nodup hk this]
  · rw [decide_eq_true h0, if_pos rfl, setPerm_octal h S hk hnl hm h0 hp]

theorem chmodPost_gMap (h : Ctx env t) (ho : OctalOpts c) (S : FsPath → Bool)
    {k : FsPath} {n : Node} {e : SEntry} (hk : get t k = some n) (he : EntryFor k n e) (hbig : 0o40000 ≤ e.mode) :
    chmodPost c e (gMap (permFn (oct c.dirs) (oct c.files)) S t) =
      (.ok (), gMap (permFn (oct c.dirs) (oct c.files)) (fun q => S q || q == k) t) := by
  unfold chmodPost
  simp only [ho.sym, RefineB.mode_octal, ho.follow, Bool.or_false, he.path, he.dir, he.file, he.link]
  cases hkk : n.kind with
  | dir =>
    simp only [isLinkKind, decide_true, Bool.true_or, if_true, Bool.not_false, Bool.true_and]
    exact octal_apply h S hk (by rw [hkk]; rfl) ho.dirs hbig (hkk ▸ permOf_dir c)
  | file =>
    simp only [isLinkKind, reduceCtorEq, decide_false, Bool.false_or, Bool.false_eq_true, if_false, decide_true,
      Bool.true_or, if_true, Bool.not_false, Bool.true_and]
    exact octal_apply h S hk (by rw [hkk]; rfl) ho.files hbig (hkk ▸ permOf_file c)
  | link b =>
    have hfix : permFn (oct c.dirs) (oct c.files) n = n := RefineB.permFn_link hkk _ _
    rw [gMap_add_fixed _ S h.wf.nodup hk hfix]
    cases b <;> simp [isLinkKind]

theorem chmodPre_gMap (h : Ctx env t) (ho : OctalOpts c) (S : FsPath → Bool)
    {k : FsPath} {n : Node} {e : SEntry} (hk : get t k = some n) (he : EntryFor k n e) :
    ∃ b : Bool, chmodPre c e (gMap (permFn (oct c.dirs) (oct c.files)) S t) =
      (.ok (), gMap (permFn (oct c.dirs) (oct c.files)) (fun q => S q || (b && q == k)) t) := by
  unfold chmodPre
  simp only [ho.sym, RefineB.mode_octal, ho.follow, Bool.or_false, he.path]
  by_cases hcond : (!e.link && e.dir && decide (c.dirs ≠ 0) && !Chmod.revokingMode e.mode c.dirs &&
      decide (e.mode ≠ c.dirs)) = true
  · refine ⟨true, ?_⟩
    simp only [hcond, if_true, Bool.true_and]
    simp only [Bool.and_eq_true, Bool.not_eq_true', decide_eq_true_eq] at hcond
    obtain ⟨⟨⟨⟨hl, hd⟩, h0⟩, _⟩, _⟩ := hcond
    have hkk : n.kind = .dir := by
      have := entry_real_dir he
      rw [hd, hl] at this
      simpa using this.symm
    exact setPerm_octal h S hk (by rw [hkk]; rfl) ho.dirs h0 (hkk ▸ permOf_dir c)
  · refine ⟨false, ?_⟩
    simp only [hcond, Bool.false_eq_true, if_false, Bool.false_and, Bool.or_false]

theorem chmodVisit_succ (c : ChmodOpts) (M : Option Nat) (f d : Nat) (e : SEntry) (t : T) :
    chmodVisit env c M (f + 1) d e t =
      if e.dir && !e.link && belowMax d M then
        match chmodPre c e t with
        | (.ok (), t1) =>
          match childEntries env t1 e.path with
          | .ok kids =>
            let ordered := sortByName (kids.filter (·.dir)) ++ sortByName (kids.filter (fun x => !x.dir))
            match ordered.foldl (visitStep (chmodVisit env c M f (d + 1))) ((.ok (), t1) : Outcome Unit × T) with
            | (.ok (), t2) => chmodPost c e t2
            | r => r
          | .err k => (.err k, t1)
          | .panic => (.panic, t1)
          | .hang => (.hang, t1)
        | r => r
      else chmodPost c e t := by
  rw [chmodVisit]
  rfl

theorem mem_dirsFirst (es : List SEntry) (c' : SEntry) :
    c' ∈ sortByName (es.filter (·.dir)) ++ sortByName (es.filter (fun x => !x.dir)) ↔ c' ∈ es := by
  simp only [List.mem_append, mem_sortByName, List.mem_filter]
  constructor
  · rintro (⟨h1, _⟩ | ⟨h1, _⟩) <;> exact h1
  · intro h1
    cases hcd : c'.dir with
    | true => exact Or.inl ⟨h1, rfl⟩
    | false => exact Or.inr ⟨h1, rfl⟩

theorem any_paths {es L : List SEntry} {cs : List (FsPath × Node)} (hp : es.map (·.path) = cs.map (·.1))
    (hL : ∀ c', c' ∈ L ↔ c' ∈ es) (P : FsPath → Bool) :
    L.any (fun c' => P c'.path) = cs.any (fun kv => P kv.1) := by
  rw [Bool.eq_iff_iff, List.any_eq_true, List.any_eq_true]
  constructor
  · rintro ⟨c', hc', hv⟩
    obtain ⟨kv, hkv, he⟩ := List.mem_map.1 (hp ▸ List.mem_map_of_mem (f := SEntry.path) ((hL c').1 hc'))
    exact ⟨kv, hkv, (he : kv.1 = c'.path) ▸ hv⟩
  · rintro ⟨kv, hkv, hv⟩
    obtain ⟨c', hc', he⟩ := List.mem_map.1 (hp ▸ List.mem_map_of_mem (f := Prod.fst) hkv)
    exact ⟨c', (hL c').2 hc', (he : c'.path = kv.1) ▸ hv⟩

/-- the contents-first walk of `_chmod` with octal modes: every visited node ends up rewritten -/
theorem chmodVisit_gMap (h : Ctx env t) (hrt : keysRT env t = true) {c : ChmodOpts} (ho : OctalOpts c) :
    ∀ (f d : Nat) (a : FsPath) (n : Node) (e : SEntry) (S : FsPath → Bool), get t a = some n → EntryFor a n e →
      0o40000 ≤ e.mode → Fuel t f a →
      chmodVisit env c (recDepth c.recursive) f d e (gMap (permFn (oct c.dirs) (oct c.files)) S t) =
        (.ok (), gMap (permFn (oct c.dirs) (oct c.files)) (fun k => S k || vis t c.recursive a k) t) := by
  have hg := permFn_ok (oct c.dirs) (oct c.files)
  intro f
  induction f with
  | zero => intro d a n e S hg' _ _ hfuel; exact absurd (hfuel [] n (by rw [List.append_nil]; exact hg')) (Nat.lt_irrefl 0)
  | succ f ih =>
    intro d a n e S hg' he hbig hfuel
    rw [chmodVisit_succ, entry_real_dir he, belowMax_recDepth, descend_iff hg']
    cases hgo : c.recursive && isDir t a with
    | false =>
      rw [if_neg Bool.false_ne_true, chmodPost_gMap h ho S hg' he hbig]
      simp only [vis_stop hgo]
    | true =>
      obtain ⟨hrc, hd⟩ := Bool.and_eq_true_iff.1 hgo
      obtain ⟨b, hpre⟩ := chmodPre_gMap h ho S hg' he
      obtain ⟨es, hes, hpaths, hents⟩ := childEntries_gMap h hrt hg (fun q => S q || (b && q == a)) hd
      rw [if_pos rfl, hpre]
      simp only [he.path, hes]
      rw [foldl_gMap _ _ (fun c' => vis t c.recursive c'.path)]
      simp only
      rw [chmodPost_gMap h ho _ hg' he hbig]
      · congr 1
        refine gMap_congr _ t fun kv hkv => ?_
        have hm := alLookup_of_mem_nodup h.wf.nodup hkv
        rw [hrc, any_paths hpaths (mem_dirsFirst es) (vis t true · kv.1), vis_dir h hd hm]
        cases b <;> cases S kv.1 <;> cases (kv.1 == a) <;>
          cases (childNodes t a).any (fun kv' => vis t true kv'.1 kv.1) <;> rfl
      · intro c' hc' S'
        obtain ⟨kv, hkv, hef, hb'⟩ := hents c' ((mem_dirsFirst es c').1 hc')
        obtain ⟨hgc, x, hx⟩ := child_get h hkv
        rw [visitStep, hef.path]
        exact ih (d + 1) kv.1 kv.2 c' S' hgc hef hb' (hx ▸ hfuel.child x)

/-! ### chmod, octal -/

theorem chmodOctal_eq_gMap {a : FsPath} {n : Node} (hg : get t a = some n) (dm fm : Option Nat) (rc : Bool) :
    TreeFs.chmodOctal t a dm fm rc = (.ok (), gMap (permFn dm fm) (vis t rc a) t) := by
  rw [RefineB.chmodOctal_eq, hg, vis_eq_sel]
  rfl

theorem sim_chmodK (h : Ctx env t) (p : Str) {c : ChmodOpts} (ho : OctalOpts c)
    (hok : chmodOkB env t p = true) :
    Sim (Stdfs.mapVal (fun _ => .unit) (Stdfs.chmod env p c) t)
      (withPath env t p fun a => liftR (fun _ => .unit)
        (TreeFs.chmodOctal t a (oct c.dirs) (oct c.files) c.recursive)) := by
  obtain ⟨hrt, hok2⟩ := Bool.and_eq_true_iff.1 hok
  unfold Stdfs.chmod
  simp only [ho.follow, Bool.false_eq_true, if_false]
  refine sim_attrWalk h hrt p (fun a ha => ?_) _ _ (fun a hg => ?_) (fun a n e ha hg he hef => ?_)
  · rw [ha] at hok2
    exact of_decide_eq_true hok2
  · unfold TreeFs.chmodOctal
    rw [hg]
  · obtain ⟨e', he', _, hbig⟩ := entryFrom_key_big h hrt hg
    cases he.symm.trans he'
    obtain ⟨f, hf, hfuel⟩ := fuel_walkFuel t a
    have hwalk := chmodVisit_gMap h hrt ho (f + 1) 0 a n e (fun _ => false) hg hef hbig hfuel
    rw [gMap_none] at hwalk
    simp only [Bool.false_or] at hwalk
    exact ⟨_, hf ▸ hwalk, chmodOctal_eq_gMap hg _ _ _⟩

end Rivia.Lemmas.StdfsL
