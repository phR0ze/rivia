/-
  C12R — "every call returns", discharged for histories that do not follow links.

  The model's loops are fuelled (`.hang` on exhaustion), so the history-level theorems of Props/C01R,
  C01S, C01C, C03, C06R, C08S carry a hypothesis "every call of the history returns" (`Returns`,
  `NoHangRun`, `∀ pre op post, … ≠ .hang`).  Props/C12 proves termination piecewise from `Inv` (+ side
  conditions for `move_p` / `mkfile_m`).  Here the two are put together:

    NoFollowOp op  :=  op's options do not ask to follow links
                       (`entries` / `chmod_b` / `chown_b` / `copy_b` with `follow = false`, all other
                        49 constructors unconditionally)

  * `C12R_returns`: from every state with `RInv` (the invariant of reachable states of C01R) every
    `NoFollowOp` call returns (no `.hang`, no `.panic`) — NO further side condition:
      - 36 operations without a fuelled loop: total on every state;
      - `remove_all`, the six listings, `entries`, `chmod` / `chmod_b`, `chown` / `chown_b`, `copy` /
        `copy_b` (all without `follow`): `Spec.Inv s` suffices (fuel `travFuel = 64 (n+2)^2`, resp.
        `4 (n+2)`, is enough whatever the depth window / recursion flag / size);
      - `mkfile_m`: needs `Inv` of the state after its `mkfile` half = preservation (C03), so
        `C03_Strong s`;
      - `move_p`: needs ordinary names in all keys and in the resolved destination (`KeysW s`, `abs`
        returns a well-formed key) and "no real directory is also a file" (from `EntriesOk s`).
  * `C12R_history_returns`: hence every history over `NoFollowOp` from `Memfs.init` returns at every
    step, and its final state is `Reached` / satisfies `RInv` — no hypothesis but the alphabet
    (`NoFollowOp → GoodOp`).
  * corollaries: the history theorems restated without the "returns" hypothesis; for the trace-level
    simulation even the alphabet hypothesis disappears (an operation the reference answers is
    `Refined'` and does not follow links).

-/
import Rivia.Lemmas.ReturnsAll
import Rivia.Props.C01C
import Rivia.Props.C06R
import Rivia.Props.C08S

namespace Rivia.Props
open Rivia Rivia.Memfs Rivia.Spec Rivia.Spec.TreeFs Rivia.Lemmas
open Rivia.Lemmas.Sim (NodupK AncDir)
open Rivia.Lemmas.Snap (DepthOk)

/-! ### the alphabet -/

/-- the calls whose options do not ask to follow links: `entries` / `chmod_b` / `chown_b` / `copy_b`
    with `follow = false`, every other operation unconditionally -/
abbrev NoFollowOp (op : Op) : Prop := RetAll.NoFollowOp op

/-- (restates the definition) -/
theorem C12R_noFollowOp_iff (op : Op) : NoFollowOp op ↔
    (∀ p r, op = .entries p r → r.follow = false) ∧ (∀ p c, op = .chmodB p c → c.follow = false) ∧
    (∀ p c, op = .chownB p c → c.follow = false) ∧ (∀ a b c, op = .copyB a b c → c.follow = false) := by
  constructor
  · intro h
    exact ⟨by rintro _ _ rfl; exact h, by rintro _ _ rfl; exact h, by rintro _ _ rfl; exact h,
      by rintro _ _ _ rfl; exact h⟩
  · rintro ⟨h1, h2, h3, h4⟩
    cases op <;> first | exact trivial | exact h1 _ _ rfl | exact h2 _ _ rfl | exact h3 _ _ rfl | exact h4 _ _ _ rfl

/-- the alphabet is inside C01R's `GoodOp` (everything but `copy_b(..).follow(true)`) -/
theorem C12R_noFollow_good (op : Op) (h : NoFollowOp op) : GoodOp op := by
  cases op <;> first | exact trivial | exact h

/-- every operation the reference answers (`specStep … = some _`) is in the alphabet -/
theorem C12R_covered_noFollow (env : Env) (t : T) (op : Op) (h : (specStep env t op).isSome = true) :
    NoFollowOp op := by
  cases op <;> first
    | exact trivial
    | cases h
    | skip
  all_goals
    rename_i p c
    show c.follow = false
    cases hf : c.follow with
    | false => rfl
    | true => simp only [specStep, hf, if_true] at h; cases h

/-! ### a. one call -/

/-- on a state with C03's inductive invariant every `NoFollowOp` call other than `move_p` returns -/
theorem C12R_returns_strong (env : Env) (s : State) (op : Op) (h : C03_Strong s) (hn : NoFollowOp op)
    (hm : ∀ a b, op ≠ .moveP a b) : (step env s op).1 ≠ .hang := by
  by_cases h2 : ∃ p m, op = .mkfileM p m
  · obtain ⟨p, m, rfl⟩ := h2
    exact RetAll.step_mkfileM_returns env s p m h
  · exact step_term_no_hang env s op h.1
      (RetAll.termOp_of_noFollow op hn hm (fun p m he => h2 ⟨p, m, he⟩))

/-- **every call that does not follow links returns** from every state with the invariant of reachable
    states: no `.hang` (the fuel of every loop suffices), no `.panic` -/
theorem C12R_returns (env : Env) (s : State) (op : Op) (h : RInv s) (hn : NoFollowOp op) :
    (step env s op).1 ≠ .hang ∧ (step env s op).1 ≠ .panic := by
  refine ⟨?_, step_no_panic env s op⟩
  by_cases h1 : ∃ a b, op = .moveP a b
  · obtain ⟨a, b, rfl⟩ := h1
    exact RetAll.step_moveP_returns env s a b h.1.1 h.2.2 h.2.1
  · exact C12R_returns_strong env s op h.1 hn (fun a b he => h1 ⟨a, b, he⟩)

/-- … and keeps that invariant -/
theorem C12R_step (env : Env) (s : State) (op : Op) (h : RInv s) (hn : NoFollowOp op) :
    RInv (step env s op).2 :=
  C01R_good_step env s op (C12R_noFollow_good op hn) h (C12R_returns env s op h hn).1

/-! ### b. histories -/

theorem C12R_run (env : Env) : ∀ (ops : List Op) (s : State), RInv s → (∀ o ∈ ops, NoFollowOp o) →
    InvAll.NoHangRun env s ops ∧ RInv (run env s ops) := by
  intro ops
  induction ops with
  | nil => intro s h _; exact ⟨trivial, h⟩
  | cons op ops ih =>
    intro s h hn
    have h1 := C12R_returns env s op h (hn op List.mem_cons_self)
    have h2 := ih _ (C12R_step env s op h (hn op List.mem_cons_self))
      (fun o ho => hn o (List.mem_cons_of_mem _ ho))
    exact ⟨⟨h1.1, h2.1⟩, h2.2⟩

/-- **every call of every history that does not follow links returns** (fresh filesystem, any
    environment, arbitrary arguments, calls succeeding or failing) -/
theorem C12R_history_returns (env : Env) (ops : List Op) (hn : ∀ o ∈ ops, NoFollowOp o) :
    Returns env Memfs.init ops :=
  (InvAll.noHangRun_iff env _ ops).1 (C12R_run env ops _ C01R_init hn).1

/-- the same, spelled out, with "no panic" -/
theorem C12R_history_total (env : Env) (ops : List Op) (hn : ∀ o ∈ ops, NoFollowOp o) :
    ∀ pre op post, ops = pre ++ op :: post →
      (step env (run env Memfs.init pre) op).1 ≠ .hang ∧ (step env (run env Memfs.init pre) op).1 ≠ .panic :=
  fun pre op post he => ⟨C12R_history_returns env ops hn pre op post he, step_no_panic env _ op⟩

/-- the final state has the invariant of reachable states … -/
theorem C12R_history_rinv (env : Env) (ops : List Op) (hn : ∀ o ∈ ops, NoFollowOp o) :
    RInv (run env Memfs.init ops) :=
  (C12R_run env ops _ C01R_init hn).2

/-- … and is `Reached` (Props/C06R) -/
theorem C12R_history_reached (env : Env) (ops : List Op) (hn : ∀ o ∈ ops, NoFollowOp o) :
    Reached (run env Memfs.init ops) :=
  C06R_reached_of_history env ops (fun o ho => C12R_noFollow_good o (hn o ho))
    (C12R_history_returns env ops hn)

/-- `Reached` is closed under `NoFollowOp` calls, the environment may change from call to call -/
theorem C12R_reached_step {s : State} (env : Env) (op : Op) (h : Reached s) (hn : NoFollowOp op) :
    Reached (step env s op).2 :=
  .step env op h (C12R_noFollow_good op hn) (C12R_returns env s op (C06R_reached_rinv h) hn).1

/-- every side invariant of the refinement theorems, no hypothesis on the history but the alphabet -/
theorem C12R_history_inv (env : Env) (ops : List Op) (hn : ∀ o ∈ ops, NoFollowOp o) :
    Spec.Inv (run env Memfs.init ops) ∧ C03_KeysWf (run env Memfs.init ops) ∧
    C03_SortedKids (run env Memfs.init ops) ∧ C03_FlagsOk (run env Memfs.init ops) ∧
    RefineA.KeysWf (run env Memfs.init ops) ∧ RefineB.KeysWf (run env Memfs.init ops) ∧
    RefineA.EntriesOk (run env Memfs.init ops) ∧ RefineB.FlagsOk (run env Memfs.init ops) ∧
    RefineB.ModeOk (run env Memfs.init ops) :=
  C01R_rinv_facts (C12R_history_rinv env ops hn)

/-! ### c. the history theorems without the "returns" hypothesis -/

/-- C03: every state reached without following links is a well-formed tree (strong invariant) -/
theorem C12R_strong_reachable (env : Env) (ops : List Op) (hn : ∀ o ∈ ops, NoFollowOp o) :
    C03_Strong (run env Memfs.init ops) :=
  (C12R_history_rinv env ops hn).1

theorem C12R_inv_reachable (env : Env) (ops : List Op) (hn : ∀ o ∈ ops, NoFollowOp o) :
    Spec.Inv (run env Memfs.init ops) :=
  (C12R_history_rinv env ops hn).1.1

/-- **C01 along histories** (`C01_refines_history'` unconditionally): after ANY history `pre` that does
    not follow links, a call of one of the 43 refined operations outside the known-finding classes
    returns what the reference returns on the abstraction of the current state and leaves a state
    whose abstraction is the reference's post-state -/
theorem C12R_refines_history (env : Env) (pre : List Op) (op : Op)
    (hn : ∀ o ∈ pre, NoFollowOp o) (hR : Refined' op)
    (hc : classOf (run env Memfs.init pre) env op = "-") (hd : DepthDom' (run env Memfs.init pre) op)
    (r : R Val) (t' : T)
    (hs : specStep env (absS (run env Memfs.init pre)) op = some (r, t')) :
    RefineB.ResMatch (step env (run env Memfs.init pre) op).1 r ∧
      (r ≠ .unspecified → RefineB.TEquiv (absS (step env (run env Memfs.init pre) op).2) t') :=
  C01R_refines_step' env _ op (C12R_history_rinv env pre hn) hR hc hd r t' hs

/-- with the physical size bound (fewer than `usize::MAX` entries) in place of `DepthDom'` -/
theorem C12R_refines_history_small (env : Env) (pre : List Op) (op : Op)
    (hn : ∀ o ∈ pre, NoFollowOp o) (hR : Refined' op)
    (hc : classOf (run env Memfs.init pre) env op = "-")
    (hsmall : (run env Memfs.init pre).entries.length < 2 ^ 64 - 1) (r : R Val) (t' : T)
    (hs : specStep env (absS (run env Memfs.init pre)) op = some (r, t')) :
    RefineB.ResMatch (step env (run env Memfs.init pre) op).1 r ∧
      (r ≠ .unspecified → RefineB.TEquiv (absS (step env (run env Memfs.init pre) op).2) t') :=
  have hr := C12R_history_rinv env pre hn
  C01R_refines_step' env _ op hr hR hc (C01C_depthDom_of_small _ op hr hsmall) r t' hs

/-- along a run the reference answers, all side conditions of `C01S_step'` but class / depth hold by
    themselves: the operation is refined, does not follow links, and the call returns -/
theorem domRun_of_ref (env : Env) : ∀ (ops : List Op) (s : State) (t t₂ : T), SimInv s t →
    (∀ pre op post, ops = pre ++ op :: post →
      classOf (run env s pre) env op = "-" ∧ DepthDom' (run env s pre) op) →
    refRun env t ops = some t₂ → DomRun' env s ops := by
  intro ops
  induction ops with
  | nil => intro _ _ _ _ _ _; trivial
  | cons op ops ih =>
    intro s t t₂ h hc hr
    obtain ⟨r, t', hs, hne, hr'⟩ := refRun_cons hr
    have hsome : (specStep env t op).isSome = true := by rw [hs]; rfl
    have hN := C12R_covered_noFollow env t op hsome
    have hsd : StepDom' env s op :=
      ⟨⟨C12R_noFollow_good op hN, C01C_covers_reference env t op hsome⟩,
        (C12R_returns env s op h.1 hN).1, hc [] op ops rfl⟩
    exact ⟨hsd, ih _ t' t₂ ((C01S_step' env s t op h hsd r t' hs).2 hne)
      (fun pre o post he => hc (op :: pre) o post (by rw [he]; rfl)) hr'⟩

/-- **C01 as a simulation of one reference run, no hypothesis on the history** but the class / depth
    side conditions: whenever the reference, run ALONE from `absS Memfs.init`, answers every call of
    `ops` (so every call is one of the 43 refined operations and none follows links), its final state is
    the abstraction of the final Memfs state.  Every Memfs call returns — proved, not assumed. -/
theorem C12R_simulates_history_final (env : Env) (ops : List Op)
    (hdom : ∀ pre op post, ops = pre ++ op :: post →
      classOf (run env Memfs.init pre) env op = "-" ∧ DepthDom' (run env Memfs.init pre) op)
    (t : T) (hr : refRun env (absS Memfs.init) ops = some t) :
    RefineB.TEquiv (absS (run env Memfs.init ops)) t ∧ NodupK t ∧ Returns env Memfs.init ops := by
  have hd := domRun_of_ref env ops _ _ t C01S_simInv_init hdom hr
  have h := C01S_run' env ops _ _ t C01S_simInv_init hd hr
  refine ⟨h.2.1, h.2.2, ?_⟩
  intro pre op post he
  exact (stepDom_of_domRun' env pre _ op post (he ▸ hd)).2.1

/-- **trace form**: the list of outcomes of the Memfs run matches, position by position, the list of
    answers of the reference run alone — for EVERY history the reference answers, outside the
    known-finding classes -/
theorem C12R_simulates_trace (env : Env) (ops : List Op)
    (hdom : ∀ pre op post, ops = pre ++ op :: post →
      classOf (run env Memfs.init pre) env op = "-" ∧ DepthDom' (run env Memfs.init pre) op)
    (rs : List (R Val)) (hr : refOuts env (absS Memfs.init) ops = some rs) :
    TraceMatch (memOuts env Memfs.init ops) rs := by
  obtain ⟨t₂, ht₂⟩ := refRun_of_refOuts env ops _ rs hr
  exact C01S_trace' env ops _ _ rs C01S_simInv_init
    (domRun_of_ref env ops _ _ t₂ C01S_simInv_init hdom ht₂) hr

/-- with the physical size bound in place of `DepthDom'` -/
theorem C12R_simulates_trace_small (env : Env) (ops : List Op)
    (hdom : ∀ pre op post, ops = pre ++ op :: post →
      classOf (run env Memfs.init pre) env op = "-" ∧ (run env Memfs.init pre).entries.length < 2 ^ 64 - 1)
    (hn : ∀ o ∈ ops, NoFollowOp o)
    (rs : List (R Val)) (hr : refOuts env (absS Memfs.init) ops = some rs) :
    TraceMatch (memOuts env Memfs.init ops) rs := by
  refine C12R_simulates_trace env ops (fun pre op post he => ⟨(hdom pre op post he).1, ?_⟩) rs hr
  have hrinv := C12R_history_rinv env pre (fun o ho => hn o (by rw [he]; exact List.mem_append_left _ ho))
  exact C01C_depthDom_of_small _ op hrinv (hdom pre op post he).2

/-- C06R: tree copy keeps / produces the contents, on every state reached without following links -/
theorem C12R_copy_tree_content_reachable (env₀ : Env) (ops : List Op) (hn : ∀ o ∈ ops, NoFollowOp o)
    {env : Env} {a b : Str} {c : CopyOpts} {s' : State} {sk dk : FsPath} {v : Val}
    (hsmall : (run env₀ Memfs.init ops).entries.length < 2 ^ 64 - 1)
    (hfollow : c.follow = false)
    (ha : absM env a (run env₀ Memfs.init ops) = (.ok sk, run env₀ Memfs.init ops))
    (hb : absM env b (run env₀ Memfs.init ops) = (.ok dk, run env₀ Memfs.init ops))
    (h1 : ¬ sk <+: copyDst (run env₀ Memfs.init ops) sk dk)
    (h2 : ¬ copyDst (run env₀ Memfs.init ops) sk dk <+: sk)
    (hc : step env (run env₀ Memfs.init ops) (.copyB a b c) = (.ok v, s')) :
    (∀ r e, alLookup (sk ++ r) (run env₀ Memfs.init ops).entries = some e → e.file = true →
      e.link = false →
      CT.content s' (copyDst (run env₀ Memfs.init ops) sk dk ++ r) =
        CT.content (run env₀ Memfs.init ops) (sk ++ r)) ∧
    (∀ r, CT.content s' (sk ++ r) = CT.content (run env₀ Memfs.init ops) (sk ++ r)) ∧
    (∀ q, (∀ r, q ≠ copyDst (run env₀ Memfs.init ops) sk dk ++ r) →
      CT.content s' q = CT.content (run env₀ Memfs.init ops) q) :=
  C06R_copy_tree_content_reachable env₀ ops (fun o ho => C12R_noFollow_good o (hn o ho))
    (C12R_history_returns env₀ ops hn) hsmall hfollow ha hb h1 h2 hc

theorem C12R_move_tree_content_reachable (env₀ : Env) (ops : List Op) (hn : ∀ o ∈ ops, NoFollowOp o)
    {env : Env} {a b : Str} {s' : State} {sk dk : FsPath} {v : Val}
    (ha : absM env a (run env₀ Memfs.init ops) = (.ok sk, run env₀ Memfs.init ops))
    (hb : absM env b (run env₀ Memfs.init ops) = (.ok dk, run env₀ Memfs.init ops))
    (hm : step env (run env₀ Memfs.init ops) (.moveP a b) = (.ok v, s')) :
    (moveDst (run env₀ Memfs.init ops) sk dk = sk ∧ s' = run env₀ Memfs.init ops) ∨
     ((∀ r, CT.content s' (moveDst (run env₀ Memfs.init ops) sk dk ++ r) =
        CT.content (run env₀ Memfs.init ops) (sk ++ r)) ∧
      (∀ r, CT.content s' (sk ++ r) = none) ∧
      (∀ k, (∀ r, k ≠ sk ++ r) → (∀ r, k ≠ moveDst (run env₀ Memfs.init ops) sk dk ++ r) →
        CT.content s' k = CT.content (run env₀ Memfs.init ops) k)) :=
  C06R_move_tree_content_reachable env₀ ops (fun o ho => C12R_noFollow_good o (hn o ho))
    (C12R_history_returns env₀ ops hn) ha hb hm

/-- C08S: the snapshot (`_clone_entries`) is correct on every state reached without following links -/
theorem C12R_snapshot_correct_reachable (env : Env) (ops : List Op) (hn : ∀ o ∈ ops, NoFollowOp o)
    (a : FsPath) (rootE : Entry) (hroot : alLookup a (run env Memfs.init ops).entries = some rootE) :
    ∃ snap, entriesOf (run env Memfs.init ops) a = .ok (rootE, snap) ∧ SnapWf snap ∧ InSnap snap rootE ∧
      SnapOf (run env Memfs.init ops) a snap :=
  snapshot_correct_reachable env ops (C12R_history_returns env ops hn) a rootE hroot

/-- C08: the listing helpers return exactly the entries below the directory, sorted, on every state
    reached without following links -/
theorem C12R_listing_helpers_reachable (env₀ : Env) (ops : List Op) (hn : ∀ o ∈ ops, NoFollowOp o)
    (env : Env) (path : Str) (maxDepth : Option Nat) (dirs files : Bool) (a : FsPath)
    (habs : absM env path (run env₀ Memfs.init ops) = (.ok a, run env₀ Memfs.init ops))
    (hdir : isDirP (run env₀ Memfs.init ops) a = true) :
    ∃ ps, listing env path maxDepth dirs files (run env₀ Memfs.init ops) = (.ok ps, run env₀ Memfs.init ops) ∧
      ps.Pairwise (fun p q => pathLt p q = true) ∧ ps.Nodup ∧ a ∉ ps ∧
      ∀ p, p ∈ ps ↔ ∃ t e, p = a ++ t ∧ t ≠ [] ∧ t.length ≤ depthCap maxDepth ∧
        alLookup p (run env₀ Memfs.init ops).entries = some e ∧ (files = true → e.file = true ∧ e.link = false) ∧
        (dirs = true → files = false → e.dir = true ∧ e.link = false) :=
  C08_listing_helpers_reachable env₀ ops (C12R_history_returns env₀ ops hn) env path maxDepth dirs files a
    habs hdir

/-- C08: on every state reached without following links, the listed paths are exactly the paths strictly
    below the directory (within the depth limit) that exist and satisfy `is_file` (`files` / `all_files`),
    `is_dir` (`dirs` / `all_dirs`) — whatever links lie below -/
theorem C12R_listing_agrees_with_queries_reachable (env₀ : Env) (ops : List Op) (hn : ∀ o ∈ ops, NoFollowOp o)
    (env : Env) (path : Str) (maxDepth : Option Nat) (dirs files : Bool) (a : FsPath) (ps : List FsPath)
    (habs : absM env path (run env₀ Memfs.init ops) = (.ok a, run env₀ Memfs.init ops))
    (hdir : isDirP (run env₀ Memfs.init ops) a = true)
    (hl : listing env path maxDepth dirs files (run env₀ Memfs.init ops) = (.ok ps, run env₀ Memfs.init ops)) :
    ∀ p, p ∈ ps ↔ ∃ t e, p = a ++ t ∧ t ≠ [] ∧ t.length ≤ depthCap maxDepth ∧
      alLookup p (run env₀ Memfs.init ops).entries = some e ∧
      (files = true → (e.file && !e.link) = true) ∧
      (dirs = true → files = false → isDirP (run env₀ Memfs.init ops) p = true) :=
  C08_listing_agrees_with_queries_reachable env₀ ops (C12R_history_returns env₀ ops hn) env path maxDepth
    dirs files a ps habs hdir hl

/-- C09: tree copy is the reference's `copySpec` on every state reached without following links -/
theorem C12R_copy_tree_reachable (env₀ : Env) (ops : List Op) (hn : ∀ o ∈ ops, NoFollowOp o)
    {env : Env} {a b : Str} {c : CopyOpts} {sk dk : FsPath} {rootE : Entry}
    (hd : DepthOk (run env₀ Memfs.init ops)) (ctx : TreeCtx (run env₀ Memfs.init ops) sk dk c)
    (ha : absM env a (run env₀ Memfs.init ops) = (.ok sk, run env₀ Memfs.init ops))
    (hb : absM env b (run env₀ Memfs.init ops) = (.ok dk, run env₀ Memfs.init ops)) (hne : sk ≠ dk)
    (hsrc : alLookup sk (run env₀ Memfs.init ops).entries = some rootE) :
    ∃ s', step env (run env₀ Memfs.init ops) (.copyB a b c) = (.ok .unit, s') ∧
      (copySpec (absS (run env₀ Memfs.init ops)) sk dk c.mode c.cdirs c.cfiles).1 = .ok () ∧
      TEquiv (absS s') (copySpec (absS (run env₀ Memfs.init ops)) sk dk c.mode c.cdirs c.cfiles).2 :=
  C09_copy_tree_reachable env₀ ops (C12R_history_returns env₀ ops hn) hd ctx ha hb hne hsrc

/-! ### d. non-vacuity -/

namespace C12RWitness
open C01RWitness (S)
/-- 11 calls with every fuelled loop of the model: `mkfile_m`, a `move_p` of a directory tree holding a
    link, a tree `copy`, recursive `chmod_b` / `chown`, a contents-first sorted traversal, a recursive
    listing, `remove_all` of a tree -/
def hist4 : List Op :=
  [.mkdirP (S "/a/b"), .mkfileM (S "/a/b/f") 0o600, .symlink (S "/a/l") (S "/a/b"), .mkdirP (S "/d"),
   .moveP (S "/a") (S "/d"), .copy (S "/d/a") (S "/c"), .chmodB (S "/c") { dirs := 0o750, files := 0o640 },
   .chown (S "/c") 5 6, .entries (S "/") { contentsFirst := true, order := 's' }, .allPaths (S "/c"),
   .removeAll (S "/d")]
def isOk : Outcome Val → Bool | .ok _ => true | _ => false
end C12RWitness
open C12RWitness C01RWitness C01CWitness

/-- the alphabet hypothesis holds of `hist4`; the boundary: the `follow` forms are outside -/
theorem C12R_hist4_alphabet : (∀ o ∈ hist4, NoFollowOp o) ∧
    ¬ NoFollowOp (.entries (S "/") { follow := true }) ∧ ¬ NoFollowOp (.copyB (S "/a") (S "/b") { follow := true }) ∧
    ¬ NoFollowOp (.chmodB (S "/a") { follow := true }) ∧ ¬ NoFollowOp (.chownB (S "/a") { follow := true }) := by
  decide

/-- the conclusions, instantiated — for EVERY environment, without evaluating anything -/
example (env : Env) : Returns env Memfs.init hist4 ∧ RInv (run env Memfs.init hist4) ∧
    Reached (run env Memfs.init hist4) :=
  ⟨C12R_history_returns env hist4 C12R_hist4_alphabet.1, C12R_history_rinv env hist4 C12R_hist4_alphabet.1,
    C12R_history_reached env hist4 C12R_hist4_alphabet.1⟩

/-- (test) the history is not a sequence of failing calls: with the empty environment all 11 calls
    succeed and leave the copied, re-moded, re-owned tree `/c` -/
theorem C12R_hist4_runs : (memOuts env0 Memfs.init hist4).all isOk = true ∧
    (run env0 Memfs.init hist4).entries.map (fun kv => (kv.1, kv.2.mode, kv.2.uid, kv.2.link)) =
      [([], 0o40755, 1000, false), ([S "c"], 0o40750, 5, false), ([S "c", S "b"], 0o40750, 5, false),
       ([S "c", S "b", S "f"], 0o100640, 5, false), ([S "c", S "l"], 0o120777, 5, true)] := by
  decide +kernel

/-- `C12R_simulates_trace` applies to `hist3` of Props/C01C (15 calls, 11 of group C) with the class /
    depth facts alone: neither the alphabet nor "every call returns" is supplied -/
example : ∃ rs, refOuts env0 (absS Memfs.init) hist3 = some rs ∧ TraceMatch (memOuts env0 Memfs.init hist3) rs := by
  cases h : refOuts env0 (absS Memfs.init) hist3 with
  | none => have := C01C_hist3_outs.1; rw [h] at this; cases this
  | some rs => exact ⟨rs, rfl, C12R_simulates_trace env0 hist3 C01C_hist3_hyps.2.2 rs h⟩

-- OPEN (not proved):
--   * the calls OUTSIDE `NoFollowOp` (`entries` / `chmod_b` / `chown_b` / `copy_b` with `follow = true`): no
--     unconditional "returns" theorem, and none is expected in the MODEL — with `follow` a directory
--     reachable through k levels of two links each is visited 2^k times, which exceeds the model's fuel
--     `travFuel = 64 (n+2)^2` for k ≈ 20 (Props/C12, end of file: checked with `#eval` only, 262144 loop
--     iterations are out of reach of the kernel, so `¬ (∀ op, RInv s → … ≠ .hang)` is NOT a theorem
--     here).  Props/C08F proves their termination under the computable bound
--     `fuelNeed snap opts rootE ≤ travFuel snap`.  `copy_b(..).follow(true)` moreover leaves `RInv`
--     (`C01R_copy_follow_breaks_keysW`), so it cannot occur in the histories of this file at all, while
--     the other three `follow` forms keep `RInv` (C01R table) and could be admitted in the prefix under
--     the per-call hypothesis "this call returns" (that is `C01R_good_run` as it stands).
--   * `DepthDom'` (no key `usize::MAX` components deep) stays a per-step side condition of the refinement
--     corollaries (or the size bound of the `_small` forms); it is irrelevant for termination.

end Rivia.Props
