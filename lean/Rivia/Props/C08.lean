/-
  C08 — traversal yields exactly the selected entries, once, in order, and terminates.
  Property theorems ONLY (helper lemmas live in Rivia/Lemmas/Walk.lean and WalkCF.lean); links are not followed
  (`follow = false`) throughout.

  Spec: `Spec.entriesSpec snap o rootE` (Rivia/Spec/Walk.lean), the plain recursive walk.
  Model: `collectEntries snap o rootE`, the iterator stack machine run to exhaustion.

  Hypotheses used below
  * `SnapWf snap`        (decidable) every entry reports its key, child names strictly sorted,
                         listed children present;
  * `InSnap snap rootE`  the root entry is the snapshot's entry at its own path (`entriesOf`);
  * `KindOk o`           not both `dirs` and `files` (the builder calls are exclusive);
  * `OrdOk o`            `dirs_first`/`files_first` only with `sort_by_name` (the builder sets
                         them together).
-/
import Rivia.Lemmas.Walk
import Rivia.Lemmas.WalkCF

namespace Rivia.Props
open Rivia Rivia.Memfs Rivia.Spec
open Rivia.Spec.TreeFs (pathLt)
open Rivia.Lemmas.WalkCF (ExactDom2 ExactDom3 FlagsExcl FlagsOkFor)

/-! ### small concrete snapshots used as witnesses -/

namespace C08w
def rootB : Entry := { mkDirEntry [] none with files := some [['f']] }
def fileB : Entry := mkFileEntry [['f']]
/-- `/` with one file `/f` -/
def snapB : Snap := [([], rootB), ([['f']], fileB)]
def oB : Opts := { files := true, contentsFirst := true, sorted := true }

def rootM : Entry := { mkDirEntry [] none with files := some [['a'], ['b']] }
def dirA : Entry := mkDirEntry [['a']] none
def fileM : Entry := mkFileEntry [['b']]
/-- `/` with an empty directory `/a` and a file `/b` -/
def snapM : Snap := [([], rootM), ([['a']], dirA), ([['b']], fileM)]
def oM : Opts := { minDepth := 1, contentsFirst := true, sorted := true }

/-- an entry with BOTH kind flags (no constructor of the implementation builds one) -/
def dirX : Entry := { mkDirEntry [['a']] none with file := true }
def rootX : Entry := { mkDirEntry [] none with files := some [['a'], ['g']] }
def fileX : Entry := mkFileEntry [['g']]
/-- `/` with `/a` (directory AND file flag) and a file `/g` -/
def snapX : Snap := [([], rootX), ([['a']], dirX), ([['g']], fileX)]
def oX : Opts := { files := true, contentsFirst := true }
end C08w
open C08w

/-! ### a. the stack machine equals the recursive walk, on three nested option domains

  `ExactDom3 o` (decidable, Lemmas/WalkCF.lean) = `follow = false ∧ OrdOk o ∧ KindOk o`: no
  restriction on `contents_first` or the depth window. `ExactDom2 o` (Lemmas/WalkCF.lean) has
  `contents_first` only with `min_depth = 0`, `ExactDom o` (Spec/Walk.lean) only without kind
  filter as well. `FlagsOkFor snap o` (decidable) = with `files().contents_first()` no snapshot
  entry carries both kind flags: a side condition of the statements on `ExactDom2` that no proof
  needs (`C08_flags_excl_not_needed`). -/

/-- the full statement: for every option combination the machine yields the walk -/
def C08_full : Prop :=
  ∀ (snap : Snap) (o : Opts) (rootE : Entry), SnapWf snap → InSnap snap rootE → o.follow = false →
    o.sorted = true → KindOk o → collectEntries snap o rootE = .ok (entriesSpec snap o rootE)

/-- Central theorem: for every option combination with exclusive kind filters and grouping only
    together with a sort — any depth window, `dirs_first`/`files_first`, `contents_first`, ANY
    descriptor cap `maxDesc` — iteration terminates (`travFuel` suffices) and yields exactly the
    recursive walk. -/
theorem C08_exact3 (snap : Snap) (o : Opts) (rootE : Entry)
    (hwf : SnapWf snap) (hroot : InSnap snap rootE) (hdom : ExactDom3 o) :
    collectEntries snap o rootE = .ok (entriesSpec snap o rootE) :=
  Lemmas.WalkCF.collectEntries_exact3 hwf hdom hroot

/-- after both repairs the full statement HOLDS: for every option combination (sorted, exclusive
    kind filters, any depth window, `dirs_first`/`files_first`, `contents_first`, any cap) the
    machine yields the walk -/
theorem C08_full_holds : C08_full :=
  fun snap o rootE hwf hroot hfol hsorted hk => C08_exact3 snap o rootE hwf hroot ⟨hfol, Or.inl hsorted, hk⟩

theorem C08_exactDom2_sub (o : Opts) (hdom : ExactDom2 o) : ExactDom3 o := Lemmas.WalkCF.ExactDom2.to3 hdom

/-- `ExactDom2` contains `ExactDom` (where `FlagsOkFor` holds trivially) -/
theorem C08_exactDom_sub (snap : Snap) (o : Opts) (hdom : ExactDom o) : ExactDom2 o ∧ FlagsOkFor snap o := by
  refine ⟨Lemmas.WalkCF.ExactDom.to2 hdom, ?_⟩
  intro hcf hf
  obtain ⟨_, _, h | h⟩ := hdom
  · rw [h.1] at hcf; cases hcf
  · rw [h.2.2.1] at hf; cases hf

set_option linter.unusedVariables false in
theorem C08_exact2 (snap : Snap) (o : Opts) (rootE : Entry)
    (hwf : SnapWf snap) (hroot : InSnap snap rootE) (hdom : ExactDom2 o) (hx : FlagsOkFor snap o) :
    collectEntries snap o rootE = .ok (entriesSpec snap o rootE) :=
  C08_exact3 snap o rootE hwf hroot hdom.to3

theorem C08_exact (snap : Snap) (o : Opts) (rootE : Entry)
    (hwf : SnapWf snap) (hroot : InSnap snap rootE) (hdom : ExactDom o) :
    collectEntries snap o rootE = .ok (entriesSpec snap o rootE) :=
  C08_exact3 snap o rootE hwf hroot (Lemmas.WalkCF.ExactDom.to3 hdom)

/-- non-vacuity: the hypotheses hold of a concrete snapshot; both parts of `ExactDom` are inhabited -/
example : SnapWf C08w.snapM ∧ InSnap C08w.snapM C08w.rootM ∧
    ExactDom { sorted := true, dirsFirst := true, files := true, minDepth := 1, maxDepth := 3, maxDesc := 0 } ∧
    ExactDom { sorted := true, contentsFirst := true, maxDepth := 2 } := by decide

/-- non-vacuity: `ExactDom2` contains `contents_first` with a filter, the side condition holds of
    the witnesses (and fails only for the artificial `snapX`) -/
example : ExactDom2 { sorted := true, contentsFirst := true, files := true, maxDepth := 2 } ∧
    ExactDom2 { sorted := true, dirsFirst := true, contentsFirst := true, dirs := true } ∧
    ¬ ExactDom { sorted := true, contentsFirst := true, files := true, maxDepth := 2 } ∧
    FlagsExcl C08w.snapM ∧ FlagsExcl C08w.snapB ∧ FlagsOkFor C08w.snapM C08w.oB := by decide

/-- non-vacuity: `ExactDom3` contains `contents_first` with `min_depth` and a filter -/
example : ExactDom3 { sorted := true, contentsFirst := true, files := true, minDepth := 2, maxDepth := 5 } ∧
    ExactDom3 C08w.oM ∧ ¬ ExactDom2 C08w.oM ∧ ExactDom3 { contentsFirst := true, dirs := true, minDepth := 1 } := by
  decide

/-! ### b. the cases by option -/

/-- with `sort_by_name` and without `contents_first`, for all depth windows, both kind filters,
    `dirs_first`/`files_first` and ANY descriptor cap `maxDesc` -/
theorem C08_no_follow_exact_partial (snap : Snap) (o : Opts) (rootE : Entry)
    (hwf : SnapWf snap) (hroot : InSnap snap rootE) (hfol : o.follow = false)
    (hsorted : o.sorted = true) (hcf : o.contentsFirst = false) (hk : KindOk o) :
    collectEntries snap o rootE = .ok (entriesSpec snap o rootE) :=
  C08_exact snap o rootE hwf hroot ⟨hfol, Or.inl hsorted, Or.inl ⟨hcf, hk⟩⟩

/-- model-level remark: without `sort_by_name` (and without grouping flags) the model yields the
    walk in the order the snapshot stores the names (its stand-in for the `HashSet` order) -/
theorem C08_no_follow_exact_unsorted (snap : Snap) (o : Opts) (rootE : Entry)
    (hwf : SnapWf snap) (hroot : InSnap snap rootE) (hfol : o.follow = false)
    (hcf : o.contentsFirst = false) (hord : OrdOk o) (hk : KindOk o) :
    collectEntries snap o rootE = .ok (entriesSpec snap o rootE) :=
  C08_exact snap o rootE hwf hroot ⟨hfol, hord, Or.inl ⟨hcf, hk⟩⟩

/-- the conclusion on a concrete snapshot (`/`, `/a/`, `/b`), and the spec's fuel is immaterial:
    any larger amount gives the same walk -/
example : collectEntries snapM { sorted := true } rootM = .ok [rootM, dirA, fileM] := by decide

theorem C08_spec_fuel_independent (snap : Snap) (o : Opts) (rootE : Entry) (k : Nat)
    (hwf : SnapWf snap) (hroot : InSnap snap rootE) (hk : snap.length < k) :
    walk snap o k rootE 0 = entriesSpec snap o rootE :=
  Lemmas.Walk.walk_fuel_irrel hwf o _ _ rootE 0 hroot
    (Nat.lt_of_le_of_lt (Lemmas.Walk.pot_le _ _) hk) (Nat.lt_succ_of_le (Lemmas.Walk.pot_le _ _))

/-- the boundary of `KindOk`: with both kind flags set (no builder call sequence does that) the
    implementation only applies `files`, the conjunction of the two filters selects nothing -/
example : collectEntries C08w.snapB { dirs := true, files := true } C08w.rootB = .ok [C08w.fileB] ∧
    entriesSpec C08w.snapB { dirs := true, files := true } C08w.rootB = [] := by decide

/-- the result does not depend on the descriptor cap -/
theorem C08_max_desc_irrelevant (snap : Snap) (o : Opts) (rootE : Entry) (m : Nat)
    (hwf : SnapWf snap) (hroot : InSnap snap rootE) (hfol : o.follow = false)
    (hcf : o.contentsFirst = false) (hord : OrdOk o) (hk : KindOk o) :
    collectEntries snap { o with maxDesc := m } rootE = collectEntries snap o rootE := by
  rw [C08_exact snap o rootE hwf hroot ⟨hfol, hord, Or.inl ⟨hcf, hk⟩⟩,
    C08_exact snap { o with maxDesc := m } rootE hwf hroot ⟨hfol, hord, Or.inl ⟨hcf, hk⟩⟩]
  exact congrArg Outcome.ok (Lemmas.Walk.walk_maxDesc snap o m _ rootE 0)

/-- with `contents_first`, no kind filter and `min_depth = 0` (any `max_depth`, ordering, cap) the
    machine yields the post-order walk: every directory after its contents -/
theorem C08_contents_first_partial (snap : Snap) (o : Opts) (rootE : Entry)
    (hwf : SnapWf snap) (hroot : InSnap snap rootE) (hfol : o.follow = false)
    (hcf : o.contentsFirst = true) (_hmin : o.minDepth = 0) (hfiles : o.files = false) (_hdirs : o.dirs = false)
    (hord : OrdOk o) :
    collectEntries snap o rootE = .ok (entriesSpec snap o rootE) :=
  C08_exact snap o rootE hwf hroot ⟨hfol, hord, Or.inr ⟨hcf, _hmin, hfiles, _hdirs⟩⟩

/-- STRENGTHENED (after the repair): `contents_first` WITH a kind filter — `dirs()` or `files()`,
    `min_depth = 0`, any `max_depth`, ordering, cap — yields the post-order walk restricted to the
    selected entries. The condition on `files()` (no entry carries both kind flags, `FlagsExcl`,
    decidable) is not needed, see `C08_flags_excl_not_needed` -/
theorem C08_contents_first_filter_partial (snap : Snap) (o : Opts) (rootE : Entry)
    (hwf : SnapWf snap) (hroot : InSnap snap rootE) (hfol : o.follow = false)
    (hcf : o.contentsFirst = true) (hmin : o.minDepth = 0) (hk : KindOk o) (hord : OrdOk o)
    (hx : o.files = true → FlagsExcl snap) :
    collectEntries snap o rootE = .ok (entriesSpec snap o rootE) :=
  C08_exact2 snap o rootE hwf hroot ⟨hfol, hord, Or.inr ⟨hcf, hmin, hk⟩⟩ (fun _ => hx)

/-- with `dirs().contents_first()` no side condition is needed -/
theorem C08_contents_first_dirs_partial (snap : Snap) (o : Opts) (rootE : Entry)
    (hwf : SnapWf snap) (hroot : InSnap snap rootE) (hfol : o.follow = false)
    (hcf : o.contentsFirst = true) (_hmin : o.minDepth = 0) (hfiles : o.files = false) (hord : OrdOk o) :
    collectEntries snap o rootE = .ok (entriesSpec snap o rootE) :=
  C08_exact2 snap o rootE hwf hroot ⟨hfol, hord, Or.inr ⟨hcf, _hmin, by unfold KindOk; simp [hfiles]⟩⟩
    (fun _ hf => by rw [hfiles] at hf; cases hf)

set_option linter.unusedVariables false in
/-- STRENGTHENED (after the second repair): `contents_first` with ANY depth window and any
    exclusive kind filter, no side condition -/
theorem C08_contents_first_all_partial (snap : Snap) (o : Opts) (rootE : Entry)
    (hwf : SnapWf snap) (hroot : InSnap snap rootE) (hfol : o.follow = false)
    (hcf : o.contentsFirst = true) (hk : KindOk o) (hord : OrdOk o) :
    collectEntries snap o rootE = .ok (entriesSpec snap o rootE) :=
  C08_exact3 snap o rootE hwf hroot ⟨hfol, hord, hk⟩

/-! ### c. `contents_first` with a kind filter and with `min_depth`: both findings repaired -/

/-- REPAIRED (was the finding `contents_first_ignores_filter`: deferred directories bypassed the
    kind filter, the traversal below yielded `[/f, /]`). `process` now filters before it defers;
    on the former witness — `entries("/").files().contents_first()` over `/`, `/f` — the
    directory `/` is no longer yielded, and the result is what the spec says -/
theorem C08_repaired_contents_first_filter_witness :
    SnapWf snapB ∧ InSnap snapB rootB ∧ rootB.file = false ∧
    collectEntries snapB oB rootB = .ok [fileB] ∧ entriesSpec snapB oB rootB = [fileB] := by
  have h2 : collectEntries snapB oB rootB = .ok [fileB] := by decide
  refine ⟨by decide, by decide, by decide, h2, ?_⟩
  have h := C08_exact3 snapB oB rootB (by decide) (by decide) (by decide)
  rw [h2] at h
  exact (Outcome.ok.inj h).symm

/-- REPAIRED (was the finding `contents_first_min_depth_order`: with `min_depth(1).contents_first()`
    over `/`, `/a/`, `/b` the directory `/a` was yielded AFTER its later sibling `/b`, because a
    deferred directory was only released when the stack was lower than the deferred list). The
    deferred stack now records the depth a directory was found at, and the directory is released as
    soon as the stack of open directories is back at that depth; on the former witness the
    traversal yields what the spec says, `/a` before `/b` -/
theorem C08_repaired_contents_first_min_depth_witness :
    SnapWf snapM ∧ InSnap snapM rootM ∧
    collectEntries snapM oM rootM = .ok [dirA, fileM] ∧ entriesSpec snapM oM rootM = [dirA, fileM] := by
  have h2 : collectEntries snapM oM rootM = .ok [dirA, fileM] := by decide
  refine ⟨by decide, by decide, h2, ?_⟩
  have h := C08_exact3 snapM oM rootM (by decide) (by decide) (by decide)
  rw [h2] at h
  exact (Outcome.ok.inj h).symm

/-- model-level remark: since the second repair the side condition `FlagsExcl` (no entry carries
    both kind flags) is NOT needed any more. On `snapX` (`/a` flagged directory AND file) the first
    repair alone still yielded `[/g, /a]` for `files().contents_first()`; with the depth-tagged
    deferred stack `/a` is released as soon as its (empty) contents are done -/
theorem C08_flags_excl_not_needed :
    SnapWf snapX ∧ InSnap snapX rootX ∧ ¬ FlagsExcl snapX ∧
    collectEntries snapX oX rootX = .ok [dirX, fileX] ∧ entriesSpec snapX oX rootX = [dirX, fileX] := by
  decide

/-! ### f. every option combination -/

/-- for EVERY option combination (kind filters, depth window, ordering, `contents_first`, cap)
    the traversal of a well-formed snapshot ends — never `.hang` — and without an error (it yields
    the walk with the options the machine effectively applies, `Lemmas.Walk.collectEntries_eff`) -/
theorem C08_terminates_no_follow (snap : Snap) (o : Opts) (rootE : Entry)
    (hwf : SnapWf snap) (hroot : InSnap snap rootE) (hfol : o.follow = false) :
    ∃ es, collectEntries snap o rootE = .ok es :=
  ⟨_, Lemmas.Walk.collectEntries_eff hwf hfol hroot⟩

theorem C08_never_hangs_no_follow (snap : Snap) (o : Opts) (rootE : Entry)
    (hwf : SnapWf snap) (hroot : InSnap snap rootE) (hfol : o.follow = false) :
    collectEntries snap o rootE ≠ .hang := by
  rw [Lemmas.Walk.collectEntries_eff hwf hfol hroot]; intro h'; cases h'

/-- for EVERY option combination (also outside `KindOk` / `OrdOk`): no path is yielded twice, and everything yielded is a
    snapshot entry at or below the root, not deeper than `max_depth` -/
theorem C08_each_once_all_options (snap : Snap) (o : Opts) (rootE : Entry) (es : List Entry)
    (hwf : SnapWf snap) (hroot : InSnap snap rootE) (hfol : o.follow = false)
    (h : collectEntries snap o rootE = .ok es) :
    (es.map (·.path)).Nodup ∧ ∀ y ∈ es, InSnap snap y ∧ rootE.path <+: y.path ∧
      (y = rootE ∨ y.path.length - rootE.path.length ≤ o.maxDepth) :=
  Lemmas.Walk.collectEntries_all hwf hfol hroot h

/-! ### d. corollaries on `ExactDom3`: what is yielded, once, in which order -/

/-- "exactly the entries the options denote": an entry is yielded iff it is a snapshot entry at
    `root ++ t`, reachable through real directories that list each next name (`Chain`), not
    deeper than `max_depth`, and selected by `min_depth` and the kind filter at its depth -/
theorem C08_membership3 (snap : Snap) (o : Opts) (rootE : Entry) (es : List Entry)
    (hwf : SnapWf snap) (hroot : InSnap snap rootE) (hdom : ExactDom3 o)
    (h : collectEntries snap o rootE = .ok es) (y : Entry) :
    y ∈ es ↔ InSnap snap y ∧ ∃ t, y.path = rootE.path ++ t ∧ (t = [] ∨ t.length ≤ o.maxDepth) ∧
      Chain snap rootE.path t ∧ selected o y t.length = true := by
  rw [Lemmas.WalkCF.es_eq_of_exact3 hwf hroot hdom h, entriesSpec,
    Lemmas.Walk.mem_walk_iff hwf o _ rootE 0 y hroot (Nat.lt_succ_of_le (Lemmas.Walk.pot_le _ _))]
  simp only [Nat.zero_add]

/-- each selected entry is yielded exactly once: no path occurs twice -/
theorem C08_each_once3 (snap : Snap) (o : Opts) (rootE : Entry) (es : List Entry)
    (hwf : SnapWf snap) (hroot : InSnap snap rootE) (hdom : ExactDom3 o)
    (h : collectEntries snap o rootE = .ok es) : (es.map (·.path)).Nodup := by
  rw [Lemmas.WalkCF.es_eq_of_exact3 hwf hroot hdom h]
  exact Lemmas.Walk.walk_nodup hwf o _ rootE 0 hroot

/-- every yielded entry passes the kind filter and lies in the depth window (and is a snapshot
    entry below the root); nothing a filter or the depth window rejects is yielded -/
theorem C08_filter_respected3 (snap : Snap) (o : Opts) (rootE : Entry) (es : List Entry)
    (hwf : SnapWf snap) (hroot : InSnap snap rootE) (hdom : ExactDom3 o)
    (h : collectEntries snap o rootE = .ok es) :
    ∀ y ∈ es, InSnap snap y ∧ rootE.path <+: y.path ∧
      (o.files = true → y.file = true) ∧ (o.dirs = true → y.dir = true) ∧
      o.minDepth ≤ y.path.length - rootE.path.length ∧
      (y = rootE ∨ y.path.length - rootE.path.length ≤ o.maxDepth) := by
  rw [Lemmas.WalkCF.es_eq_of_exact3 hwf hroot hdom h]
  exact Lemmas.Walk.spec_filter_respected hwf o hroot

/-- with `contents_first` (any depth window, any filter) contents come before their parents: no
    entry is a proper ancestor of a later one -/
theorem C08_contents_before_parents3 (snap : Snap) (o : Opts) (rootE : Entry) (es : List Entry)
    (hwf : SnapWf snap) (hroot : InSnap snap rootE) (hdom : ExactDom3 o)
    (hcf : o.contentsFirst = true) (h : collectEntries snap o rootE = .ok es) :
    es.Pairwise (fun a b => ¬ (a.path <+: b.path ∧ a.path ≠ b.path)) := by
  rw [Lemmas.WalkCF.es_eq_of_exact3 hwf hroot hdom h]
  exact Lemmas.Walk.walk_contents_first hwf o hcf _ rootE 0 hroot

/-- siblings (entries `p ++ [n]`, `p ++ [n']` of the same directory) come in the order of
    `sibOrd`: with `dirs_first` no file before a directory, with `files_first` no directory
    before a file, by name inside a group and by name throughout without grouping -/
theorem C08_sorted_siblings3 (snap : Snap) (o : Opts) (rootE : Entry) (es : List Entry)
    (hwf : SnapWf snap) (hroot : InSnap snap rootE) (hdom : ExactDom3 o)
    (h : collectEntries snap o rootE = .ok es) :
    es.Pairwise (fun a b => ∀ p n n', a.path = p ++ [n] → b.path = p ++ [n'] → sibOrd o a b) := by
  rw [Lemmas.WalkCF.es_eq_of_exact3 hwf hroot hdom h]
  exact Lemmas.Walk.walk_siblings hwf o _ rootE 0 hroot

/-! ### d'. the same on `ExactDom2`, with the side condition `FlagsOkFor` that nothing needs -/

section
set_option linter.unusedVariables false

theorem C08_membership2 (snap : Snap) (o : Opts) (rootE : Entry) (es : List Entry)
    (hwf : SnapWf snap) (hroot : InSnap snap rootE) (hdom : ExactDom2 o) (hx : FlagsOkFor snap o)
    (h : collectEntries snap o rootE = .ok es) (y : Entry) :
    y ∈ es ↔ InSnap snap y ∧ ∃ t, y.path = rootE.path ++ t ∧ (t = [] ∨ t.length ≤ o.maxDepth) ∧
      Chain snap rootE.path t ∧ selected o y t.length = true :=
  C08_membership3 snap o rootE es hwf hroot hdom.to3 h y

theorem C08_each_once2 (snap : Snap) (o : Opts) (rootE : Entry) (es : List Entry)
    (hwf : SnapWf snap) (hroot : InSnap snap rootE) (hdom : ExactDom2 o) (hx : FlagsOkFor snap o)
    (h : collectEntries snap o rootE = .ok es) : (es.map (·.path)).Nodup :=
  C08_each_once3 snap o rootE es hwf hroot hdom.to3 h

/-- nothing a filter rejects is yielded — also with `contents_first` -/
theorem C08_filter_respected2 (snap : Snap) (o : Opts) (rootE : Entry) (es : List Entry)
    (hwf : SnapWf snap) (hroot : InSnap snap rootE) (hdom : ExactDom2 o) (hx : FlagsOkFor snap o)
    (h : collectEntries snap o rootE = .ok es) :
    ∀ y ∈ es, InSnap snap y ∧ rootE.path <+: y.path ∧
      (o.files = true → y.file = true) ∧ (o.dirs = true → y.dir = true) ∧
      o.minDepth ≤ y.path.length - rootE.path.length ∧
      (y = rootE ∨ y.path.length - rootE.path.length ≤ o.maxDepth) :=
  C08_filter_respected3 snap o rootE es hwf hroot hdom.to3 h

theorem C08_contents_before_parents2 (snap : Snap) (o : Opts) (rootE : Entry) (es : List Entry)
    (hwf : SnapWf snap) (hroot : InSnap snap rootE) (hdom : ExactDom2 o) (hx : FlagsOkFor snap o)
    (hcf : o.contentsFirst = true) (h : collectEntries snap o rootE = .ok es) :
    es.Pairwise (fun a b => ¬ (a.path <+: b.path ∧ a.path ≠ b.path)) :=
  C08_contents_before_parents3 snap o rootE es hwf hroot hdom.to3 hcf h

theorem C08_sorted_siblings2 (snap : Snap) (o : Opts) (rootE : Entry) (es : List Entry)
    (hwf : SnapWf snap) (hroot : InSnap snap rootE) (hdom : ExactDom2 o) (hx : FlagsOkFor snap o)
    (h : collectEntries snap o rootE = .ok es) :
    es.Pairwise (fun a b => ∀ p n n', a.path = p ++ [n] → b.path = p ++ [n'] → sibOrd o a b) :=
  C08_sorted_siblings3 snap o rootE es hwf hroot hdom.to3 h

end

/-! ### d''. the same on `ExactDom` -/

theorem C08_membership (snap : Snap) (o : Opts) (rootE : Entry) (es : List Entry)
    (hwf : SnapWf snap) (hroot : InSnap snap rootE) (hdom : ExactDom o)
    (h : collectEntries snap o rootE = .ok es) (y : Entry) :
    y ∈ es ↔ InSnap snap y ∧ ∃ t, y.path = rootE.path ++ t ∧ (t = [] ∨ t.length ≤ o.maxDepth) ∧
      Chain snap rootE.path t ∧ selected o y t.length = true :=
  C08_membership3 snap o rootE es hwf hroot (Lemmas.WalkCF.ExactDom.to3 hdom) h y

theorem C08_each_once (snap : Snap) (o : Opts) (rootE : Entry) (es : List Entry)
    (hwf : SnapWf snap) (hroot : InSnap snap rootE) (hdom : ExactDom o)
    (h : collectEntries snap o rootE = .ok es) : (es.map (·.path)).Nodup :=
  C08_each_once3 snap o rootE es hwf hroot (Lemmas.WalkCF.ExactDom.to3 hdom) h

theorem C08_filter_respected (snap : Snap) (o : Opts) (rootE : Entry) (es : List Entry)
    (hwf : SnapWf snap) (hroot : InSnap snap rootE) (hdom : ExactDom o)
    (h : collectEntries snap o rootE = .ok es) :
    ∀ y ∈ es, InSnap snap y ∧ rootE.path <+: y.path ∧
      (o.files = true → y.file = true) ∧ (o.dirs = true → y.dir = true) ∧
      o.minDepth ≤ y.path.length - rootE.path.length ∧
      (y = rootE ∨ y.path.length - rootE.path.length ≤ o.maxDepth) :=
  C08_filter_respected3 snap o rootE es hwf hroot (Lemmas.WalkCF.ExactDom.to3 hdom) h

/-- parents before their contents: no entry is a proper ancestor of an earlier one -/
theorem C08_parents_before_contents (snap : Snap) (o : Opts) (rootE : Entry) (es : List Entry)
    (hwf : SnapWf snap) (hroot : InSnap snap rootE) (hdom : ExactDom o) (hcf : o.contentsFirst = false)
    (h : collectEntries snap o rootE = .ok es) :
    es.Pairwise (fun a b => ¬ (b.path <+: a.path ∧ b.path ≠ a.path)) := by
  rw [Lemmas.WalkCF.es_eq_of_exact3 hwf hroot (Lemmas.WalkCF.ExactDom.to3 hdom) h]
  exact Lemmas.Walk.walk_parents_first hwf o hcf _ rootE 0 hroot

/-- with `contents_first` contents come before their parents: no entry is a proper ancestor of a
    later one -/
theorem C08_contents_before_parents (snap : Snap) (o : Opts) (rootE : Entry) (es : List Entry)
    (hwf : SnapWf snap) (hroot : InSnap snap rootE) (hdom : ExactDom o) (hcf : o.contentsFirst = true)
    (h : collectEntries snap o rootE = .ok es) :
    es.Pairwise (fun a b => ¬ (a.path <+: b.path ∧ a.path ≠ b.path)) :=
  C08_contents_before_parents3 snap o rootE es hwf hroot (Lemmas.WalkCF.ExactDom.to3 hdom) hcf h

theorem C08_sorted_siblings (snap : Snap) (o : Opts) (rootE : Entry) (es : List Entry)
    (hwf : SnapWf snap) (hroot : InSnap snap rootE) (hdom : ExactDom o)
    (h : collectEntries snap o rootE = .ok es) :
    es.Pairwise (fun a b => ∀ p n n', a.path = p ++ [n] → b.path = p ++ [n'] → sibOrd o a b) :=
  C08_sorted_siblings3 snap o rootE es hwf hroot (Lemmas.WalkCF.ExactDom.to3 hdom) h

/-- without grouping and `contents_first` the yielded paths are strictly increasing in the
    lexicographic order on component lists (`TreeFs.pathLt`; names compared byte-wise) -/
theorem C08_lexicographic_order (snap : Snap) (o : Opts) (rootE : Entry) (es : List Entry)
    (hwf : SnapWf snap) (hroot : InSnap snap rootE) (hdom : ExactDom o) (hcf : o.contentsFirst = false)
    (hdf : o.dirsFirst = false) (hff : o.filesFirst = false)
    (h : collectEntries snap o rootE = .ok es) :
    (es.map (·.path)).Pairwise (fun p q => pathLt p q = true) := by
  rw [Lemmas.WalkCF.es_eq_of_exact3 hwf hroot (Lemmas.WalkCF.ExactDom.to3 hdom) h]
  exact Lemmas.Walk.walk_lex hwf o hcf hdf hff _ rootE 0 hroot

/-! ### e. the listing helpers `paths`/`dirs`/`files` (`maxDepth = some 1`) and `all_*` (`none`)

  Stated over the state-level `listing`. Two facts about `_clone_entries` are taken as EXPLICIT
  (decidable) hypotheses instead of being derived from `Spec.Inv s`: `SnapWf snap` (in particular
  the sortedness of the child-name lists, which `Inv` does not record) and `SnapOf s a snap` (the
  snapshot agrees with the state on the keys at or below `a`). -/

theorem C08_listing_helpers (env : Env) (path : Str) (maxDepth : Option Nat) (dirs files : Bool)
    (s : State) (a : FsPath) (rootE : Entry) (snap : Snap)
    (hinv : Spec.Inv s) (habs : absM env path s = (.ok a, s)) (hdir : isDirP s a = true)
    (hent : entriesOf s a = .ok (rootE, snap)) (hwf : SnapWf snap) (hsnap : SnapOf s a snap) :
    ∃ ps, listing env path maxDepth dirs files s = (.ok ps, s) ∧
      -- in walk order, links skipped by `dirs` / `files` / `all_dirs` / `all_files` (not by
      -- `paths` / `all_paths`: both flags false) ...
      ps = ((entriesSpec snap (listingOpts maxDepth dirs files) rootE).filter
              (fun e => !((dirs || files) && e.link))).map (·.path) ∧
      -- ... which is the lexicographic order on component lists (name-sorted); distinct
      ps.Pairwise (fun p q => pathLt p q = true) ∧ ps.Nodup ∧
      -- the argument itself is excluded
      a ∉ ps ∧
      -- exactly the keys strictly below the directory, within the depth limit (depth 1 for
      -- `some 1`), whose entry is a real file (`file ∧ ¬link`) / a real directory (`dir ∧ ¬link`);
      -- all keys below for `paths` / `all_paths`; in particular they exist
      ∀ p, p ∈ ps ↔ ∃ t e, p = a ++ t ∧ t ≠ [] ∧ t.length ≤ depthCap maxDepth ∧
        alLookup p s.entries = some e ∧ (files = true → e.file = true ∧ e.link = false) ∧
        (dirs = true → files = false → e.dir = true ∧ e.link = false) :=
  Lemmas.Walk.listing_spec maxDepth dirs files hinv habs hdir hent hwf hsnap

/-- agreement with `exists` / `is_dir` / `is_file` (= entry present / `dir && !link` = `isDirP` /
    `file && !link`), in both directions and with NO hypothesis about links (the class
    `listing_includes_links` is repaired): the listed paths are exactly the paths strictly below the
    directory within the depth limit that exist and, for `files` / `all_files`, satisfy `is_file`, for
    `dirs` / `all_dirs` satisfy `is_dir` -/
theorem C08_listing_agrees_with_queries (env : Env) (path : Str) (maxDepth : Option Nat) (dirs files : Bool)
    (s : State) (a : FsPath) (rootE : Entry) (snap : Snap) (ps : List FsPath)
    (hinv : Spec.Inv s) (habs : absM env path s = (.ok a, s)) (hdir : isDirP s a = true)
    (hent : entriesOf s a = .ok (rootE, snap)) (hwf : SnapWf snap) (hsnap : SnapOf s a snap)
    (h : listing env path maxDepth dirs files s = (.ok ps, s)) :
    ∀ p, p ∈ ps ↔ ∃ t e, p = a ++ t ∧ t ≠ [] ∧ t.length ≤ depthCap maxDepth ∧
      alLookup p s.entries = some e ∧
      (files = true → (e.file && !e.link) = true) ∧ (dirs = true → files = false → isDirP s p = true) :=
  Lemmas.Walk.listing_agrees_iff maxDepth dirs files hinv habs hdir hent hwf hsnap h

namespace C08w
/-- `/`, `/a/`, `/a/b` -/
def sL : State :=
  { entries := [([], { mkDirEntry [] none with files := some [['a']] }),
                ([['a']], { mkDirEntry [['a']] none with files := some [['b']] }),
                ([['a'], ['b']], mkFileEntry [['a'], ['b']])],
    files := [([['a'], ['b']], [])], cwd := [], root := [], handles := [] }
end C08w

/-- non-vacuity of the hypotheses of e. (all but `absM`, which is the string pipeline of C05) -/
example : ∃ rootE snap, Spec.Inv sL ∧ isDirP sL [['a']] = true ∧ entriesOf sL [['a']] = .ok (rootE, snap) ∧
    SnapWf snap ∧ SnapOf sL [['a']] snap ∧ snap.length = 2 :=
  ⟨_, _, by decide, by decide, rfl, by decide, by decide, by decide⟩

/-
  Not in this file:
  * `SnapWf snap` and `SnapOf s a snap`, explicit decidable hypotheses of `C08_listing_helpers`, hold
    of the snapshot `_clone_entries` takes in every state of the global invariant: Props/C08S.lean
    (they are also checked by `#eval` on model-generated states with links in Rivia/Spec/WalkTest.lean);
  * `follow = true` (`LinkLooping` instead of endless descent): Spec/WalkFollow.lean, Props/C08F.lean.
  Outside `ExactDom3` there are only: both kind flags at once (`KindOk`; no builder call sequence
  sets both) and grouping flags without `sort_by_name` (`OrdOk`; the builder sets them together);
  there `C08_terminates_no_follow` and `C08_each_once_all_options` hold.
-/

end Rivia.Props
