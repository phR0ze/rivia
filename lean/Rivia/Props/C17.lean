/-
  C17 — "expand() substitutes ~ and environment variables exactly, in every environment".
  Property theorems ONLY (helper lemmas live in Rivia/Lemmas/Expand.lean; the specification,
  the grammar of a component and the domain predicates in Rivia/Spec/Expand.lean).

  Model: the REPAIRED scanner (`expandSeg` reads a variable name iff a '$' was consumed, so a
  component ending in a bare '$' has an empty variable name and fails).  The former finding
  "trailing '$' silently dropped" (`expand "a$" = "a"`) is gone: `C17_trailing_dollar_rejected`.

  Status
    full     : C17_no_special_identity, C17_tilde_only, C17_tilde_slash, the three tilde error
               theorems, C17_total, C17_scanner_fuel, C17_spec_errors (spec side, all inputs),
               C17_errors / C17_agree / C17_agree_sharp (every input the specification specifies:
               `DSpec` = no normal component is `Spec.Ambiguous`; no trailing-'$' exclusion any more)
    partial  : C17_vars_partial (domain `D`: every normal component well-formed, not Ambiguous;
               there code = specification literally, error kinds included)
    refuted  : C17_full (literal equality with `expandSpec` on ALL inputs) — only by inputs on
               which the property text demands nothing: the order of error kinds ("$a$$", not a
               violation) and the unspecified class `Ambiguous` ("${V")
    recorded : unbalanced braces (unspecified), order of error kinds inside one component
               (unspecified), absolute value replaces the path built so far (fixed by the
               repository's own test)
-/
import Rivia.Model.Path
import Rivia.Spec.Expand
import Rivia.Lemmas.Expand

namespace Rivia.Props
open Rivia Rivia.Spec Rivia.Str

/-! ### text without '~' and '$' -/

/-- text containing neither '~' nor '$' is returned unchanged, in every environment -/
theorem C17_no_special_identity (env : Env) (s : Str) (h1 : '~' ∉ s) (h2 : '$' ∉ s) :
    expand env s = .ok s :=
  Lemmas.Expand.expand_of_tilde_ok
    (Lemmas.Expand.tildeSpec_none env (List.count_eq_zero.mpr h1)) h2

/-! ### the tilde -/

/-- `~` alone is `$HOME` -/
theorem C17_tilde_only (env : Env) (h : Str) (hh : env "HOME".toList = some h) (hd : '$' ∉ h) :
    expand env ['~'] = .ok h :=
  Lemmas.Expand.expand_of_tilde_ok
    (by rw [Lemmas.Expand.tildeSpec_home, homeSpec, hh]) hd

/-- `~/rest` is `rest` below `$HOME` (`mash`: the components of `$HOME` followed by those of
    `rest`, C15) -/
theorem C17_tilde_slash (env : Env) (h rest : Str) (hh : env "HOME".toList = some h)
    (hd : '$' ∉ h) (ht : '~' ∉ rest) (hr : '$' ∉ rest) :
    expand env ('~' :: '/' :: rest) = .ok (mash h rest) :=
  Lemmas.Expand.expand_of_tilde_ok
    (by rw [Lemmas.Expand.tildeSpec_home_slash env ht, homeSpec, hh]; rfl)
    (Lemmas.Expand.dollar_not_mem_mash hd hr)

/-- more than one '~' fails -/
theorem C17_multiple_tilde_error (env : Env) (s : Str) (h : 2 ≤ s.count '~') :
    expand env s = .err .multipleHomeSymbols :=
  Lemmas.Expand.expand_of_tilde_err (Lemmas.Expand.tildeSpec_multiple env h)

/-- a single '~' that is not the whole string and not followed by a separator fails -/
theorem C17_misplaced_tilde_error (env : Env) (s : Str) (h1 : s.count '~' = 1)
    (h : ¬ (s = ['~'] ∨ ['~', '/'] <+: s)) : expand env s = .err .invalidExpansion :=
  Lemmas.Expand.expand_of_tilde_err (Lemmas.Expand.tildeSpec_misplaced env h1 h)

/-- a well placed '~' with `$HOME` unset fails -/
theorem C17_home_unset_error (env : Env) (s : Str) (h1 : s.count '~' = 1)
    (h : s = ['~'] ∨ ['~', '/'] <+: s) (hh : env "HOME".toList = none) :
    expand env s = .err .var := by
  apply Lemmas.Expand.expand_of_tilde_err
  rw [Lemmas.Expand.tildeSpec_of_one env h1]
  rcases h with rfl | ⟨rest, rfl⟩
  · show homeSpec env = _
    rw [homeSpec, hh]
  · show (homeSpec env).bind _ = _
    rw [homeSpec, hh]
    rfl

/-! ### variables -/

/-- Literal equality of code and specification on every input, including the inputs the
    specification declares unspecified (`Ambiguous`) and including the kind of the error when a
    component has two defects.  FALSE (`C17_full_false` below), but no longer by a violation:
    see `C17_agree_sharp` for what holds on every specified input. -/
def C17_full : Prop := ∀ (env : Env) (s : Str), expand env s = expandSpec env s

/-- In the domain `D` (decidable: every normal component of the tilde-expanded path is
    well-formed for the grammar of `Spec/Expand.lean` and not `Ambiguous`) the code computes
    exactly the specification: each `$NAME` / `${NAME}` is replaced by the variable's value,
    with the same error and the same error kind when the specification fails. -/
theorem C17_vars_partial (env : Env) (s : Str) (h : D env s = true) :
    expand env s = expandSpec env s :=
  Lemmas.Expand.expand_eq_spec_of_D env s h

/-- environment of the examples: `HOME=/h`, `V=val` -/
def exEnv : Env := fun k =>
  if k = "V".toList then some "val".toList
  else if k = "HOME".toList then some "/h".toList else none

/-- non-vacuity: a path with a tilde and both reference forms lies in `D` -/
example : D exEnv "~/a${V}/$V".toList = true ∧
    expand exEnv "~/a${V}/$V".toList = .ok "/h/aval/val".toList := by decide +kernel

/-- non-vacuity: an unset variable lies in `D` as well (the error is part of the agreement) -/
example : D exEnv "x/$W".toList = true ∧ expand exEnv "x/$W".toList = .err .var := by decide +kernel

/-! ### failures -/

/-- The specification itself fails exactly for the documented reasons (every input). -/
theorem C17_spec_errors (env : Env) (s : Str) :
    (∃ k, expandSpec env s = .err k) ↔
      MultipleTilde s ∨ MisplacedTilde s ∨ HomeUnset env s ∨ EmptyVarName env s ∨ UnsetVar env s :=
  Lemmas.Expand.expandSpec_err_iff env s

/-- The error clause of the property at full strength, on every input the specification
    specifies (`DSpec`, decidable: no normal component of the tilde-expanded path is `Ambiguous`;
    malformed components such as `$$`, `a$$b` and — since the repair — `a$` are inside):
    the code fails iff one of the documented reasons holds: more than one '~', a misplaced '~',
    `$HOME` unset, an empty variable name, an unset variable. -/
theorem C17_errors (env : Env) (s : Str) (h : Lemmas.Expand.DSpec env s = true) :
    (∃ k, expand env s = .err k) ↔
      MultipleTilde s ∨ MisplacedTilde s ∨ HomeUnset env s ∨ EmptyVarName env s ∨ UnsetVar env s := by
  rw [(Lemmas.Expand.expand_agree_of_DSpec env s h).err_iff]
  exact Lemmas.Expand.expandSpec_err_iff env s

/-- on every specified input the code and the specification are equal, or both fail -/
theorem C17_agree (env : Env) (s : Str) (h : Lemmas.Expand.DSpec env s = true) :
    expand env s = expandSpec env s ∨
      ((∃ k, expand env s = .err k) ∧ ∃ k, expandSpec env s = .err k) :=
  Lemmas.Expand.expand_agree_of_DSpec env s h

/-- the sharp form: on every specified input the code computes the specification, except that a
    malformed component in which an unset variable is met before the malformed spot is reported
    as `Var` where the specification says `InvalidExpansion` (the property text does not order the
    reasons, see `C17_finding_error_kind_order`) -/
theorem C17_agree_sharp (env : Env) (s : Str) (h : Lemmas.Expand.DSpec env s = true) :
    expand env s = expandSpec env s ∨
      (expand env s = .err .var ∧ expandSpec env s = .err .invalidExpansion) :=
  Lemmas.Expand.expand_sharp_of_DSpec env s h

/-- consequence: whenever the specification succeeds on a specified input, the code returns
    exactly that path -/
theorem C17_spec_ok (env : Env) (s p : Str) (h : Lemmas.Expand.DSpec env s = true)
    (hs : expandSpec env s = .ok p) : expand env s = .ok p := by
  rcases C17_agree_sharp env s h with h1 | ⟨_, h2⟩
  · rw [h1, hs]
  · rw [hs] at h2; cases h2

/-- `DSpec` is exactly "no normal component of the tilde-expanded path is `Ambiguous`" -/
theorem C17_DSpec_iff (env : Env) (s : Str) :
    Lemmas.Expand.DSpec env s = true ↔
      ∀ p, tildeSpec env s = .ok p → ∀ y, Comp.normal y ∈ components p → Ambiguous y = false := by
  rw [Lemmas.Expand.DSpec_iff]
  constructor
  · intro h p hp y hy
    simpa [Lemmas.Expand.compUnamb] using h p hp _ hy
  · intro h p hp c hc
    cases c with
    | normal y => simpa [Lemmas.Expand.compUnamb] using h p hp y hc
    | root => rfl
    | cur => rfl
    | parent => rfl

theorem C17_D_subset_DSpec (env : Env) (s : Str) (h : D env s = true) :
    Lemmas.Expand.DSpec env s = true :=
  Lemmas.Expand.DSpec_of_D h

/-- the domain `Spec.DErr` of the pre-repair theorem (`DSpec` minus the trailing-'$' class) is
    inside `DSpec`: the old partial theorem is subsumed by `C17_errors` -/
theorem C17_DErr_subset_DSpec (env : Env) (s : Str) (h : DErr env s = true) :
    Lemmas.Expand.DSpec env s = true :=
  Lemmas.Expand.DSpec_of_DErr h

/-- the same inside `D`, where no component is malformed -/
theorem C17_errors_in_D (env : Env) (s : Str) (h : D env s = true) :
    (∃ k, expand env s = .err k) ↔
      MultipleTilde s ∨ MisplacedTilde s ∨ HomeUnset env s ∨ UnsetVar env s := by
  rw [C17_errors env s (Lemmas.Expand.DSpec_of_D h)]
  have hn := Lemmas.Expand.not_emptyVarName_of_D h
  constructor
  · rintro (h | h | h | h | h)
    · exact Or.inl h
    · exact Or.inr (Or.inl h)
    · exact Or.inr (Or.inr (Or.inl h))
    · exact absurd h hn
    · exact Or.inr (Or.inr (Or.inr h))
  · rintro (h | h | h | h)
    · exact Or.inl h
    · exact Or.inr (Or.inl h)
    · exact Or.inr (Or.inr (Or.inl h))
    · exact Or.inr (Or.inr (Or.inr (Or.inr h)))

/-- non-vacuity of `DSpec` outside `D`: an empty variable name is rejected -/
example : Lemmas.Expand.DSpec exEnv "a/$$V".toList = true ∧ D exEnv "a/$$V".toList = false ∧
    expand exEnv "a/$$V".toList = .err .invalidExpansion := by decide +kernel

/-- non-vacuity of `DSpec` outside the old `DErr`: the trailing-'$' class is inside now -/
example : Lemmas.Expand.DSpec exEnv "x/a$".toList = true ∧ DErr exEnv "x/a$".toList = false ∧
    expand exEnv "x/a$".toList = .err .invalidExpansion := by decide +kernel

/-- `expand` never panics or hangs: it returns a path or an error (every input) -/
theorem C17_total (env : Env) (s : Str) :
    (∃ p, expand env s = .ok p) ∨ ∃ k, expand env s = .err k :=
  (Lemmas.Expand.expand_out env s).cases

/-! ### the repaired finding: a trailing '$' -/

/-- formerly FINDING (a) (`expand "a$" = "a"`, the '$' silently dropped).  With the repaired
    scanner a trailing bare '$' is an empty variable name and fails, in every environment -/
theorem C17_trailing_dollar_rejected (env : Env) :
    expand env "a$".toList = .err .invalidExpansion := rfl

/-- ... which is what the specification demands of "a$" -/
theorem C17_trailing_dollar_spec (env : Env) :
    parseComp "a$".toList = none ∧ expandSpec env "a$".toList = .err .invalidExpansion :=
  ⟨by decide +kernel, rfl⟩

/-- generally: the scanner rejects every component whose only '$' is its last character -/
theorem C17_trailing_dollar_component (env : Env) (pre : Str) (hp : '$' ∉ pre) :
    expandSeg env ((pre ++ ['$']).length + 1) (pre ++ ['$']) [] = .err .invalidExpansion :=
  Lemmas.Expand.seg_lit_trailing_dollar env hp []

/-! ### recorded observations -/

/-- OBSERVATION (b), recorded, not claimed as a violation (both inputs are `Ambiguous`): unbalanced
    braces are accepted, `${V` and `$V}` expand like `${V}` -/
theorem C17_finding_unbalanced_braces :
    expand exEnv "${V}".toList = .ok "val".toList ∧
    expand exEnv "${V".toList = .ok "val".toList ∧
    expand exEnv "$V}".toList = .ok "val".toList ∧
    Ambiguous "${V".toList = true ∧ Ambiguous "$V}".toList = true ∧
    Ambiguous "${V}".toList = false := by decide +kernel

/-- recorded, not a violation: when a component is malformed AND references an unset variable
    the code reports whichever it meets first; the specification says `InvalidExpansion`
    (the property text does not order the reasons).  Both fail. -/
theorem C17_finding_error_kind_order :
    expand (fun _ => none) "$a$$".toList = .err .var ∧
    expandSpec (fun _ => none) "$a$$".toList = .err .invalidExpansion := by decide +kernel

/-- `C17_full` (literal equality everywhere) stays false, by the unordered error kinds — an
    input that is NOT `Ambiguous` (so `C17_agree_sharp` applies to it: both fail) -/
theorem C17_full_false : ¬ C17_full := by
  intro h
  have := h (fun _ => none) "$a$$".toList
  rw [C17_finding_error_kind_order.1, C17_finding_error_kind_order.2] at this
  cases this

/-- ... and by the unspecified class: "${V" expands like "${V}" although the grammar rejects it -/
theorem C17_full_false_ambiguous :
    expand exEnv "${V".toList ≠ expandSpec exEnv "${V".toList ∧ Ambiguous "${V".toList = true := by
  decide +kernel

/-- the domain hypothesis of `C17_errors` cannot be dropped: on the `Ambiguous` input "${V" the
    code succeeds although the component is malformed for the grammar -/
theorem C17_errors_needs_DSpec :
    Lemmas.Expand.DSpec exEnv "${V".toList = false ∧
    (∃ p, expand exEnv "${V".toList = .ok p) ∧ EmptyVarName exEnv "${V".toList := by
  refine ⟨by decide +kernel, ⟨_, C17_finding_unbalanced_braces.2.1⟩, ?_⟩
  exact ⟨"${V".toList, by decide +kernel, by decide +kernel, .normal "${V".toList,
    by decide +kernel, by decide +kernel⟩

/-! ### sanity of the specification's grammar (what `parseComp` accepts) -/

/-- a non-empty component without '$' is one literal -/
theorem C17_grammar_literal (y : Str) (hy : y ≠ []) (hd : '$' ∉ y) :
    parseComp y = some [Tok.lit y] := by
  have := Lemmas.Expand.parseComp_append_lit (lit := y) (x := []) hy hd (fun c hc => nomatch hc)
  rwa [List.append_nil] at this

/-- `$NAME` followed by the end or by a further '$' is a variable reference -/
theorem C17_grammar_plain (name x : Str) (hn : name ≠ []) (ha : ∀ c ∈ name, isNameChar c = true)
    (hx : x = [] ∨ x.head? = some '$') :
    parseComp ('$' :: (name ++ x)) = (parseComp x).map (Tok.var name :: ·) :=
  Lemmas.Expand.parseComp_plain_ok hn ha (by
    intro c hc
    rcases hx with hx | hx
    · subst hx; cases hc
    · rw [hx] at hc; injection hc with hc; subst hc; rfl)

/-- `${NAME}` is a variable reference, whatever follows -/
theorem C17_grammar_braced (name x : Str) (hn : name ≠ []) (ha : ∀ c ∈ name, isNameChar c = true) :
    parseComp ('$' :: '{' :: (name ++ '}' :: x)) = (parseComp x).map (Tok.var name :: ·) :=
  Lemmas.Expand.parseComp_braced_ok hn ha

/-- a '$' at the end of a component, or directly followed by another '$', is malformed -/
theorem C17_grammar_empty_name (pre x : Str) (hp : '$' ∉ pre) :
    parseComp (pre ++ ['$']) = none ∧ parseComp (pre ++ '$' :: '$' :: x) = none := by
  have h1 : parseComp ['$'] = none := by decide
  have h2 : parseComp ('$' :: '$' :: x) = none := by
    rw [Lemmas.Expand.parseComp_plain (by simp)]
    simp [isNameChar]
  cases pre with
  | nil => exact ⟨h1, h2⟩
  | cons c l =>
    rw [Lemmas.Expand.parseComp_append_lit (by simp) hp (by simp),
      Lemmas.Expand.parseComp_append_lit (by simp) hp (by simp), h1, h2]
    exact ⟨rfl, rfl⟩

/-! ### the scanner -/

/-- the fuel `y.length + 1` that `expand` gives the per-component scanner is enough: any larger
    fuel computes the same result -/
theorem C17_scanner_fuel (env : Env) (y acc : Str) (f : Nat) (h : y.length + 1 ≤ f) :
    expandSeg env f y acc = expandSeg env (y.length + 1) y acc :=
  Lemmas.Expand.expandSeg_fuel env f (y.length + 1) y acc (Nat.le_of_succ_le h) (Nat.le_succ _)

/-! ### behaviour (c): an absolute value replaces what was built before it -/

/-- Documentation of behaviour (c) (a one-line corollary of the definitions, `PathBuf::push`
    semantics; fixed by the repository's own unit test, NOT counted as a violation — the
    specification pushes substituted components too): if a component expands to a text starting
    with '/', everything pushed before it is discarded. -/
theorem C17_absolute_value_replaces (env : Env) (y x buf : Str) (cs : List Comp)
    (h : expandSeg env (y.length + 1) y [] = .ok x) (hx : isRooted x = true) :
    expandComps env (.normal y :: cs) buf = expandComps env cs x := by
  simp only [expandComps, h, push, hx, if_true]

/-- the repository's unit test, for every environment with an absolute `$HOME` -/
theorem C17_absolute_value_replaces_example (env : Env) (h : Str)
    (hh : env "HOME".toList = some h) (hr : isRooted h = true) :
    expand env "/foo/${HOME}".toList = .ok h :=
  Lemmas.Expand.expand_foo_home env h hh hr

end Rivia.Props
