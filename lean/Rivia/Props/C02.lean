/-
  C02 — "Stdfs and Memfs are interchangeable: same calls, same results, same tree".

  Both backends are compared through the reference tree filesystem (`Spec.specStep` on `TreeFs.T`):
  * C01 (elsewhere): `Memfs.step` refines `specStep` through the abstraction `absS`;
  * here: `Stdfs.step` (the transcription of `src/sys/fs/stdfs/*.rs` over the syscall model
    `Rivia.Model.Posix`, whose state IS a `TreeFs.T`) refines `specStep` directly.

  Vocabulary (all decidable; definitions in `Rivia/Lemmas/Stdfs.lean`, `StdfsMain.lean`):
  * `Wf t`       — distinct keys, `/` is a directory, the parent of every other key is a directory;
  * `D2 env t op`— (a) every link has a target that exists and is not a link, and its recorded
                   `toDir` flag is accurate (`linksOkB`); (b) the text of every link leads
                   `StdfsEntry::from` back to its target key (`linkTextOkB`; fails e.g. for a target
                   whose name contains `$`); (c) the process cwd is an existing directory;
                   (d) no path argument of `op`, resolved lexically, has a link as a proper ancestor
                   (`argOk`); (e) the operation-specific exclusions `opOk`, one per finding S6, S8, S11–S14, S16 (for the listings, `chown` and `chmod` also `keysRT`:
                   every key, rendered, is resolved by `abs` to itself — `DirEntry::path()` is re-resolved)
                   (S1–S5, S7 and S15 were repaired in the Rust code and their exclusions are gone);
  * `CoveredS op`— the 43 operations for which the refinement is proved (`chmodB` only without a symbolic expression);
  * `ResMatchOkErr` — ok-vs-err agreement and, on ok, equal values;
  * `TEquiv`     — same cwd and the same node under every key.

  Property theorems only; proofs are in `Rivia/Lemmas/Stdfs*.lean`.
-/
import Rivia.Props.C05
import Rivia.Props.C01A
import Rivia.Lemmas.StdfsMain

namespace Rivia.Props
open Rivia Rivia.Memfs Rivia.File Rivia.Spec Rivia.Spec.TreeFs Rivia.Stdfs Rivia.Lemmas.StdfsL
open Rivia.Lemmas.RefineA (TEquiv ResMatch)

/-- both backends resolve path arguments identically (C05) -/
theorem C02_abs_identical (env : Env) (cwd s : Str) : absWith env cwd s = absStdWith env cwd s :=
  C05_abs_backends_equal env cwd s

/-! ### witnesses: (tree, call) pairs on which the Stdfs model and the reference differ -/

def envNone : Env := fun _ => none
def dirN : Node := newDir 0o755
def fileN : Node := newFile
def lnk (toDir : Bool) (tg : FsPath) : Node := ⟨.link toDir, 0o777, 1000, 1000, some tg, []⟩

/-- `/d` a directory, `/l → /d` -/
def treeLinkDir : T := { nodes := [([], dirN), ([['d']], dirN), ([['l']], lnk true [['d']])], cwd := [] }
/-- `/f` a regular file (mode 644), `/l → /f` -/
def treeLinkFile : T := { nodes := [([], dirN), ([['f']], fileN), ([['l']], lnk false [['f']])], cwd := [] }
/-- `/a/f` a regular file, `/a/l → /a/f` (the link text is the relative `f`) -/
def treeRelLink : T :=
  { nodes := [([], dirN), ([['a']], dirN), ([['a'], ['f']], fileN), ([['a'], ['l']], lnk false [['a'], ['f']])],
    cwd := [] }
/-- `/d` an empty directory which is the process cwd -/
def treeCwd : T := { nodes := [([], dirN), ([['d']], dirN)], cwd := [['d']] }

/-- `/f` a regular file with content -/
def okTreeData : T := { nodes := [([], dirN), ([['f']], { fileN with data := [104, 105] })], cwd := [] }

/-- the part of `D2` that does not depend on the findings -/
def D2base (env : Env) (t : T) (op : Op) : Prop :=
  (linksOkB t && linkTextOkB env t && isDir t t.cwd && (opArgs op).all (argOk env t)) = true
instance (env : Env) (t : T) (op : Op) : Decidable (D2base env t op) := by unfold D2base; infer_instance

/-- "the reference answers `r` and leaves a tree with `P`" is decided by looking at its answer -/
instance decAnswer (x : Option SR) (r : R Val) (P : T → Prop) [DecidablePred P] :
    Decidable (∃ t', x = some (r, t') ∧ P t') :=
  match x with
  | none => isFalse fun ⟨_, h, _⟩ => nomatch h
  | some (r', t') =>
    decidable_of_iff (r' = r ∧ P t')
      ⟨fun ⟨h1, h2⟩ => ⟨t', by rw [h1], h2⟩, fun ⟨_, h1, h2⟩ => by cases h1; exact ⟨rfl, h2⟩⟩

/-! #### S1–S5: repaired in the Rust code (commits 07b9520, 65f3327, 1506af7, fb609ee, 0b4a978); the
     former witnesses are now points of agreement -/

/-- S1 (repaired): `remove` of a link to a directory removes the link, as the reference does -/
theorem C02_S1_repaired_remove_link_to_dir :
    Wf treeLinkDir ∧ D2 envNone treeLinkDir (.remove ['/', 'l']) ∧
    Stdfs.step envNone treeLinkDir (.remove ['/', 'l']) = (.ok .unit, del treeLinkDir [['l']]) ∧
    specStep envNone treeLinkDir (.remove ['/', 'l']) = some (.ok .unit, del treeLinkDir [['l']]) := by
  decide +kernel

/-- S2 (repaired): `mkdir_m` on an existing regular file fails with IsNotDir, as the reference does -/
theorem C02_S2_repaired_mkdir_m_on_file :
    Wf treeLinkFile ∧ D2 envNone treeLinkFile (.mkdirM ['/', 'f'] 0o755) ∧
    Stdfs.step envNone treeLinkFile (.mkdirM ['/', 'f'] 0o755) = (.err .isNotDir, treeLinkFile) ∧
    Stdfs.step envNone treeLinkFile (.mkdirM ['/', 'l'] 0o755) = (.err .isNotDir, treeLinkFile) ∧
    specStep envNone treeLinkFile (.mkdirM ['/', 'f'] 0o755) = some (.err (some .isNotDir), treeLinkFile) ∧
    specStep envNone treeLinkFile (.mkdirM ['/', 'l'] 0o755) = some (.err (some .isNotDir), treeLinkFile) := by
  decide +kernel

/-- S3 (repaired): `readlink_abs` on a regular file fails with IsNotSymlink; the reference fails too -/
theorem C02_S3_repaired_readlink_abs_on_file :
    Wf treeLinkFile ∧ D2 envNone treeLinkFile (.readlinkAbs ['/', 'f']) ∧
    Stdfs.step envNone treeLinkFile (.readlinkAbs ['/', 'f']) = (.err .isNotSymlink, treeLinkFile) ∧
    specStep envNone treeLinkFile (.readlinkAbs ['/', 'f']) = some (.err none, treeLinkFile) := by
  decide +kernel

/-- S4 (repaired): `remove_all` of a regular file (and of a link) removes it, as the reference does -/
theorem C02_S4_repaired_remove_all_on_file :
    Wf treeLinkFile ∧ D2 envNone treeLinkFile (.removeAll ['/', 'f']) ∧
    Stdfs.step envNone treeLinkFile (.removeAll ['/', 'f']) = (.ok .unit, del treeLinkFile [['f']]) ∧
    Stdfs.step envNone treeLinkFile (.removeAll ['/', 'l']) = (.ok .unit, del treeLinkFile [['l']]) ∧
    (∃ t', specStep envNone treeLinkFile (.removeAll ['/', 'f']) = some (.ok .unit, t') ∧
      t' = del treeLinkFile [['f']]) := by
  decide +kernel

/-- S5 (repaired): `is_dir` resolves its argument with `abs` like every other method -/
theorem C02_S5_repaired_is_dir_uses_abs :
    Wf treeLinkDir ∧ D2 envNone treeLinkDir (.isDir ['x', '/', '.', '.', '/', 'd']) ∧
    Stdfs.step envNone treeLinkDir (.isDir ['x', '/', '.', '.', '/', 'd']) = (.ok (.bool true), treeLinkDir) ∧
    specStep envNone treeLinkDir (.isDir ['x', '/', '.', '.', '/', 'd']) = some (.ok (.bool true), treeLinkDir) := by
  decide +kernel

/-- S6: `is_exec` goes through `fs::metadata`, which follows links: a link (mode 777) to a file with
    mode 644 is not executable on Stdfs; the reference (and Memfs) look at the link's own mode -/
theorem C02_S6_is_exec_follows_link :
    Wf treeLinkFile ∧ D2base envNone treeLinkFile (.isExec ['/', 'l']) ∧
    Stdfs.step envNone treeLinkFile (.isExec ['/', 'l']) = (.ok (.bool false), treeLinkFile) ∧
    specStep envNone treeLinkFile (.isExec ['/', 'l']) = some (.ok (.bool true), treeLinkFile) := by
  decide +kernel

/-- S7 (repaired): `dirs` / `all_dirs` no longer list a link to a directory, `files` / `all_files` no longer
    a link to a file (the collecting loop skips links), as the reference; `paths` still lists the link.
    The calls are now inside the domain `D2` of the per-step theorem. -/
theorem C02_S7_repaired_dirs_skips_links :
    Wf treeLinkDir ∧ D2 envNone treeLinkDir (.dirs ['/']) ∧
    Stdfs.step envNone treeLinkDir (.dirs ['/']) = (.ok (.paths [[['d']]]), treeLinkDir) ∧
    specStep envNone treeLinkDir (.dirs ['/']) = some (.ok (.paths [[['d']]]), treeLinkDir) ∧
    Stdfs.step envNone treeLinkDir (.allDirs ['/']) = (.ok (.paths [[['d']]]), treeLinkDir) ∧
    specStep envNone treeLinkDir (.allDirs ['/']) = some (.ok (.paths [[['d']]]), treeLinkDir) ∧
    Stdfs.step envNone treeLinkDir (.paths ['/']) = (.ok (.paths [[['d']], [['l']]]), treeLinkDir) ∧
    Wf treeLinkFile ∧ D2 envNone treeLinkFile (.files ['/']) ∧
    Stdfs.step envNone treeLinkFile (.files ['/']) = (.ok (.paths [[['f']]]), treeLinkFile) ∧
    specStep envNone treeLinkFile (.files ['/']) = some (.ok (.paths [[['f']]]), treeLinkFile) ∧
    Stdfs.step envNone treeLinkFile (.allFiles ['/']) = (.ok (.paths [[['f']]]), treeLinkFile) ∧
    specStep envNone treeLinkFile (.allFiles ['/']) = some (.ok (.paths [[['f']]]), treeLinkFile) := by
  decide +kernel

/-- S8: `move_p` of a relative link: `rename(2)` keeps the TEXT `f`, so `/a/l → /a/f` moved to `/l`
    points to `/f`; the reference (and Memfs) keep the absolute target -/
theorem C02_S8_move_relative_link :
    Wf treeRelLink ∧ D2base envNone treeRelLink (.moveP ['/', 'a', '/', 'l'] ['/']) ∧
    (Stdfs.step envNone treeRelLink (.moveP ['/', 'a', '/', 'l'] ['/'])).1 = .ok .unit ∧
    (get (Stdfs.step envNone treeRelLink (.moveP ['/', 'a', '/', 'l'] ['/'])).2 [['l']]).bind (·.target) = some [['f']] ∧
    (∃ t', specStep envNone treeRelLink (.moveP ['/', 'a', '/', 'l'] ['/']) = some (.ok .unit, t') ∧
      (get t' [['l']]).bind (·.target) = some [['a'], ['f']]) := by
  decide +kernel

/-- S9: `set_cwd` through a link returns the link path but the kernel's cwd is the TARGET
    (the reference leaves this unspecified; Memfs keeps the link path) -/
theorem C02_S9_set_cwd_through_link :
    Stdfs.step envNone treeLinkDir (.setCwd ['/', 'l']) = (.ok (.path [['l']]), { treeLinkDir with cwd := [['d']] }) ∧
    (∃ t', specStep envNone treeLinkDir (.setCwd ['/', 'l']) = some (.unspecified, t')) :=
  ⟨by decide, _, rfl⟩

/-- S10: removing the process cwd succeeds, and afterwards every RELATIVE path fails to resolve on
    Stdfs (`std::env::current_dir()` is `ENOENT`); the reference (and Memfs) keep resolving against the
    remembered string -/
theorem C02_S10_removed_cwd :
    Wf treeCwd ∧ D2 envNone treeCwd (.remove ['/', 'd']) ∧
    Stdfs.step envNone treeCwd (.remove ['/', 'd']) = (.ok .unit, del treeCwd [['d']]) ∧
    specStep envNone treeCwd (.remove ['/', 'd']) = some (.ok .unit, del treeCwd [['d']]) ∧
    Stdfs.step envNone (del treeCwd [['d']]) (.abs ['x']) = (.err .ioNotFound, del treeCwd [['d']]) ∧
    specStep envNone (del treeCwd [['d']]) (.abs ['x']) = some (.ok (.path [['d'], ['x']]), del treeCwd [['d']]) := by
  decide +kernel

/-- S11 (shared with Memfs, class `chmod_zero`): `chmod(p, 0)` changes nothing (`sys::mode` reads an
    octal 0 as "not given"); the reference clears the permission bits -/
theorem C02_S11_chmod_zero :
    Stdfs.step envNone treeLinkFile (.chmod ['/', 'f'] 0) = (.ok .unit, treeLinkFile) ∧
    (∃ t', specStep envNone treeLinkFile (.chmod ['/', 'f'] 0) = some (.ok .unit, t') ∧
      (get t' [['f']]).map (·.perm) = some 0) := by
  decide +kernel

/-- S12 (shared with Memfs, class `empty_lines_noop`): `write_lines(p, [])` does not touch the file;
    the reference truncates it -/
theorem C02_S12_write_lines_empty :
    Stdfs.step envNone okTreeData (.writeLines ['/', 'f'] []) = (.ok .unit, okTreeData) ∧
    (∃ t', specStep envNone okTreeData (.writeLines ['/', 'f'] []) = some (.ok .unit, t') ∧
      (get t' [['f']]).map (·.data) = some []) := by
  decide +kernel

/-- S13: `move_p` of a file onto an existing symlink: `rename(2)` replaces the link; the reference
    (and Memfs: ExistsAlready) refuse -/
theorem C02_S13_move_onto_link :
    Wf treeLinkFile ∧ D2base envNone treeLinkFile (.moveP ['/', 'f'] ['/', 'l']) ∧
    (Stdfs.step envNone treeLinkFile (.moveP ['/', 'f'] ['/', 'l'])).1 = .ok .unit ∧
    (get (Stdfs.step envNone treeLinkFile (.moveP ['/', 'f'] ['/', 'l'])).2 [['l']]).map (·.kind) = some .file ∧
    specStep envNone treeLinkFile (.moveP ['/', 'f'] ['/', 'l']) = some (.err none, treeLinkFile) := by
  decide +kernel

/-- S14: `move_p` of the directory the process is in: the kernel's cwd follows the directory
    (`current_dir()` is `/e` afterwards); the reference (and Memfs) keep the remembered `/d` -/
theorem C02_S14_move_cwd :
    Wf treeCwd ∧ D2base envNone treeCwd (.moveP ['/', 'd'] ['/', 'e']) ∧
    (Stdfs.step envNone treeCwd (.moveP ['/', 'd'] ['/', 'e'])).1 = .ok .unit ∧
    (Stdfs.step envNone treeCwd (.moveP ['/', 'd'] ['/', 'e'])).2.cwd = [['e']] ∧
    (∃ t', specStep envNone treeCwd (.moveP ['/', 'd'] ['/', 'e']) = some (.ok .unit, t') ∧ t'.cwd = [['d']]) := by
  decide +kernel

/-- S15 (repaired, fcf2bdc): `all_paths` (also `all_dirs`, `all_files`) of a link to a directory is
    IsNotDir, like the reference (it used to be an empty listing) -/
theorem C02_S15_repaired_all_paths_of_link_to_dir :
    Wf treeLinkDir ∧ D2 envNone treeLinkDir (.allPaths ['/', 'l']) ∧
    Stdfs.step envNone treeLinkDir (.allPaths ['/', 'l']) = (.err .isNotDir, treeLinkDir) ∧
    specStep envNone treeLinkDir (.allPaths ['/', 'l']) = some (.err (some .isNotDir), treeLinkDir) := by
  decide +kernel

/-- S16: `chown` goes through `chown(2)`, which follows links: the owner of the TARGET changes; the
    reference (and Memfs) change the owner of the link itself -/
theorem C02_S16_chown_follows_link :
    Wf treeLinkFile ∧ D2base envNone treeLinkFile (.chown ['/', 'l'] 5 6) ∧
    (Stdfs.step envNone treeLinkFile (.chown ['/', 'l'] 5 6)).1 = .ok .unit ∧
    (get (Stdfs.step envNone treeLinkFile (.chown ['/', 'l'] 5 6)).2 [['f']]).map (·.uid) = some 5 ∧
    (get (Stdfs.step envNone treeLinkFile (.chown ['/', 'l'] 5 6)).2 [['l']]).map (·.uid) = some 1000 ∧
    (∃ t', specStep envNone treeLinkFile (.chown ['/', 'l'] 5 6) = some (.ok .unit, t') ∧
      (get t' [['l']]).map (·.uid) = some 5 ∧ (get t' [['f']]).map (·.uid) = some 1000) := by
  decide +kernel

/-! ### the full statement is false -/

/-- the per-step refinement without the operation-specific exclusions, for every operation -/
def C02_stdfs_refines_reference_full : Prop :=
  ∀ (env : Env) (t : T) (op : Op) (r : R Val) (t' : T), Wf t → D2base env t op →
    specStep env t op = some (r, t') →
    ResMatchOkErr (Stdfs.step env t op).1 r ∧ (r ≠ .unspecified → TEquiv (Stdfs.step env t op).2 t')

theorem C02_stdfs_refines_reference_full_false : ¬ C02_stdfs_refines_reference_full := by
  intro h
  obtain ⟨hW, hD, hS, hR⟩ := C02_S6_is_exec_follows_link
  have := (h envNone treeLinkFile (.isExec ['/', 'l']) _ _ hW hD hR).1
  rw [hS] at this
  exact absurd this (by simp [ResMatchOkErr])

/-! ### the theorem -/

/-- C02 (partial: domain `D2`, operations `CoveredS`): one step of the Stdfs model returns what the
    reference returns (ok/err together, equal values on ok) and leaves an equivalent tree -/
theorem C02_stdfs_refines_reference_partial (env : Env) (t : T) (op : Op) (r : R Val) (t' : T)
    (hW : Wf t) (hD : D2 env t op) (hC : CoveredS op = true) (h : specStep env t op = some (r, t')) :
    ResMatchOkErr (Stdfs.step env t op).1 r ∧ (r ≠ .unspecified → TEquiv (Stdfs.step env t op).2 t') :=
  refines_step env t op r t' hW hD hC h

/-- the argument conditions under which the reference pins a covered operation down -/
def specArgsB : Op → Bool
  | .mkdirM _ m => permOk m && decide (m ≠ 0)
  | .chmod _ m => permOk m
  | .chmodB _ c => !c.follow && decide (c.sym = []) && permOk c.dirs && permOk c.files
  | .chownB _ c => !c.follow
  | _ => true

/-- every covered operation with such arguments is covered by the reference -/
theorem C02_covered_specified (env : Env) (t : T) (op : Op) (hC : CoveredS op = true)
    (hA : specArgsB op = true) : (specStep env t op).isSome = true := by
  cases op <;> first | rfl | cases hC | skip
  · rename_i p m
    simp only [specArgsB, Bool.and_eq_true, decide_eq_true_eq] at hA
    simp only [specStep]; rw [if_pos hA]; rfl
  · rename_i p m
    simp only [specArgsB] at hA
    simp only [specStep]; rw [if_pos hA]; rfl
  · rename_i p c
    simp only [specArgsB, Bool.and_eq_true, Bool.not_eq_true', decide_eq_true_eq] at hA
    simp only [specStep, hA.1.1.1, Bool.false_eq_true, if_false, hA.1.1.2, if_true]
    rw [if_pos ⟨hA.1.2, hA.2⟩]; rfl
  · rename_i p c
    simp only [specArgsB, Bool.not_eq_true'] at hA
    simp only [specStep, hA]
    rfl

/-- C02, composition: if the Memfs step refines the reference from the state `s` (C01, taken as a
    hypothesis in its own shape) then, started from the same tree (`absS s`), both backends return
    ok/err together, equal values on ok, and leave equivalent trees — whenever the reference pins the
    result down -/
theorem C02_backends_agree_partial (env : Env) (s : State) (op : Op) (r : R Val) (t' : T)
    (hMem : ∀ (r : R Val) (t' : T), specStep env (absS s) op = some (r, t') →
      ResMatch (Memfs.step env s op).1 r ∧ (r ≠ .unspecified → TEquiv (absS (Memfs.step env s op).2) t'))
    (hW : Wf (absS s)) (hD : D2 env (absS s) op) (hC : CoveredS op = true)
    (h : specStep env (absS s) op = some (r, t')) (hr : r ≠ .unspecified) :
    OutcomeAgree (Memfs.step env s op).1 (Stdfs.step env (absS s) op).1 ∧
      TEquiv (absS (Memfs.step env s op).2) (Stdfs.step env (absS s) op).2 :=
  backends_agree env s op r t' (hMem r t' h) (refines_step env (absS s) op r t' hW hD hC h) hr

/-- C02 for the group-A operations of C01 (queries and simple creators), with the Memfs side DISCHARGED
    by `C01_refines_step_groupA`: under the decidable state invariants of C01 (`Inv`, `KeysWf`,
    `EntriesOk`, class "-") and of C02 (`Wf`, `D2` of the abstracted tree), `Memfs.step` on `s` and
    `Stdfs.step` on the tree `absS s` return ok/err together, equal values on ok, and leave equivalent
    trees — whenever the reference pins the result down -/
theorem C02_backends_agree_groupA (env : Env) (s : State) (op : Op) (r : R Val) (t' : T)
    (hA : Rivia.Lemmas.RefineA.GroupA op = true)
    (hI : Spec.Inv s) (hK : Rivia.Lemmas.RefineA.KeysWf s) (hOk : Rivia.Lemmas.RefineA.EntriesOk s)
    (hCl : classOf s env op = "-")
    (hW : Wf (absS s)) (hD : D2 env (absS s) op)
    (h : specStep env (absS s) op = some (r, t')) (hr : r ≠ .unspecified) :
    OutcomeAgree (Memfs.step env s op).1 (Stdfs.step env (absS s) op).1 ∧
      TEquiv (absS (Memfs.step env s op).2) (Stdfs.step env (absS s) op).2 :=
  C02_backends_agree_partial env s op r t'
    (fun r t' h => C01_refines_step_groupA env s op hA hI hK hOk hCl r t' h)
    hW hD (groupA_covered op hA) h hr

/-! ### non-vacuity -/

/-- `/d/f` a file with content, `/l → /d/f`, `/k → /d`; cwd `/d` -/
def okTree : T :=
  { nodes := [([], dirN), ([['d']], dirN), ([['d'], ['f']], { fileN with data := [104, 105] }),
              ([['l']], lnk false [['d'], ['f']]), ([['k']], lnk true [['d']])],
    cwd := [['d']] }

example : Wf okTree ∧ D2 envNone okTree (.appendAll ['f'] [33]) ∧ CoveredS (.appendAll ['f'] [33]) = true ∧
    D2 envNone okTree (.isSymlinkDir ['.', '.', '/', 'k']) ∧ D2 envNone okTree (.remove ['/', 'l']) ∧
    D2 envNone okTree (.isDir ['/', 'd']) ∧ D2 envNone okTree (.moveP ['f'] ['/', 'g']) ∧
    D2 envNone okTree (.mkdirP ['x', '/', 'y']) ∧ D2 envNone okTree (.mkdirM ['/', 'z'] 0o700) ∧
    D2 envNone okTree (.allPaths ['/']) ∧ D2 envNone okTree (.files ['.']) ∧ D2 envNone okTree (.allDirs ['/', 'd']) ∧
    D2 envNone okTree (.chmod ['/'] 0o700) ∧ D2 envNone okTree (.chown ['/', 'd'] 7 8) := by
  decide +kernel

-- OPEN (not proved): symbolic `chmod_b` (`c.sym ≠ []`; `Stdfs.chmod` runs `Chmod.mode`, the state machine
--   of `sys::mode`, per entry) against `TreeFs.chmodSym`; known deviations of the state machine are the
--   subject of C17/C18.  (`mkfileM`, `copy`, `copyB`, `entry`, `entries`, handles: the reference does
--   not cover them.)
-- OPEN (not proved): syntactic sufficient conditions for the computational clauses of `D2`:
--   `linkTextOkB env t`, `keysRT env t` and the idempotence clause of `chownOkB`/`chmodOkB` hold when
--   every key of `t` (and the resolved argument) consists of well-formed names without `~`/`$`.

end Rivia.Props
