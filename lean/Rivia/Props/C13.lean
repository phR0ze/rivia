/-
  C13 — the Vfs and VfsEntry enums are transparent wrappers.
  The table `Rivia.Generated.Dispatch` is REGENERATED from /repo on every run by
  /verif/tools/scan_rust.py; the theorems below are re-proved against it by `decide`.
  A match arm that calls another method, reorders or drops a parameter, adds a wrapper, a missing
  or extra method, or a body of any other shape makes `decide` fail.
-/
import Rivia.Generated.Dispatch

namespace Rivia.Props
open Rivia.Generated

/-- an arm calls the same-named method on the bound value with the parameters in order -/
def armOk (f : Fn) (allowUpcast : Bool) (a : Arm) : Bool :=
  a.callee == f.name && a.args == f.params && (a.wrapper == none || (allowUpcast && a.wrapper == some idUpcast))

/-- a body is `match self { E::Stdfs(x) => x.m(args), E::Memfs(x) => x.m(args) }` -/
def dispatchOk (allowUpcast : Fn → Bool) (f : Fn) : Bool :=
  match f.body with
  | .dispatch arms => arms.map (·.variant) == [idStdfs, idMemfs] && arms.all (armOk f (allowUpcast f))
  | _ => false

def exactlyOne (impl : List Fn) (m : Nat) : Bool := (impl.filter (·.name == m)).length == 1

/-- every method of `VirtualFileSystem` has exactly one body in `impl VirtualFileSystem for Vfs`,
    with the declared parameters, and that body is a transparent two-arm dispatch -/
theorem C13_vfs_arms_transparent :
    vfsImpl.length = traitVfs.length ∧
    (traitVfs.all fun m => exactlyOne vfsImpl m.1 && vfsImpl.any (fun f => f.name == m.1 && f.params == m.2)) = true ∧
    (vfsImpl.all (dispatchOk fun _ => false)) = true := by decide +kernel

/-- `impl Entry for VfsEntry`: every required method is dispatched transparently (`follow` may
    re-wrap with `.upcast()`); a default method that the wrapper does not override is overridden by
    neither backend entry (otherwise default-over-dispatch would differ from the inner override) -/
theorem C13_entry_arms_transparent :
    (traitEntry.all fun m =>
      if vfsEntryImpl.any (·.name == m.1) then
        exactlyOne vfsEntryImpl m.1 && vfsEntryImpl.any (fun f => f.name == m.1 && f.params == m.2.1)
      else m.2.2 && !stdfsEntryMethods.contains m.1 && !memfsEntryMethods.contains m.1) = true ∧
    (vfsEntryImpl.all fun f => traitEntry.any (·.1 == f.name)) = true ∧
    (vfsEntryImpl.all (dispatchOk fun f => f.name == idFollow)) = true := by decide +kernel

/-- `impl VirtualFileSystem for Stdfs`: every method forwards to the same-named associated
    function with the parameters in order (`upcast` is `Vfs::Stdfs(self)`) -/
theorem C13_stdfs_forwarders :
    stdfsImpl.length = traitVfs.length ∧
    (traitVfs.all fun m => exactlyOne stdfsImpl m.1) = true ∧
    (stdfsImpl.all fun f =>
      if f.name == idUpcast then f.body == .forward idVfs idStdfs [idSelf]
      else f.body == .forward idStdfs f.name f.params) = true := by decide +kernel

end Rivia.Props
