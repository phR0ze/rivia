/-
  C01 (group B) — "Memfs behaves as a tree filesystem for every operation history":
  one-step refinement of the destructive / structural operations (`remove`, `symlink`, `remove_all`,
  `chown`, `move_p`) against the reference tree filesystem `Rivia.Spec.TreeFs`.

  Shape of every statement (`Refines env s op`): whenever the reference pins the call down
  (`specStep env (absS s) op = some (r, t')`), the model's result matches `r` (`ResMatch`) and — unless
  `r` is `unspecified` — the abstraction of the model's post-state is pointwise equal to `t'` (`TEquiv`).
  Proofs: `Rivia/Lemmas/RefineB/*`.
-/
import Rivia.Lemmas.RefineB

namespace Rivia.Props
open Rivia Rivia.Memfs Rivia.Spec Rivia.Spec.TreeFs Rivia.Lemmas.RefineB
open Rivia.Lemmas hiding KeysWf

/-! ### full strength: `remove`, `symlink`, `remove_all` -/

theorem C01_remove_refines (env : Env) (s : State) (p : Str) (hI : Inv s) (hW : KeysWf s)
    (hc : classOf s env (.remove p) = "-") : Refines env s (.remove p) :=
  remove_refines env s p hI hW hc

theorem C01_symlink_refines (env : Env) (s : State) (l t : Str) (hI : Inv s) (hW : KeysWf s)
    (hc : classOf s env (.symlink l t) = "-") : Refines env s (.symlink l t) :=
  symlink_refines env s l t hI hW hc

theorem C01_removeAll_refines (env : Env) (s : State) (p : Str) (hI : Inv s) (hW : KeysWf s)
    (hc : classOf s env (.removeAll p) = "-") : Refines env s (.removeAll p) :=
  removeAll_refines env s p hI hW hc

/-! ### `chown` (recursive, no follow) and `chown_b` without follow
    Domain: `DepthOk s` (every key has fewer than `usize::MAX` components) for the recursive forms — the
    traversal stops descending at depth `usize::MAX`, the reference does not. -/

theorem C01_chown_refines_partial (env : Env) (s : State) (p : Str) (u g : Nat) (hI : Inv s) (hW : KeysWf s)
    (hc : classOf s env (.chown p u g) = "-") (hD : DepthOk s) : Refines env s (.chown p u g) :=
  chown_refines env s p u g hI hW hc hD

theorem C01_chownB_refines_partial (env : Env) (s : State) (p : Str) (c : ChownOpts) (hI : Inv s) (hW : KeysWf s)
    (hc : classOf s env (.chownB p c) = "-") (hD : c.recursive = true → DepthOk s) :
    Refines env s (.chownB p c) :=
  chownB_refines env s p c hI hW hc (fun _ => hD)

/-! ### `move_p`
    Domain: `FlagsOk s` (a non-link entry is a file or a directory, not both) — `Inv` does not say so,
    and the validation of `moveM` reads the `file` flag where the reference reads the kind. -/

theorem C01_moveP_refines_partial (env : Env) (s : State) (a b : Str) (hI : Inv s) (hW : KeysWf s)
    (hc : classOf s env (.moveP a b) = "-") (hF : FlagsOk s) : Refines env s (.moveP a b) :=
  moveP_refines env s a b hI hW hc hF

/-- the statement without the flag hypothesis -/
def C01_moveP_full : Prop :=
  ∀ (env : Env) (s : State) (a b : Str), Inv s → KeysWf s → classOf s env (.moveP a b) = "-" →
    Refines env s (.moveP a b)

namespace C01BWitness
def S (s : String) : Str := s.toList
def env0 : Env := fun _ => none
def dirE (p : FsPath) (fs : List Str) : Entry := { mkDirEntry p none with files := some fs }
/-- an entry that claims to be a file and a directory (not reachable from `Memfs.init`) -/
def both : Entry := { mkFileEntry [S "p", S "c"] with dir := true, files := some [S "x"] }
def sX : State :=
  { entries := [([], dirE [] [S "c", S "p"]), ([S "c"], mkFileEntry [S "c"]), ([S "p"], dirE [S "p"] [S "c"]),
                ([S "p", S "c"], both), ([S "p", S "c", S "x"], mkFileEntry [S "p", S "c", S "x"])],
    files := [([S "c"], [1]), ([S "p", S "c"], [2]), ([S "p", S "c", S "x"], [3])],
    cwd := [], root := [], handles := [] }
/-- a state reached from `Memfs.init` -/
def sR : State := run env0 Memfs.init
  [.mkdirP (S "/a/b"), .writeAll (S "/a/b/f") [1, 2], .mkdirP (S "/d"), .symlink (S "/a/l") (S "/d")]
end C01BWitness
open C01BWitness

instance (n : Str) : Decidable (Wf n) := by unfold Wf; infer_instance
instance (s : State) : Decidable (KeysWf s) := by unfold KeysWf; infer_instance

/-- with `Inv` alone the model moves a file over a directory-and-file entry that still has a child,
    the reference refuses -/
theorem C01_moveP_not_full : ¬ C01_moveP_full := by
  intro h
  have hR := h env0 sX (S "/c") (S "/p") (by decide +kernel) (by decide +kernel) (by decide +kernel)
  have hsp : specStep env0 (absS sX) (.moveP (S "/c") (S "/p")) = some (.err none, absS sX) := by decide +kernel
  have hm : (step env0 sX (.moveP (S "/c") (S "/p"))).1 = .ok .unit := by decide +kernel
  have := (hR _ _ hsp).1
  rw [hm] at this
  exact this

/-! ### `chmod` (octal, recursive) and the octal `chmod_b` without follow
    Domain: `FlagsOk s`, `ModeOk s` (every stored mode carries type bits, so it differs from any permission
    value) and `DepthOk s` when recursive.  `Inv` implies none of them; the two witnesses below are `Inv`
    states (not reachable from `Memfs.init`) where the statement fails without them. -/

theorem C01_chmod_refines_partial (env : Env) (s : State) (p : Str) (m : Nat) (hI : Inv s) (hW : KeysWf s)
    (hc : classOf s env (.chmod p m) = "-") (hF : FlagsOk s) (hM : ModeOk s) (hD : DepthOk s) :
    Refines env s (.chmod p m) :=
  chmod_refines env s p m hI hW hc hF hM hD

theorem C01_chmodB_refines_partial (env : Env) (s : State) (p : Str) (c : ChmodOpts) (hI : Inv s) (hW : KeysWf s)
    (hc : classOf s env (.chmodB p c) = "-") (hsym : c.sym = []) (hF : FlagsOk s) (hM : ModeOk s)
    (hD : c.recursive = true → DepthOk s) : Refines env s (.chmodB p c) :=
  chmodB_refines env s p c hI hW hc hsym hF hM hD

/-- the statement without the extra hypotheses -/
def C01_chmod_full : Prop :=
  ∀ (env : Env) (s : State) (p : Str) (m : Nat), Inv s → KeysWf s → classOf s env (.chmod p m) = "-" →
    Refines env s (.chmod p m)

namespace C01BWitness
/-- a file whose stored mode has no type bits and already equals the requested value -/
def sY : State :=
  { entries := [([], dirE [] [S "f"]), ([S "f"], { mkFileEntry [S "f"] with mode := 0o644 })],
    files := [([S "f"], [])], cwd := [], root := [], handles := [] }
def tY : T :=
  { nodes := [([], ⟨.dir, 0o755, 1000, 1000, none, []⟩), ([S "f"], ⟨.file, 0o644, 1000, 1000, none, []⟩)], cwd := [] }
/-- an empty directory that also claims to be a file -/
def sZ : State :=
  { entries := [([], dirE [] [S "g"]), ([S "g"], { mkFileEntry [S "g"] with dir := true, files := some [] })],
    files := [([S "g"], [])], cwd := [], root := [], handles := [] }
def tZ : T :=
  { nodes := [([], ⟨.dir, 0o755, 1000, 1000, none, []⟩), ([S "g"], ⟨.dir, 0o700, 1000, 1000, none, []⟩)], cwd := [] }
end C01BWitness

/-- `chmod /f 0o644` on `sY`: the model sees "mode unchanged" and writes nothing, so the abstract
    permission stays 0 where the reference has 0o644 -/
theorem C01_chmod_not_full : ¬ C01_chmod_full := by
  intro h
  have hR := h env0 sY (S "/f") 0o644 (by decide +kernel) (by decide +kernel) (by decide +kernel)
  have hsp : specStep env0 (absS sY) (.chmod (S "/f") 0o644) = some (.ok .unit, tY) := by decide +kernel
  have := ((hR _ _ hsp).2 (by intro h; cases h)).2 [S "f"]
  exact absurd this (by decide +kernel)

/-- `FlagsOk` is needed even when `ModeOk` and `DepthOk` hold: `set_mode` adds the *file* type bits to an
    entry the abstraction classifies as a directory -/
theorem C01_chmod_needs_flags :
    ¬ (∀ (env : Env) (s : State) (p : Str) (m : Nat), Inv s → KeysWf s → classOf s env (.chmod p m) = "-" →
        ModeOk s → DepthOk s → Refines env s (.chmod p m)) := by
  intro h
  have hR := h env0 sZ (S "/g") 0o700 (by decide +kernel) (by decide +kernel) (by decide +kernel) (by decide +kernel)
    (by decide +kernel)
  have hsp : specStep env0 (absS sZ) (.chmod (S "/g") 0o700) = some (.ok .unit, tZ) := by decide +kernel
  have := ((hR _ _ hsp).2 (by intro h; cases h)).2 [S "g"]
  exact absurd this (by decide +kernel)

/-! ### the step theorem over the proved part of group B -/

/-- operations of group B whose refinement is proved -/
def GroupB : Op → Prop
  | .remove _ | .symlink _ _ | .removeAll _ | .chown _ _ _ | .chownB _ _ | .moveP _ _ | .chmod _ _ => True
  | .chmodB _ c => c.sym = []
  | _ => False

instance : DecidablePred GroupB := fun op => by unfold GroupB; split <;> infer_instance

/-- the decidable domain of the partial statements -/
def DomB (s : State) : Op → Prop
  | .chown _ _ _ => DepthOk s
  | .chownB _ c => c.follow = false → c.recursive = true → DepthOk s
  | .moveP _ _ => FlagsOk s
  | .chmod _ _ => FlagsOk s ∧ ModeOk s ∧ DepthOk s
  | .chmodB _ c => FlagsOk s ∧ ModeOk s ∧ (c.recursive = true → DepthOk s)
  | _ => True

instance (s : State) : DecidablePred (DomB s) := fun op => by unfold DomB; split <;> infer_instance

theorem C01_refines_step_groupB (env : Env) (s : State) (op : Op) (hG : GroupB op) (hI : Inv s) (hW : KeysWf s)
    (hD : DomB s op) (hc : classOf s env op = "-") :
    ∀ r t', specStep env (absS s) op = some (r, t') →
      ResMatch (step env s op).1 r ∧ (r ≠ .unspecified → TEquiv (absS (step env s op).2) t') := by
  cases op <;> try exact False.elim hG
  case remove p => exact remove_refines env s p hI hW hc
  case removeAll p => exact removeAll_refines env s p hI hW hc
  case symlink l t => exact symlink_refines env s l t hI hW hc
  case chown p u g => exact chown_refines env s p u g hI hW hc hD
  case moveP a b => exact moveP_refines env s a b hI hW hc hD
  case chmod p m => exact chmod_refines env s p m hI hW hc hD.1 hD.2.1 hD.2.2
  case chmodB p c => exact chmodB_refines env s p c hI hW hc hG hD.1 hD.2.1 hD.2.2
  case chownB p c => exact chownB_refines env s p c hI hW hc hD

/-- `sR` evaluated: `/a/b/f`, `/d` and the link `/a/l → /d` -/
theorem C01B_sR_eq : sR =
    { entries := [([], dirE [] [['a'], ['d']]), ([['a']], dirE [['a']] [['b'], ['l']]),
                  ([['a'], ['b']], dirE [['a'], ['b']] [['f']]),
                  ([['a'], ['b'], ['f']], mkFileEntry [['a'], ['b'], ['f']]), ([['d']], dirE [['d']] []),
                  ([['a'], ['l']], { dirE [['a'], ['l']] [] with
                    alt := some [['d']], rel := ['.', '.', '/', 'd'], link := true, mode := 0o120777 })],
      files := [([['a'], ['b'], ['f']], [1, 2])], cwd := [], root := [], handles := [] } := by
  decide +kernel

/-- non-vacuity: a reached state satisfies every hypothesis and the reference pins the calls down -/
example : Inv sR ∧ KeysWf sR ∧ DepthOk sR ∧ FlagsOk sR ∧ ModeOk sR := by
  rw [C01B_sR_eq]
  decide +kernel

example : (specStep env0 (absS sR) (.moveP (S "/a") (S "/d"))).map (fun y => y.1) = some (.ok .unit) := by
  rw [C01B_sR_eq]
  decide +kernel
example : (specStep env0 (absS sR) (.removeAll (S "/a"))).map (fun y => y.1) = some (.ok .unit) := by
  rw [C01B_sR_eq]
  decide +kernel
example : (specStep env0 (absS sR) (.chown (S "/a") 7 8)).map (fun y => y.1) = some (.ok .unit) := by
  rw [C01B_sR_eq]
  decide +kernel
example : (specStep env0 (absS sR) (.chmod (S "/a") 0o750)).map (fun y => y.1) = some (.ok .unit) := by
  rw [C01B_sR_eq]
  decide +kernel

end Rivia.Props

-- OPEN (not proved):
--   * `chmod_b` with a symbolic expression (`c.sym ≠ []`, reference `chmodSym`) and every `follow := true`
--     form: not covered here.
--   * `chown` / `chown_b` recursive without `DepthOk s`: believed false only for trees nested
--     `usize::MAX` deep (no concrete witness can be evaluated), so no `¬ full` theorem is given:
--       ∀ env s p u g, Inv s → KeysWf s → classOf s env (.chown p u g) = "-" → Refines env s (.chown p u g)
