/-
  C01 (history level) — "For any finite sequence of operations the in-memory backend behaves as a tree
  filesystem: every call returns what the reference returns and leaves the reference's tree".

  The per-step refinement theorems (Props/C01A: 25 ops, Props/C01B: 8 ops) carry state hypotheses
  (`Inv`, `KeysWf`, `EntriesOk`, `FlagsOk`, `ModeOk`, `DepthOk`).  This file discharges all of them but
  `DepthOk` for states reached from `Memfs.init`:

    RInv s  :=  C03_Strong s ∧ EntriesOk s ∧ KeysW s

  holds initially and is kept by every `GoodOp` call that returns (`C01R_good_step`), hence by every
  history of `GoodOp`s (`C01R_good_run_inv`), and it implies every side condition of C01A / C01B
  (`C01R_rinv_facts`); `C01_refines_history` is the refinement statement without invariant hypotheses.

  Per-constructor table (53 constructors of `Op`).  Columns: EntriesOk / KeysW (no `..` name) /
  ModeOk / FlagsOk(B); `+` = preserved at every exit (proved), `-` = NOT preserved (witness below).
  `ModeOk` and `FlagsOk`(B) are consequences of `EntriesOk`, the C03 invariants are covered by C03.

    op (constructors)                                                    EOk KeysW  via
    ------------------------------------------------------------------------------------------------
    28 read-only: readAll readLines read readlink readlinkAbs cwd root
      abs exists isFile isDir isSymlink isSymlinkDir isSymlinkFile
      isExec isReadonly mode uid gid owner entry paths dirs files
      allPaths allDirs allFiles entries                                    +    +    state unchanged
    mkfile mkdirP mkdirM(any mode) writeAll appendAll writeLines
      appendLines appendLine setCwd                                        +    +    StepAInv
    mkfileM(any mode) chmod(any mode) chmodB(any opts, follow too)         +    +    StepAInv (set_mode keeps the
                                                                                     permission bits of the
                                                                                     argument and ORs the
                                                                                     entry's type bits in)
    chown chownB(any opts)                                                 +    +    StepAInv
    hWrite hAppend hPut hFlush hDrop                                       +    +    StepAInv
    remove removeAll symlink                                               +    +    Tr calculus (ReachInv)
    moveP                                                                  +    +    MoveLinkRel / moveLoop_spec
    copy, copyB with follow = false                                        +    +    ReachCopy (two-state invariant)
    copyB with follow = true                                               -    -    witnesses C01R_copy_follow_*

  So, contrary to the expected suspects, mode arguments with foreign type bits or bits above 0o7777 do
  NOT break `EntriesOk`: since the `mode_type_bits` repair `set_mode` / `MemfsEntryOpts::mode` mask
  whatever is passed with 0o7777 before OR-ing the entry's own type bits in, so every stored mode is
  canonical (type bits of the kind plus permission bits) — which is what `EntriesOk` now asks for
  (before the repair it could only ask that the type bits of the kind are present; foreign bits
  survived, finding `mode_type_bits`, see Props/C02M).  Handle operations and `symlink` are harmless
  too.  The only offender is `copy_b(..).follow(true)`.

  DepthOk (every key shorter than usize::MAX components) is no invariant of the model (nothing bounds
  the depth `mkdir_p` can build) and stays a per-step side condition (`DepthDom`); it follows from
  "fewer than usize::MAX entries" (`C01_refines_history_small`).
  (This file cannot import Props/C10: Lemmas/Symlink and Lemmas/CopyMove both declare `dirOf_nil`.)
-/
import Rivia.Lemmas.ReachCopy
import Rivia.Props.C01A
import Rivia.Props.C01B
import Rivia.Props.C03

namespace Rivia.Props
open Rivia Rivia.Memfs Rivia.Spec Rivia.Spec.TreeFs Rivia.Lemmas
open Rivia.Lemmas.Reach (KeysW)

/-! ### the alphabet and the invariant -/

/-- the operations that keep every side invariant: everything but `copy_b(..).follow(true)` -/
def GoodOp : Op → Prop
  | .copyB _ _ c => c.follow = false
  | _ => True

instance : DecidablePred GoodOp := fun op => by unfold GoodOp; split <;> infer_instance

/-- the invariant of reachable states used here: C03's, the per-entry one of C01A, and "no name of a
    key or of the cwd is empty, `.`, `..` or contains `/`" -/
def RInv (s : State) : Prop := C03_Strong s ∧ RefineA.EntriesOk s ∧ KeysW s

instance (s : State) : Decidable (RInv s) := by unfold RInv KeysW; infer_instance

/-- every call of the history returns -/
def Returns (env : Env) (s : State) (ops : List Op) : Prop :=
  ∀ pre op post, ops = pre ++ op :: post → (step env (run env s pre) op).1 ≠ .hang

theorem C01R_init : RInv Memfs.init := by decide

/-- one `GoodOp` call that returns keeps the invariant (the "returns" hypothesis is C03's, for `move_p`) -/
theorem C01R_good_step (env : Env) (s : State) (op : Op) (hg : GoodOp op) (h : RInv s)
    (hh : (step env s op).1 ≠ .hang) : RInv (step env s op).2 := by
  refine ⟨C03_strong_step env s op h.1 hh, ?_⟩
  rcases InvAll.covered_all op with hc | hc | hc
  · exact ⟨Reach.entriesOk_step_A env s op hc h.2.1, Reach.keysW_step_A env s op hc h.2.2⟩
  · exact Reach.step_B_keeps env s op hc h.1.1 h.2
  · have hcn : Reach.copyNoFollow op := by
      unfold InvC.CoveredC at hc
      split at hc
      · trivial
      · exact hg
      · exact hc.elim
    exact Reach.step_copy_keeps env s op hcn h.1.1 h.2.1 h.2.2

theorem C01R_good_run (env : Env) (s : State) (ops : List Op) (hg : ∀ op ∈ ops, GoodOp op) (h : RInv s)
    (hh : InvAll.NoHangRun env s ops) : RInv (run env s ops) := by
  induction ops generalizing s with
  | nil => exact h
  | cons op ops ih =>
    exact ih _ (fun o ho => hg o (List.mem_cons_of_mem _ ho))
      (C01R_good_step env s op (hg op List.mem_cons_self) h hh.1) hh.2

/-- what `RInv` gives: every hypothesis of the step theorems of C01A / C01B except `DepthOk` -/
theorem C01R_rinv_facts {s : State} (h : RInv s) :
    Spec.Inv s ∧ C03_KeysWf s ∧ C03_SortedKids s ∧ C03_FlagsOk s ∧
    RefineA.KeysWf s ∧ RefineB.KeysWf s ∧ RefineA.EntriesOk s ∧ RefineB.FlagsOk s ∧ RefineB.ModeOk s :=
  have hB := Reach.keysWfB_of s h.1.1 h.2.2
  ⟨h.1.1, h.1.2.1, h.1.2.2.1, h.1.2.2.2, Reach.keysWfA_of s hB, hB, h.2.1,
    Reach.flagsOk_of_entriesOk h.2.1, Reach.modeOk_of_entriesOk h.2.1⟩

/-- **every state reached by a history of `GoodOp`s, each of which returns, satisfies all the side
    invariants** of the refinement theorems (all but `DepthOk`) -/
theorem C01R_good_run_inv (env : Env) (ops : List Op) (hg : ∀ op ∈ ops, GoodOp op)
    (hh : Returns env Memfs.init ops) :
    Spec.Inv (run env Memfs.init ops) ∧ C03_KeysWf (run env Memfs.init ops) ∧
    C03_SortedKids (run env Memfs.init ops) ∧ C03_FlagsOk (run env Memfs.init ops) ∧
    RefineA.KeysWf (run env Memfs.init ops) ∧ RefineB.KeysWf (run env Memfs.init ops) ∧
    RefineA.EntriesOk (run env Memfs.init ops) ∧ RefineB.FlagsOk (run env Memfs.init ops) ∧
    RefineB.ModeOk (run env Memfs.init ops) :=
  C01R_rinv_facts (C01R_good_run env _ ops hg C01R_init ((InvAll.noHangRun_iff env _ ops).2 hh))

/-! ### the refinement statement along histories -/

/-- the two relations of C01A and C01B are the same -/
theorem resMatch_A_iff_B (o : Outcome Val) (r : R Val) : RefineA.ResMatch o r ↔ RefineB.ResMatch o r := by
  cases o <;> cases r <;> first | exact Iff.rfl | (rename_i x; cases x <;> exact Iff.rfl)

theorem tEquiv_A_iff_B (a b : T) : RefineA.TEquiv a b ↔ RefineB.TEquiv a b := Iff.rfl

/-- the remaining side condition: the recursive traversals of `chown` / `chmod` stop descending at
    depth `usize::MAX`, the reference does not (`RefineB.DepthOk s`: every key has fewer than
    `2^64 - 1` components) -/
def DepthDom (s : State) : Op → Prop
  | .chown _ _ _ => RefineB.DepthOk s
  | .chownB _ c => c.follow = false → c.recursive = true → RefineB.DepthOk s
  | .chmod _ _ => RefineB.DepthOk s
  | .chmodB _ c => c.recursive = true → RefineB.DepthOk s
  | _ => True

instance (s : State) : DecidablePred (DepthDom s) := fun op => by unfold DepthDom; split <;> infer_instance

theorem domB_of (s : State) (op : Op) (h : RInv s) (hd : DepthDom s op) : DomB s op := by
  have hF := Reach.flagsOk_of_entriesOk h.2.1
  have hM := Reach.modeOk_of_entriesOk h.2.1
  cases op <;> first | exact trivial | exact hd | exact hF | exact ⟨hF, hM, hd⟩

/-- the operations whose refinement is proved: 25 of group A, 8 of group B -/
def Refined (op : Op) : Prop := RefineA.GroupA op = true ∨ GroupB op

instance : DecidablePred Refined := fun op => by unfold Refined; infer_instance

/-- one step from an `RInv` state -/
theorem C01R_refines_step (env : Env) (s : State) (op : Op) (h : RInv s) (hR : Refined op)
    (hc : classOf s env op = "-") (hd : DepthDom s op) (r : R Val) (t' : T)
    (hs : specStep env (absS s) op = some (r, t')) :
    RefineB.ResMatch (step env s op).1 r ∧
      (r ≠ .unspecified → RefineB.TEquiv (absS (step env s op).2) t') := by
  have hf := C01R_rinv_facts h
  rcases hR with hA | hB
  · have := C01_refines_step_groupA env s op hA hf.1 hf.2.2.2.2.1 hf.2.2.2.2.2.2.1 hc r t' hs
    exact ⟨(resMatch_A_iff_B _ _).1 this.1, this.2⟩
  · exact C01_refines_step_groupB env s op hB hf.1 hf.2.2.2.2.2.1 (domB_of s op h hd) hc r t' hs

/-- **C01 along histories**: after ANY history `pre` of `GoodOp`s (each call returning) from the fresh
    filesystem, a call of one of the 33 refined operations outside the known-finding classes returns
    what the reference returns on the abstraction of the current state and leaves a state whose
    abstraction is the reference's post-state.  No invariant hypothesis; `DepthDom` only for the
    recursive `chown` / `chmod` forms. -/
theorem C01_refines_history (env : Env) (pre : List Op) (op : Op)
    (hg : ∀ o ∈ pre, GoodOp o) (hh : Returns env Memfs.init pre) (hR : Refined op)
    (hc : classOf (run env Memfs.init pre) env op = "-") (hd : DepthDom (run env Memfs.init pre) op)
    (r : R Val) (t' : T)
    (hs : specStep env (absS (run env Memfs.init pre)) op = some (r, t')) :
    RefineB.ResMatch (step env (run env Memfs.init pre) op).1 r ∧
      (r ≠ .unspecified → RefineB.TEquiv (absS (step env (run env Memfs.init pre) op).2) t') :=
  C01R_refines_step env _ op
    (C01R_good_run env _ pre hg C01R_init ((InvAll.noHangRun_iff env _ pre).2 hh)) hR hc hd r t' hs

/-- `DepthDom` holds as soon as the tree has fewer than `usize::MAX` entries (every prefix of a key is a
    key of a well-formed tree, so a key of `n` components needs `n + 1` entries) -/
theorem C01R_depthDom_of_small (s : State) (op : Op) (h : RInv s) (hsmall : s.entries.length < 2 ^ 64 - 1) :
    DepthDom s op := by
  have hd := Reach.depthOk_of_small h.1.1 hsmall
  cases op <;> first | exact trivial | exact hd | exact fun _ => hd | exact fun _ _ => hd

/-- C01 along histories with the physical size bound in place of `DepthDom` -/
theorem C01_refines_history_small (env : Env) (pre : List Op) (op : Op)
    (hg : ∀ o ∈ pre, GoodOp o) (hh : Returns env Memfs.init pre) (hR : Refined op)
    (hc : classOf (run env Memfs.init pre) env op = "-")
    (hsmall : (run env Memfs.init pre).entries.length < 2 ^ 64 - 1) (r : R Val) (t' : T)
    (hs : specStep env (absS (run env Memfs.init pre)) op = some (r, t')) :
    RefineB.ResMatch (step env (run env Memfs.init pre) op).1 r ∧
      (r ≠ .unspecified → RefineB.TEquiv (absS (step env (run env Memfs.init pre) op).2) t') :=
  have hr := C01R_good_run env _ pre hg C01R_init ((InvAll.noHangRun_iff env _ pre).2 hh)
  C01R_refines_step env _ op hr hR hc (C01R_depthDom_of_small _ op hr hsmall) r t' hs

/-- the same for every position of one history -/
theorem C01_refines_history_all (env : Env) (ops : List Op)
    (hg : ∀ o ∈ ops, GoodOp o) (hh : Returns env Memfs.init ops) :
    ∀ pre op post, ops = pre ++ op :: post → Refined op →
      classOf (run env Memfs.init pre) env op = "-" → DepthDom (run env Memfs.init pre) op →
      ∀ r t', specStep env (absS (run env Memfs.init pre)) op = some (r, t') →
        RefineB.ResMatch (step env (run env Memfs.init pre) op).1 r ∧
          (r ≠ .unspecified → RefineB.TEquiv (absS (step env (run env Memfs.init pre) op).2) t') := by
  intro pre op post he hR hc hd r t' hs
  refine C01_refines_history env pre op (fun o ho => hg o ?_) ?_ hR hc hd r t' hs
  · rw [he]; exact List.mem_append_left _ ho
  · intro p o q hp
    exact hh p o (q ++ op :: post) (by rw [he, hp]; simp)

/-! ### `GoodOp` is the largest such alphabet: `copy_b(..).follow(true)` breaks both extra invariants -/

namespace C01RWitness
def S (s : String) : Str := s.toList
def dirE (p : FsPath) (fs : List Str) : Entry := { mkDirEntry p none with files := some fs }
def lnk (p t : FsPath) (rel : Str) : Entry :=
  { path := p, alt := some t, rel := rel, dir := false, file := true, link := true, mode := 0o120777,
    uid := 1000, gid := 1000, follow := false, cached := false, files := none }

/-- `/a/l2 -> /l1 -> /f` (what `mkdir_p /a; mkfile /f; symlink /l1 /f; symlink /a/l2 /l1` builds) -/
def wRel : State :=
  { entries := [([], dirE [] [S "a", S "f", S "l1"]), ([S "a"], dirE [S "a"] [S "l2"]),
                ([S "f"], mkFileEntry [S "f"]), ([S "l1"], lnk [S "l1"] [S "f"] (S "f")),
                ([S "a", S "l2"], lnk [S "a", S "l2"] [S "l1"] (S "../l1"))],
    files := [([S "f"], [])], cwd := [], root := [], handles := [] }

/-- `/x/l -> /x..` where `/x..` is a regular file
    (what `mkdir_p /x; mkfile /x..; symlink /x/l /x..` builds) -/
def wDots : State :=
  { entries := [([], dirE [] [S "x", S "x.."]), ([S "x"], dirE [S "x"] [S "l"]),
                ([S "x.."], mkFileEntry [S "x.."]), ([S "x", S "l"], lnk [S "x", S "l"] [S "x.."] (S "../x.."))],
    files := [([S "x.."], [])], cwd := [], root := [], handles := [] }
end C01RWitness
open C01RWitness

/-- `copy_b("/a", "/b").follow(true)`: the traversal follows `/a/l2` to `/l1`, which is itself a link; its
    entry is cloned to `/b/l1` with the `rel` it had in `/` (`"f"`), so `readlink("/b/l1")` names
    `/b/f` while `readlink_abs` says `/f` — the state leaves `EntriesOk` -/
theorem C01R_copy_follow_breaks_entriesOk :
    RInv wRel ∧ (step env0 wRel (.copyB (S "/a") (S "/b") { follow := true })).1 = .ok .unit ∧
    ¬ RefineA.EntriesOk (step env0 wRel (.copyB (S "/a") (S "/b") { follow := true })).2 ∧
    (alLookup [S "b", S "l1"] (step env0 wRel (.copyB (S "/a") (S "/b") { follow := true })).2.entries).map
      (fun e => (e.rel, e.alt)) = some (S "f", some [S "f"]) := by
  decide +kernel

/-- `copy_b("/x", "/d").follow(true)`: the followed path `/x..` is outside the source, `trim_prefix`
    strips the *string* prefix `/x` from it and the remainder `..` is mashed onto `/d`: an entry is
    stored under the key `/d/..` — the state leaves `KeysW` (and `RefineB.KeysWf`), `Inv` still holds -/
theorem C01R_copy_follow_breaks_keysW :
    RInv wDots ∧ (step env0 wDots (.copyB (S "/x") (S "/d") { follow := true })).1 = .ok .unit ∧
    (alLookup [S "d", S ".."] (step env0 wDots (.copyB (S "/x") (S "/d") { follow := true })).2.entries).isSome = true ∧
    ¬ KeysW (step env0 wDots (.copyB (S "/x") (S "/d") { follow := true })).2 ∧
    Spec.Inv (step env0 wDots (.copyB (S "/x") (S "/d") { follow := true })).2 := by
  decide +kernel

/-- the step statement for ALL operations is false -/
theorem C01R_all_ops_step_false :
    ¬ (∀ (env : Env) (s : State) (op : Op), RInv s → (step env s op).1 ≠ .hang → RInv (step env s op).2) := by
  intro h
  have w := C01R_copy_follow_breaks_entriesOk
  exact w.2.2.1 (h env0 wRel _ w.1 (by rw [w.2.1]; intro h0; cases h0)).2.1

/-! ### non-vacuity -/

namespace C01RWitness
/-- a history with a symlink, a `move_p` of that link into another directory, a copy and a chmod -/
def hist : List Op :=
  [.mkdirP (S "/a/b"), .writeAll (S "/a/b/f") [104, 105], .mkdirP (S "/d"), .symlink (S "/a/l") (S "/a/b/f"),
   .moveP (S "/a/l") (S "/d"), .copy (S "/a/b") (S "/c"), .chmod (S "/c") 0o750]
/-- the reference's answer (`R Val` has no decidable equality: two recognisers) -/
def isOkUnit : Option (R Val × T) → Bool | some (.ok .unit, _) => true | _ => false
def isOkStr (x : Str) : Option (R Val × T) → Bool | some (.ok (.str y), _) => x == y | _ => false
end C01RWitness

/-- the final state of a run in which every call returns, one evaluation of `step` per call -/
def runChk (env : Env) : State → List Op → Option State
  | s, [] => some s
  | s, op :: ops => match step env s op with
    | (.hang, _) => none
    | (_, s') => runChk env s' ops

theorem run_of_chk (env : Env) (s s' : State) (ops : List Op) (h : runChk env s ops = some s') :
    InvAll.NoHangRun env s ops ∧ run env s ops = s' := by
  induction ops generalizing s with
  | nil => cases h; exact ⟨trivial, rfl⟩
  | cons op ops ih =>
    unfold runChk at h
    rcases hs : step env s op with ⟨o, s₁⟩
    rw [hs] at h
    unfold InvAll.NoHangRun run
    rw [hs]
    cases o with
    | hang => cases h
    | ok v => exact ⟨⟨(fun h0 => by cases h0), (ih _ h).1⟩, (ih _ h).2⟩
    | err k => exact ⟨⟨(fun h0 => by cases h0), (ih _ h).1⟩, (ih _ h).2⟩
    | panic => exact ⟨⟨(fun h0 => by cases h0), (ih _ h).1⟩, (ih _ h).2⟩

theorem noHangRun_of_chk (env : Env) (s : State) (ops : List Op) (h : (runChk env s ops).isSome = true) :
    InvAll.NoHangRun env s ops := by
  cases h' : runChk env s ops with
  | none => rw [h'] at h; cases h
  | some s' => exact (run_of_chk env s s' ops h').1

/-- the state `hist` leaves: the link moved to `/d/l`, the copy `/c` with the mode of the `chmod` -/
def C01RWitness.histState : State :=
  { entries := [([], dirE [] [['a'], ['c'], ['d']]), ([['a']], dirE [['a']] [['b']]),
                ([['a'], ['b']], dirE [['a'], ['b']] [['f']]),
                ([['a'], ['b'], ['f']], mkFileEntry [['a'], ['b'], ['f']]),
                ([['d']], dirE [['d']] [['l']]),
                ([['d'], ['l']], lnk [['d'], ['l']] [['a'], ['b'], ['f']] ['.', '.', '/', 'a', '/', 'b', '/', 'f']),
                ([['c']], (dirE [['c']] [['f']]).setMode 0o750),
                ([['c'], ['f']], (mkFileEntry [['c'], ['f']]).setMode 0o750)],
    files := [([['a'], ['b'], ['f']], [104, 105]), ([['c'], ['f']], [104, 105])],
    cwd := [], root := [], handles := [] }

theorem C01R_hist_chk : runChk env0 Memfs.init hist = some histState := by decide +kernel

theorem C01R_hist_run : run env0 Memfs.init hist = histState := (run_of_chk _ _ _ _ C01R_hist_chk).2

theorem C01R_hist_returns : Returns env0 Memfs.init hist :=
  (InvAll.noHangRun_iff env0 _ _).1 (run_of_chk _ _ _ _ C01R_hist_chk).1

theorem C01R_hist_good : ∀ o ∈ hist, GoodOp o := by decide

/-- the moved link is where `move_p` put it, with the `rel` of its new directory -/
theorem C01R_hist_state :
    (alLookup [S "d", S "l"] (run env0 Memfs.init hist).entries).map (fun e => (e.link, e.rel, e.alt))
      = some (true, S "../a/b/f", some [S "a", S "b", S "f"]) := by
  rw [C01R_hist_run]
  decide +kernel

set_option maxRecDepth 100000 in
/-- every hypothesis of `C01_refines_history` holds for `pre := hist` and the next call
    `readlink "/d/l"` (group A) … -/
example : Refined (.readlink (S "/d/l")) ∧ classOf (run env0 Memfs.init hist) env0 (.readlink (S "/d/l")) = "-" ∧
    DepthDom (run env0 Memfs.init hist) (.readlink (S "/d/l")) ∧
    isOkStr (S "../a/b/f") (specStep env0 (absS (run env0 Memfs.init hist)) (.readlink (S "/d/l"))) = true := by
  rw [C01R_hist_run]
  decide +kernel

set_option maxRecDepth 100000 in
/-- … and for the next call `move_p "/d/l" "/a"` (group B) -/
example : Refined (.moveP (S "/d/l") (S "/a")) ∧
    classOf (run env0 Memfs.init hist) env0 (.moveP (S "/d/l") (S "/a")) = "-" ∧
    DepthDom (run env0 Memfs.init hist) (.moveP (S "/d/l") (S "/a")) ∧
    isOkUnit (specStep env0 (absS (run env0 Memfs.init hist)) (.moveP (S "/d/l") (S "/a"))) = true := by
  rw [C01R_hist_run]
  decide +kernel

/-- the conclusion, instantiated -/
example (r : R Val) (t' : T)
    (hs : specStep env0 (absS (run env0 Memfs.init hist)) (.moveP (S "/d/l") (S "/a")) = some (r, t')) :
    RefineB.ResMatch (step env0 (run env0 Memfs.init hist) (.moveP (S "/d/l") (S "/a"))).1 r ∧
      (r ≠ .unspecified →
        RefineB.TEquiv (absS (step env0 (run env0 Memfs.init hist) (.moveP (S "/d/l") (S "/a"))).2) t') :=
  C01_refines_history env0 hist (.moveP (S "/d/l") (S "/a")) C01R_hist_good C01R_hist_returns (Or.inr trivial)
    (by rw [C01R_hist_run]; decide +kernel) trivial r t' hs

end Rivia.Props

-- OPEN (not proved):
--   * `DepthOk` (no key has `usize::MAX` or more components) is kept as the per-step side condition
--     `DepthDom` for `chown` / `chmod` (or the size bound of `C01_refines_history_small`): it is no
--     invariant of the model; per-operation preservation of `DepthOk` was not examined (every operation
--     that creates no key keeps it trivially; `mkdir_p`, `copy`, `move_p` can lengthen keys).
