/-
  C01 (group A) — "Memfs behaves as a tree filesystem": one step of the model refines one step of the
  reference tree filesystem for the queries and the simple creators
  (`cwd root abs exists isDir isFile isSymlink isSymlinkDir isSymlinkFile isExec isReadonly mode uid gid
   owner readAll read readlink readlinkAbs setCwd mkfile mkdirP mkdirM writeAll appendAll`).

  The statement as given (hypotheses `Inv`, `KeysWf`, class "-") is FALSE: `Inv` does not constrain the
  per-entry flags / mode / link fields that the abstraction `absS` reads.  It is kept as
  `C01_refines_step_groupA_full`, refuted, and proved under the additional decidable per-entry
  invariant `EntriesOk` (which holds initially and is preserved by every group-A operation).
-/
import Rivia.Lemmas.RefineA
import Rivia.Lemmas.ReachInv

namespace Rivia.Props
open Rivia Rivia.Memfs Rivia.File Rivia.Spec Rivia.Spec.TreeFs Rivia.Lemmas.RefineA

/-- the refinement statement for one group-A step, exactly as specified -/
def C01_refines_step_groupA_full : Prop :=
  ∀ (env : Env) (s : State) (op : Op), GroupA op = true →
    Spec.Inv s → KeysWf s → classOf s env op = "-" →
    ∀ (r : R Val) (t' : T), specStep env (absS s) op = some (r, t') →
      ResMatch (step env s op).1 r ∧ (r ≠ .unspecified → TEquiv (absS (step env s op).2) t')

/-! ### witnesses: states that satisfy `Inv` and `KeysWf` but are not abstractions of a tree -/

def env0 : Env := fun _ => none

def rootWith (names : List Str) : Entry := { mkDirEntry [] none with files := some names }

/-- (1) the root directory's mode lost its type bits -/
def badMode : State := { Memfs.init with entries := [([], { mkDirEntry [] none with mode := 0 })] }

/-- (2) an entry that is neither `dir` nor `file` -/
def badFlags : State :=
  { Memfs.init with entries := [([], rootWith [['a']]), ([['a']], { mkFileEntry [['a']] with file := false })] }

/-- (3) a link without a target -/
def badLink : State :=
  { Memfs.init with entries := [([], rootWith [['a']]),
      ([['a']], { mkFileEntry [['a']] with link := true, mode := 0o120777 })] }

/-- (4) a link whose stored relative target is not its target relative to its directory
    (what `move_p` of a relative link into another directory leaves behind) -/
def badRel : State :=
  { Memfs.init with entries := [([], rootWith [['a']]),
      ([['a']], { mkFileEntry [['a']] with
                    link := true, mode := 0o120777, alt := some [['b']], rel := ['.', '.', '/', 'b'] })] }

theorem C01_cex_mode :
    Spec.Inv badMode ∧ KeysWf badMode ∧ classOf badMode env0 (.mode ['/']) = "-" ∧
    specStep env0 (absS badMode) (.mode ['/']) = some (.ok (.nat 0o40000), absS badMode) ∧
    (step env0 badMode (.mode ['/'])).1 = .ok (.nat 0) :=
  ⟨by decide, by decide, rfl, rfl, by decide⟩

theorem C01_cex_flags :
    Spec.Inv badFlags ∧ KeysWf badFlags ∧ classOf badFlags env0 (.isFile ['/', 'a']) = "-" ∧
    specStep env0 (absS badFlags) (.isFile ['/', 'a']) = some (.ok (.bool true), absS badFlags) ∧
    (step env0 badFlags (.isFile ['/', 'a'])).1 = .ok (.bool false) :=
  ⟨by decide, by decide, rfl, rfl, by decide⟩

theorem C01_cex_link_target :
    Spec.Inv badLink ∧ KeysWf badLink ∧ classOf badLink env0 (.readlinkAbs ['/', 'a']) = "-" ∧
    specStep env0 (absS badLink) (.readlinkAbs ['/', 'a']) = some (.err none, absS badLink) ∧
    (step env0 badLink (.readlinkAbs ['/', 'a'])).1 = .ok (.path []) :=
  ⟨by decide, by decide, rfl, rfl, by decide⟩

/-- a link whose stored `rel` is stale (as `move_p` of a link leaves it): the class
    `moved_link_rel_stale` of `classOf` now flags it (known finding C10/moved_link_rel_stale) -/
theorem C01_cex_link_rel :
    Spec.Inv badRel ∧ KeysWf badRel ∧ classOf badRel env0 (.readlink ['/', 'a']) = "moved_link_rel_stale" ∧
    specStep env0 (absS badRel) (.readlink ['/', 'a']) = some (.ok (.str ['b']), absS badRel) ∧
    (step env0 badRel (.readlink ['/', 'a'])).1 = .ok (.str ['.', '.', '/', 'b']) :=
  ⟨by decide, by decide, by decide, rfl, by decide⟩

/-- the statement without `EntriesOk` is false (witness: `badMode`, op `mode "/"`) -/
theorem C01_refines_step_groupA_full_false : ¬ C01_refines_step_groupA_full := by
  intro h
  obtain ⟨hI, hK, hC, hS, hM⟩ := C01_cex_mode
  have := (h env0 badMode (.mode ['/']) rfl hI hK hC _ _ hS).1
  rw [hM] at this
  exact absurd this (by simp)

/-! ### the theorem -/

/-- C01, group A (partial: domain `EntriesOk s`, a decidable per-entry invariant): each group-A call
    returns what the reference returns and leaves a state whose abstraction is the reference's
    post-state -/
theorem C01_refines_step_groupA (env : Env) (s : State) (op : Op) (hA : GroupA op = true)
    (hI : Spec.Inv s) (_hK : KeysWf s) (hOk : EntriesOk s) (_hC : classOf s env op = "-")
    (r : R Val) (t' : T) (h : specStep env (absS s) op = some (r, t')) :
    ResMatch (step env s op).1 r ∧ (r ≠ .unspecified → TEquiv (absS (step env s op).2) t') :=
  refines_step_groupA env s op hA hI hOk r t' h

/-- group-A queries never change the state (no hypothesis on the state) -/
theorem C01_queries_pure (env : Env) (s : State) (op : Op) (hQ : GroupAQuery op = true) :
    (step env s op).2 = s :=
  Lemmas.InvA.step_readonly env s op (by cases op <;> first | exact Bool.noConfusion hQ | rfl)

/-- the extra invariant holds initially … -/
theorem C01_init_entriesOk : Spec.Inv Memfs.init ∧ KeysWf Memfs.init ∧ EntriesOk Memfs.init := by decide

/-- … and every group-A operation preserves it -/
theorem C01_groupA_preserves_entriesOk (env : Env) (s : State) (op : Op) (hA : GroupA op = true)
    (hs : EntriesOk s) : EntriesOk (step env s op).2 :=
  Lemmas.Reach.entriesOk_step_A env s op (by cases op <;> first | rfl | exact Bool.noConfusion hA) hs

/-- every group-A operation is covered by the reference, except `mkdir_m` with a mode outside
    `1 … 0o7777` -/
theorem C01_groupA_covered (env : Env) (t : T) (op : Op) (hA : GroupA op = true)
    (hm : ∀ p m, op = .mkdirM p m → permOk m = true ∧ m ≠ 0) : (specStep env t op).isSome = true := by
  cases op with
  | mkdirM p m =>
    show (if permOk m = true ∧ m ≠ 0 then some _ else none : Option SR).isSome = true
    rw [if_pos (hm p m rfl)]
    rfl
  | _ => first | rfl | exact Bool.noConfusion hA

/-! ### non-vacuity: a non-trivial state in the domain -/

def okState : State :=
  { entries := [([], rootWith [['d'], ['l']]),
                ([['d']], { mkDirEntry [['d']] none with files := some [['f']] }),
                ([['d'], ['f']], mkFileEntry [['d'], ['f']]),
                ([['l']], { path := [['l']], alt := some [['d'], ['f']], rel := ['d', '/', 'f'], dir := false,
                            file := true, link := true, mode := 0o120777, uid := 1000, gid := 1000,
                            follow := false, cached := false, files := none })],
    files := [([['d'], ['f']], [104, 105])], cwd := [['d']], root := [], handles := [] }

example : Spec.Inv okState ∧ KeysWf okState ∧ EntriesOk okState ∧
    GroupA (.appendAll ['f'] [33]) = true ∧ classOf okState env0 (.appendAll ['f'] [33]) = "-" :=
  ⟨by decide, by decide, by decide, rfl, rfl⟩

end Rivia.Props
