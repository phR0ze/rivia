/-
  C02M — finding `mode_type_bits` (property C02, "backends interchangeable") REPAIRED.

  Before the repair `MemfsEntryOpts::mode` OR-ed the entry's type bits onto the *whole* given mode, so a
  mode argument carrying the type bits of another kind survived in Memfs (`mkfile_m("/f", 0o40755)`
  made `mode("/f") = 0o140755`) while Stdfs hands the argument to chmod(2), which keeps the permission
  bits only (`0o100755`).  The repair masks the given-or-default mode with `0o7777` for every physical
  entry (link, file, directory) before the entry's own type bits are OR-ed in; the flag-less
  intermediate builder object (`MemfsEntry::opts(p).mode(m)` before `.dir()`/`build()`) still takes
  the mode as is, and `build()` then runs it through the directory branch.

  Here: for ANY `mode : Nat`
  * `C02M_mode_masked`      — `optsMode` (= `MemfsEntryOpts::mode(Some(mode))`) of a physical entry is
                              exactly `(mode &&& 0o7777) ||| typeBits kind`;
  * `C02M_perm_bits`, `C02M_type_bits` — its permission bits are those of `mode`, its `S_IFMT` bits
                              are those of the entry's kind (no foreign type bit survives);
  * `C02M_setMode_*`        — `set_mode` (what `chmod`, `mkfile_m`, `copy` use): the abstract node
                              gets `perm := mode &&& 0o7777`, which is what `Posix.chmod` (the chmod(2)
                              model under Stdfs) stores — for every mode argument;
  * `C02M_mkDirEntry_*`     — the two-stage computation of `_mkdir_m`;
  * `C02M_reachable_modes_canonical` — along every history of `GoodOp`s from `Memfs.init` every stored
                              mode is canonical (permission bits plus the type bits of the entry's
                              kind): `mode()` never reports a foreign type bit, whatever mode
                              arguments the history used.  (`EntriesOk` of C01 was strengthened by
                              this clause; it is false of the pre-repair model.)
  * the old witness is now a point of agreement (`C02M_old_witness_repaired`, both backends, and the
    abstraction of the Memfs post-state IS the Stdfs post-state), plus `chmod`/`mkdir_m` examples.
-/
import Rivia.Lemmas.ModeBits
import Rivia.Spec.MemfsJudge
import Rivia.Model.MemfsOps
import Rivia.Model.Stdfs
import Rivia.Props.C01R

namespace Rivia.Props
open Rivia Rivia.Memfs Rivia.Spec Rivia.Spec.TreeFs Rivia.Lemmas.ModeBits

/-! ### `MemfsEntryOpts::mode(Some(mode))` -/

/-- the three flag patterns `optsMode` distinguishes (a link wins over file/dir, a file over dir) -/
theorem C02M_mode_masked_flags (file dir : Bool) (mode : Nat) :
    optsMode true file dir (some mode) = (mode &&& 0o7777) ||| 0o120000 ∧
    optsMode false true dir (some mode) = (mode &&& 0o7777) ||| 0o100000 ∧
    optsMode false false true (some mode) = (mode &&& 0o7777) ||| 0o40000 ∧
    optsMode false false false (some mode) = mode := by
  simp [optsMode_some]

/-- **the repair**: for every entry of a physical kind (the flags every stored entry has: a link, or
    exactly one of file/dir) and EVERY mode argument, `MemfsEntryOpts::mode(Some(mode))` is the
    permission bits of the argument plus the type bits of the entry's kind -/
theorem C02M_mode_masked (e : Entry) (mode : Nat) (hf : e.link = false → e.dir = !e.file) :
    optsMode e.link e.file e.dir (some mode) = (mode &&& 0o7777) ||| typeBits (kindOf e) := by
  rw [optsMode_some]
  unfold kindOf
  cases hl : e.link with
  | true => simp [typeBits]
  | false =>
    have := hf hl
    cases hfl : e.file <;> rw [hfl] at this <;> simp [this, typeBits]

theorem C02M_typeBits_and_perm (k : Kind) : typeBits k &&& 0o7777 = 0 := by cases k <;> simp [typeBits]
theorem C02M_typeBits_and_ifmt (k : Kind) : typeBits k &&& 0o170000 = typeBits k := by
  cases k with
  | dir => exact (by decide : (0o40000 : Nat) &&& 0o170000 = 0o40000)
  | file => exact (by decide : (0o100000 : Nat) &&& 0o170000 = 0o100000)
  | link b => exact (by decide : (0o120000 : Nat) &&& 0o170000 = 0o120000)
theorem C02M_typeBits_cases (k : Kind) : typeBits k = 0o40000 ∨ typeBits k = 0o100000 ∨ typeBits k = 0o120000 := by
  cases k <;> simp [typeBits]

/-- exactly the permission bits of the argument … -/
theorem C02M_perm_bits (e : Entry) (mode : Nat) (hf : e.link = false → e.dir = !e.file) :
    optsMode e.link e.file e.dir (some mode) &&& 0o7777 = mode &&& 0o7777 := by
  rw [C02M_mode_masked e mode hf]
  exact perm_of_or _ _ (C02M_typeBits_and_perm _)

/-- … and exactly the file-type bits (`S_IFMT`) of the entry's own kind: no foreign type bit survives -/
theorem C02M_type_bits (e : Entry) (mode : Nat) (hf : e.link = false → e.dir = !e.file) :
    optsMode e.link e.file e.dir (some mode) &&& 0o170000 = typeBits (kindOf e) := by
  rw [C02M_mode_masked e mode hf]
  exact type_of_or _ _ (C02M_typeBits_and_ifmt _)

/-! ### `set_mode` (used by `chmod`, `mkfile_m`, `copy`) against chmod(2) -/

theorem C02M_setMode_mode (e : Entry) (mode : Nat) (hf : e.link = false → e.dir = !e.file) :
    (e.setMode mode).mode = (mode &&& 0o7777) ||| typeBits (kindOf e) :=
  C02M_mode_masked e mode hf

/-- the abstract node after `set_mode(Some(mode))`: same kind, owner, target, data; the permission is
    `mode &&& 0o7777` — literally what `Posix.chmod` stores (`{ n with perm := mode &&& 0o7777 }`).
    No bound on `mode` (before the repair this needed `mode < 0o10000`). -/
theorem C02M_setMode_absNode (s : State) (k : FsPath) (e : Entry) (mode : Nat)
    (hf : e.link = false → e.dir = !e.file) :
    absNode s k (e.setMode mode) = { absNode s k e with perm := mode &&& 0o7777 } := by
  have hk : kindOf (e.setMode mode) = kindOf e := rfl
  have hp : (e.setMode mode).mode - typeBits (kindOf e) = mode &&& 0o7777 := by
    rw [C02M_setMode_mode e mode hf]
    exact or_sub_typeBits _ _ (and_perm_lt mode) (C02M_typeBits_cases _)
  have h1 : absNode s k (e.setMode mode) =
      { absNode s k e with perm := (e.setMode mode).mode - typeBits (kindOf e) } := rfl
  rw [h1, hp]

/-- `Posix.chmod` on an existing non-link node and `set_mode` on the corresponding Memfs entry store
    the same permission, for every mode argument -/
theorem C02M_chmod_agrees (s : State) (k : FsPath) (e : Entry) (mode : Nat)
    (hf : e.link = false → e.dir = !e.file) :
    (absNode s k (e.setMode mode)).perm = ({ absNode s k e with perm := mode &&& 0o7777 } : Node).perm ∧
    (absNode s k (e.setMode mode)).mode = typeBits (kindOf e) ||| (mode &&& 0o7777) := by
  rw [C02M_setMode_absNode s k e mode hf]
  exact ⟨rfl, rfl⟩

/-! ### `_mkdir_m`: `MemfsEntry::opts(path).mode(mode).build()` -/

/-- the two-stage computation: the flag-less builder keeps the argument, `build()` → `.dir()` masks it
    (a zero argument, like no argument, gives the default 0o40755) -/
theorem C02M_mkDirEntry_mode (p : FsPath) (mode : Nat) :
    (mkDirEntry p (some mode)).mode = if mode = 0 then 0o40755 else (mode &&& 0o7777) ||| 0o40000 := by
  unfold mkDirEntry
  by_cases h : mode = 0
  · subst h; rfl
  · simp [optsMode_some, h]

theorem C02M_mkDirEntry_none (p : FsPath) : (mkDirEntry p none).mode = 0o40755 := rfl

/-- whatever the argument, a created directory has the directory type bits and nothing else above the
    permission bits -/
theorem C02M_mkDirEntry_type_bits (p : FsPath) (mode : Option Nat) :
    (mkDirEntry p mode).mode &&& 0o170000 = 0o40000 := by
  cases mode with
  | none => rw [C02M_mkDirEntry_none]; decide
  | some m =>
    rw [C02M_mkDirEntry_mode]
    split
    · decide
    · exact type_of_or m 0o40000 (by decide)

/-- the abstract permission of a directory created by `mkdir_m(p, mode)`, `mode ≠ 0`: the permission
    bits of the argument (Stdfs: `mkdir` + `chmod(2)` = `mode &&& 0o7777`) -/
theorem C02M_mkDirEntry_perm (p : FsPath) (mode : Nat) (h : mode ≠ 0) :
    (mkDirEntry p (some mode)).mode - typeBits .dir = mode &&& 0o7777 := by
  rw [C02M_mkDirEntry_mode, if_neg h]
  exact or_sub_typeBits _ _ (and_perm_lt mode) (Or.inl rfl)

/-! ### history level: no reachable entry has a foreign type bit -/

/-- on a state satisfying the C01 side invariant `EntriesOk` every stored mode is canonical -/
theorem C02M_entriesOk_modes_canonical {s : State} (h : Lemmas.RefineA.EntriesOk s) {k : FsPath} {e : Entry}
    (hk : alLookup k s.entries = some e) :
    (e.mode &&& 0o7777) ||| typeBits (kindOf e) = e.mode ∧ e.mode &&& 0o170000 = typeBits (kindOf e) :=
  Lemmas.Reach.mode_canon_of_entryOk (Lemmas.Reach.entriesOk_at h hk)

/-- **every state reached from `Memfs.init` by a history of `GoodOp`s (everything but
    `copy_b(..).follow(true)`), each of which returns**: every entry's mode is its permission bits plus
    the type bits of its kind — for arbitrary mode arguments in the history -/
theorem C02M_reachable_modes_canonical (env : Env) (ops : List Op) (hg : ∀ op ∈ ops, GoodOp op)
    (hh : Returns env Memfs.init ops) {k : FsPath} {e : Entry}
    (hk : alLookup k (run env Memfs.init ops).entries = some e) :
    (e.mode &&& 0o7777) ||| typeBits (kindOf e) = e.mode ∧ e.mode &&& 0o170000 = typeBits (kindOf e) :=
  C02M_entriesOk_modes_canonical (C01R_good_run_inv env ops hg hh).2.2.2.2.2.2.1 hk

/-- in particular the source-mode hypothesis `hmode` of `C09_copy_file_partial` holds for every regular
    file of such a state -/
theorem C02M_reachable_file_mode (env : Env) (ops : List Op) (hg : ∀ op ∈ ops, GoodOp op)
    (hh : Returns env Memfs.init ops) {k : FsPath} {e : Entry}
    (hk : alLookup k (run env Memfs.init ops).entries = some e) (hl : e.link = false) (hd : e.dir = false) :
    (e.mode &&& 0o7777) ||| 0o100000 = e.mode := by
  have := (C02M_reachable_modes_canonical env ops hg hh hk).1
  have hkind : kindOf e = .file := by unfold kindOf; simp [hl, hd]
  rw [hkind] at this
  exact this

/-! ### the old witness is a point of agreement -/

namespace C02MWitness
def envN : Env := fun _ => none
def f : Str := ['/', 'f']
def d : Str := ['/', 'd']
/-- Memfs after `mkfile_m("/f", 0o40755)` -/
def sF : State := (Memfs.step envN Memfs.init (.mkfileM f 0o40755)).2
/-- Stdfs after the same call -/
def tF : T := (Stdfs.step envN Stdfs.init (.mkfileM f 0o40755)).2
end C02MWitness
open C02MWitness

/-- `mkfile_m("/f", 0o40755)` (a file created with directory type bits in the mode argument): both
    backends now report `mode("/f") = 0o100755` (Memfs reported 0o140755 before the repair), and the
    abstraction of the Memfs post-state is the Stdfs post-state -/
theorem C02M_old_witness_repaired :
    (Memfs.step envN Memfs.init (.mkfileM f 0o40755)).1 = .ok (.path [['f']]) ∧
    (Stdfs.step envN Stdfs.init (.mkfileM f 0o40755)).1 = .ok (.path [['f']]) ∧
    (Memfs.step envN sF (.mode f)).1 = .ok (.nat 0o100755) ∧
    (Stdfs.step envN tF (.mode f)).1 = .ok (.nat 0o100755) ∧
    absS sF = tF := by
  decide +kernel

/-- `chmod` of the file with foreign type bits, and of the root directory with file type bits:
    both backends keep the permission bits only -/
theorem C02M_chmod_examples :
    (Memfs.step envN (Memfs.step envN sF (.chmod f 0o40700)).2 (.mode f)).1 = .ok (.nat 0o100700) ∧
    (Stdfs.step envN (Stdfs.step envN tF (.chmod f 0o40700)).2 (.mode f)).1 = .ok (.nat 0o100700) ∧
    (Memfs.step envN (Memfs.step envN Memfs.init (.chmod ['/'] 0o100700)).2 (.mode ['/'])).1 = .ok (.nat 0o40700) ∧
    (Stdfs.step envN (Stdfs.step envN Stdfs.init (.chmod ['/'] 0o100700)).2 (.mode ['/'])).1 = .ok (.nat 0o40700) := by
  decide +kernel

/-- `mkdir_m("/d", 0o100700)`: a directory created with file type bits in the mode argument -/
theorem C02M_mkdir_m_example :
    (Memfs.step envN (Memfs.step envN Memfs.init (.mkdirM d 0o100700)).2 (.mode d)).1 = .ok (.nat 0o40700) ∧
    (Stdfs.step envN (Stdfs.step envN Stdfs.init (.mkdirM d 0o100700)).2 (.mode d)).1 = .ok (.nat 0o40700) ∧
    absS (Memfs.step envN Memfs.init (.mkdirM d 0o100700)).2 = (Stdfs.step envN Stdfs.init (.mkdirM d 0o100700)).2 := by
  decide +kernel

/-- non-vacuity of the history theorem: a history whose mode arguments all carry foreign type bits -/
def C02MWitness.hist : List Op :=
  [.mkfileM f 0o40755, .chmod ['/'] 0o100700, .mkdirM d 0o100700, .chmod f 0o140644]

example : (∀ o ∈ C02MWitness.hist, GoodOp o) ∧ Returns envN Memfs.init C02MWitness.hist :=
  ⟨by decide, (Lemmas.InvAll.noHangRun_iff envN _ _).1 (noHangRun_of_chk _ _ _ (by decide +kernel))⟩

example : (run envN Memfs.init C02MWitness.hist).entries.map (fun kv => (kv.1, kv.2.mode)) =
    [([], 0o40700), ([['f']], 0o100644), ([['d']], 0o40700)] := by decide +kernel

/-- non-vacuity of the flag hypothesis: the entries the model creates satisfy it -/
example : ((mkFileEntry [['f']]).link = false → (mkFileEntry [['f']]).dir = !(mkFileEntry [['f']]).file) ∧
    ((mkDirEntry [['d']] none).link = false → (mkDirEntry [['d']] none).dir = !(mkDirEntry [['d']] none).file) := by
  decide

/-- the flag hypothesis cannot be dropped: an entry claiming to be a file AND a directory gets the file
    bits from `optsMode` while the abstraction classifies it as a directory -/
example : let e : Entry := { mkFileEntry [['g']] with dir := true }
    optsMode e.link e.file e.dir (some 0o700) ≠ (0o700 &&& 0o7777) ||| typeBits (kindOf e) := by decide +kernel

end Rivia.Props
