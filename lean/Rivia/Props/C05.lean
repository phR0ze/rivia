/-
  C05 — `abs()` maps any path to a clean absolute path, identically on both backends; every other
  VFS method reads its path arguments through the same resolution.
  Property theorems ONLY (helper lemmas live in Rivia/Lemmas/Abs.lean, Rivia/Lemmas/AbsMemfs.lean).

  Vocabulary (all decidable):
  * `isRooted cwd = true ∧ NormalForm cwd` — `cwd` is a clean absolute path (`NormalForm` from
    Lemmas/Clean.lean: no `//`, no `.`, no inner `..`, no trailing `/`).
  * `Lemmas.depth cwd` — number of names of `cwd`; `Lemmas.upCount c` — length of the leading
    `..` run of `c`; `Lemmas.ClimbsAboveRoot cwd x` — `x` is relative and the `..` run of
    `goClean x` is longer than `depth cwd`.
  * `Lemmas.NoSpecial p` — neither `~` nor `$` occurs in `p`.
-/
import Rivia.Model.Path
import Rivia.Model.MemfsOps
import Rivia.Spec.GoClean
import Rivia.Lemmas.Abs
import Rivia.Lemmas.AbsMemfs

namespace Rivia.Props
open Rivia Rivia.Str Rivia.Spec Rivia.Lemmas Rivia.Memfs

/-! ### 1. both backends -/

/-- `Memfs::_abs` and `Stdfs::abs` (two separate transcriptions) are the same function of
    (environment, cwd, path). -/
theorem C05_abs_backends_equal (env : Env) (cwd s : Str) :
    absWith env cwd s = absStdWith env cwd s :=
  (absStdWith_eq env cwd s).symm

/-! ### 2. totality and errors -/

/-- `abs` never panics or hangs, for any `cwd` string whatsoever. -/
theorem C05_abs_never_panics (env : Env) (cwd s : Str) :
    absWith env cwd s ≠ .panic ∧ absWith env cwd s ≠ .hang :=
  absWith_total env cwd s

/-- `expand` (the `~` / `$VAR` stage) never panics or hangs either, and fails only with
    MultipleHomeSymbols, InvalidExpansion or Var. -/
theorem C05_expand_outcomes (env : Env) (s : Str) :
    expand env s ≠ .panic ∧ expand env s ≠ .hang ∧
      ∀ k, expand env s = .err k → k = .multipleHomeSymbols ∨ k = .invalidExpansion ∨ k = .var :=
  ⟨(expand_total env s).1, (expand_total env s).2, fun _ hk => expand_err_kind hk⟩

/-- `abs` fails only for an empty path, a failed expansion, or `..` climbing above the root. -/
theorem C05_abs_errors {env : Env} {cwd s : Str} {k : ErrKind}
    (hcwd : isRooted cwd = true ∧ NormalForm cwd) (h : absWith env cwd s = .err k) :
    (s = [] ∧ k = .empty) ∨ expand env s = .err k ∨
      (k = .parentNotFound ∧ ∃ e, expand env s = .ok e ∧ ClimbsAboveRoot cwd (trimProtocol e)) := by
  rcases absWith_err_cases h with h1 | h1 | ⟨rfl, _, _⟩
  · exact Or.inl h1
  · exact Or.inr (Or.inl h1)
  · exact Or.inr (Or.inr ⟨rfl, ((absWith_parentNotFound_iff hcwd.1 hcwd.2).1 h).2⟩)

/-- exact characterisation of the three failures -/
theorem C05_abs_empty_iff (env : Env) (cwd s : Str) :
    absWith env cwd s = .err .empty ↔ s = [] := by
  constructor
  · intro h
    rcases absWith_err_cases h with h1 | h1 | ⟨h1, _⟩
    · exact h1.1
    · rcases expand_err_kind h1 with h2 | h2 | h2 <;> cases h2
    · cases h1
  · rintro rfl; rfl

theorem C05_abs_parentNotFound_iff {env : Env} {cwd s : Str}
    (hcwd : isRooted cwd = true ∧ NormalForm cwd) :
    absWith env cwd s = .err .parentNotFound ↔
      s ≠ [] ∧ ∃ e, expand env s = .ok e ∧ ClimbsAboveRoot cwd (trimProtocol e) :=
  absWith_parentNotFound_iff hcwd.1 hcwd.2

/-- for an arbitrary `cwd` string the only additional behaviour is still ParentNotFound -/
theorem C05_abs_errors_any_cwd {env : Env} {cwd s : Str} {k : ErrKind}
    (h : absWith env cwd s = .err k) :
    (s = [] ∧ k = .empty) ∨ expand env s = .err k ∨ k = .parentNotFound := by
  rcases absWith_err_cases h with h1 | h1 | ⟨h1, _⟩
  · exact Or.inl h1
  · exact Or.inr (Or.inl h1)
  · exact Or.inr (Or.inr h1)

/-! ### 3. shape of the result -/

/-- against a clean absolute `cwd` the result is a clean absolute path -/
theorem C05_abs_shape {env : Env} {cwd s p : Str}
    (hcwd : isRooted cwd = true ∧ NormalForm cwd) (h : absWith env cwd s = .ok p) :
    isRooted p = true ∧ NormalForm p :=
  absWith_shape hcwd.1 hcwd.2 h

/-! ### 4. the result is the lexical join -/

/-- ONE equation: the result is Go's `path.Clean` of `cwd.push(arg)` where `arg` is the argument
    after `~`/variable expansion and protocol trimming (`push` of an absolute `arg` replaces the
    buffer, otherwise it is `cwd ++ "/" ++ arg`). -/
theorem C05_abs_is_join {env : Env} {cwd s p : Str}
    (hcwd : isRooted cwd = true ∧ NormalForm cwd) (h : absWith env cwd s = .ok p) :
    ∃ e, expand env s = .ok e ∧ p = goClean (push cwd (trimProtocol e)) := by
  obtain ⟨e, he, _, hp⟩ := absWith_ok_join hcwd.1 hcwd.2 h
  exact ⟨e, he, hp⟩

/-- the complete input/output description of `abs` on a non-empty path whose expansion succeeds -/
theorem C05_abs_characterisation {env : Env} {cwd s e : Str}
    (hcwd : isRooted cwd = true ∧ NormalForm cwd) (hs : s ≠ []) (he : expand env s = .ok e) :
    absWith env cwd s =
      if ClimbsAboveRoot cwd (trimProtocol e) then .err .parentNotFound
      else .ok (goClean (push cwd (trimProtocol e))) := by
  rw [absWith_of_expand hs he, absCore_eq hcwd.1 hcwd.2]

/-- climbing exactly to the root is fine, one more `..` is not (cwd = /x/y) -/
example : absWith (fun _ => none) "/x/y".toList "../..".toList = .ok "/".toList := by
  decide +kernel
example : absWith (fun _ => none) "/x/y".toList "../../..".toList = .err .parentNotFound := by
  decide +kernel

/-- no IO: `abs` is a function of (environment, cwd, path) only, and the Memfs call leaves the
    whole filesystem state untouched -/
theorem C05_abs_no_state_change (env : Env) (p : Str) (st : State) : (absM env p st).2 = st :=
  absM_state env p st

/-! ### 5. idempotence -/

/-- Full statement (false): `abs (abs s) = abs s` for every result. -/
def C05_abs_idempotent_full : Prop :=
  ∀ (env : Env) (cwd s p : Str), isRooted cwd = true ∧ NormalForm cwd →
    absWith env cwd s = .ok p → absWith env cwd p = .ok p

/-- Finding: with `HOME=/h~x`, `abs("~")` succeeds with `/h~x`, and `abs` of that result fails with
    InvalidExpansion (the `~` inside the result is read as a misplaced home symbol). Any `cwd`. -/
theorem C05_finding_home_with_tilde (cwd : Str) :
    absWith envTildeHome cwd "~".toList = .ok "/h~x".toList ∧
    absWith envTildeHome cwd "/h~x".toList = .err .invalidExpansion :=
  ⟨abs_tilde_envTildeHome cwd, abs_home_envTildeHome cwd⟩

theorem C05_abs_idempotent_full_false : ¬ C05_abs_idempotent_full := by
  intro h
  have h1 := h envTildeHome ['/'] "~".toList "/h~x".toList (by decide)
    (C05_finding_home_with_tilde ['/']).1
  rw [(C05_finding_home_with_tilde ['/']).2] at h1
  cases h1

/-- Partial (domain: the result contains neither `~` nor `$`): `abs` is idempotent. -/
theorem C05_abs_idempotent_partial {env : Env} {cwd s p : Str}
    (hcwd : isRooted cwd = true ∧ NormalForm cwd) (h : absWith env cwd s = .ok p)
    (hp : NoSpecial p) : absWith env cwd p = .ok p :=
  absWith_idem hcwd.1 hcwd.2 h hp

/-- more generally `abs` fixes every clean absolute path without `~`/`$`, whatever the `cwd` -/
theorem C05_abs_fixes_clean_absolute (env : Env) (cwd : Str) {p : Str}
    (hp : isRooted p = true ∧ NormalForm p) (hs : NoSpecial p) : absWith env cwd p = .ok p :=
  absWith_fixed env cwd hp.1 hp.2 hs

/-- non-vacuity of the partial statement -/
example : ∃ (env : Env) (cwd s p : Str), (isRooted cwd = true ∧ NormalForm cwd) ∧
    absWith env cwd s = .ok p ∧ NoSpecial p ∧ p ≠ s :=
  ⟨fun _ => none, "/x".toList, "a/../b".toList, "/x/b".toList, by decide +kernel⟩

/-! ### 6. every other method reads its paths through `abs` (Memfs) -/

/-- the operations with exactly one resolved path argument (every `Op` constructor with a single
    path, plus the link argument of `symlink`) -/
inductive SinglePathOp : (Str → Op) → Prop
  | mkfile : SinglePathOp .mkfile
  | mkfileM (mode : Nat) : SinglePathOp (.mkfileM · mode)
  | mkdirP : SinglePathOp .mkdirP
  | mkdirM (mode : Nat) : SinglePathOp (.mkdirM · mode)
  | writeAll (d : File.Bytes) : SinglePathOp (.writeAll · d)
  | appendAll (d : File.Bytes) : SinglePathOp (.appendAll · d)
  | writeLines (ls : List Str) : SinglePathOp (.writeLines · ls)
  | appendLines (ls : List Str) : SinglePathOp (.appendLines · ls)
  | appendLine (l : Str) : SinglePathOp (.appendLine · l)
  | readAll : SinglePathOp .readAll
  | readLines : SinglePathOp .readLines
  | read : SinglePathOp .read
  | remove : SinglePathOp .remove
  | removeAll : SinglePathOp .removeAll
  | symlinkLink (target : Str) : SinglePathOp (.symlink · target)
  | readlink : SinglePathOp .readlink
  | readlinkAbs : SinglePathOp .readlinkAbs
  | setCwd : SinglePathOp .setCwd
  | abs : SinglePathOp .abs
  | exists : SinglePathOp .exists
  | isFile : SinglePathOp .isFile
  | isDir : SinglePathOp .isDir
  | isSymlink : SinglePathOp .isSymlink
  | isSymlinkDir : SinglePathOp .isSymlinkDir
  | isSymlinkFile : SinglePathOp .isSymlinkFile
  | isExec : SinglePathOp .isExec
  | isReadonly : SinglePathOp .isReadonly
  | mode : SinglePathOp .mode
  | uid : SinglePathOp .uid
  | gid : SinglePathOp .gid
  | owner : SinglePathOp .owner
  | entry : SinglePathOp .entry
  | paths : SinglePathOp .paths
  | dirs : SinglePathOp .dirs
  | files : SinglePathOp .files
  | allPaths : SinglePathOp .allPaths
  | allDirs : SinglePathOp .allDirs
  | allFiles : SinglePathOp .allFiles
  | chmod (mode : Nat) : SinglePathOp (.chmod · mode)
  | chmodB (c : ChmodOpts) : SinglePathOp (.chmodB · c)
  | chown (u g : Nat) : SinglePathOp (.chown · u g)
  | chownB (c : ChownOpts) : SinglePathOp (.chownB · c)
  | entries (r : TravReq) : SinglePathOp (.entries · r)
  | hWrite (id : Nat) : SinglePathOp (.hWrite id)
  | hAppend (id : Nat) : SinglePathOp (.hAppend id)

/-- the Memfs resolution of a spelling and of its `abs` agree -/
theorem C05_absM_spelling {env : Env} {st : State} {raw a : Str}
    (hcwd : NormalForm (renderP st.cwd)) (habs : absWith env (renderP st.cwd) raw = .ok a)
    (ha : NoSpecial a) : absM env raw st = absM env a st :=
  absM_spelling ⟨habs, ha, hcwd⟩

/-- An operation depends on its path argument only through `Memfs::_abs`: two spellings that
    resolve alike at `st` give the same value and the same next state, for all 45 single-path
    operations. -/
theorem C05_step_of_absM {env : Env} {st : State} {raw a : Str} {op : Str → Op}
    (hop : SinglePathOp op) (e : absM env raw st = absM env a st) :
    step env st (op raw) = step env st (op a) := by
  cases hop with
  | mkfile | mkdirP | mkdirM _ | writeAll _ | appendAll _ | read | remove | removeAll
  | symlinkLink _ | readlink | readlinkAbs | setCwd | chmod _ | chmodB _ | chown _ _ | chownB _
  | hWrite _ | hAppend _ => exact mapVal_congr_at _ (bind_congr_at _ e)
  | mkfileM _ | readAll | readLines =>
    exact mapVal_congr_at _ (bind_congr_at _ (bind_congr_at _ e))
  | abs => exact mapVal_congr_at _ e
  | writeLines _ => exact mapVal_congr_at _ (writeLinesM_congr e _)
  | appendLines _ => exact mapVal_congr_at _ (appendLinesM_congr e _)
  | appendLine _ => exact mapVal_congr_at _ (appendLineM_congr e _)
  | «exists» | isFile | isDir | isSymlink | isSymlinkDir | isSymlinkFile | isExec | isReadonly =>
    exact boolQuery_congr e _
  | mode | uid | gid | owner | entry => exact mapVal_congr_at _ (entryQuery_congr e _)
  | paths | dirs | files | allPaths | allDirs | allFiles =>
    exact mapVal_congr_at _ (listing_congr e _ _ _)
  | entries _ => exact bind_congr_at _ e

/-- **Spelling independence**: a call with any spelling `raw` of a path returns the same value and
    the same next state as the call with `abs raw`, for all 45 single-path operations
    (domain: `abs raw` contains neither `~` nor `$`; the cwd renders to a clean path). -/
theorem C05_spelling_independent {env : Env} {st : State} {raw a : Str} {op : Str → Op}
    (hop : SinglePathOp op) (hcwd : NormalForm (renderP st.cwd))
    (habs : absWith env (renderP st.cwd) raw = .ok a) (ha : NoSpecial a) :
    step env st (op raw) = step env st (op a) :=
  C05_step_of_absM hop (absM_spelling ⟨habs, ha, hcwd⟩)

/-- Full statement without the `NoSpecial` side condition (false, by the `HOME=/h~x` finding). -/
def C05_spelling_independent_full : Prop :=
  ∀ (env : Env) (st : State) (raw a : Str) (op : Str → Op), SinglePathOp op →
    NormalForm (renderP st.cwd) → absWith env (renderP st.cwd) raw = .ok a →
    step env st (op raw) = step env st (op a)

theorem C05_spelling_independent_full_false : ¬ C05_spelling_independent_full := by
  intro h
  have h1 := h envTildeHome init "~".toList "/h~x".toList .abs .abs (by decide)
    (C05_finding_home_with_tilde _).1
  revert h1
  decide +kernel

/-- the operations with two resolved path arguments -/
inductive TwoPathOp : (Str → Str → Op) → Prop
  | copy : TwoPathOp .copy
  | copyB (c : CopyOpts) : TwoPathOp (.copyB · · c)
  | moveP : TwoPathOp .moveP

theorem C05_step_of_absM_two {env : Env} {st : State} {r1 a1 r2 a2 : Str} {op : Str → Str → Op}
    (hop : TwoPathOp op) (e1 : absM env r1 st = absM env a1 st)
    (e2 : absM env r2 st = absM env a2 st) :
    step env st (op r1 r2) = step env st (op a1 a2) := by
  cases hop with
  | copy | copyB _ | moveP => exact mapVal_congr_at _ (bind2_congr_at e1 e2 _)

theorem C05_spelling_independent_two {env : Env} {st : State} {r1 a1 r2 a2 : Str}
    {op : Str → Str → Op} (hop : TwoPathOp op) (hcwd : NormalForm (renderP st.cwd))
    (h1 : absWith env (renderP st.cwd) r1 = .ok a1) (n1 : NoSpecial a1)
    (h2 : absWith env (renderP st.cwd) r2 = .ok a2) (n2 : NoSpecial a2) :
    step env st (op r1 r2) = step env st (op a1 a2) :=
  C05_step_of_absM_two hop (absM_spelling ⟨h1, n1, hcwd⟩) (absM_spelling ⟨h2, n2, hcwd⟩)

/-! #### the one path argument that is NOT read through `abs`: the target of `symlink` -/

/-- Full statement for the remaining path argument (false): the `symlink` target may be replaced
    by its `abs`. -/
def C05_symlink_target_spelling_full : Prop :=
  ∀ (env : Env) (st : State) (link raw a : Str), NormalForm (renderP st.cwd) →
    absWith env (renderP st.cwd) raw = .ok a → NoSpecial a →
    step env st (.symlink link raw) = step env st (.symlink link a)

/-- a state with the directories `/` and `/d`, cwd `/` -/
def stD : State :=
  { entries := [([], { mkDirEntry [] none with files := some ["d".toList] }),
                (["d".toList], mkDirEntry ["d".toList] none)]
    files := [], cwd := [], root := [], handles := [] }

/-- Finding (documented symlink semantics, but an exception to "every method resolves its paths
    like `abs`"): a relative `symlink` target is resolved against the directory of the link, not
    against the cwd — with cwd `/`, `symlink("/d/l", "t")` points to `/d/t` while `abs("t")` is
    `/t`. -/
theorem C05_finding_symlink_target_relative_to_link :
    absWith (fun _ => none) (renderP stD.cwd) "t".toList = .ok "/t".toList ∧
    step (fun _ => none) stD (.symlink "/d/l".toList "t".toList) ≠
      step (fun _ => none) stD (.symlink "/d/l".toList "/t".toList) := by
  decide +kernel

theorem C05_symlink_target_spelling_full_false : ¬ C05_symlink_target_spelling_full := by
  intro h
  exact C05_finding_symlink_target_relative_to_link.2
    (h _ stD "/d/l".toList _ _ (by decide) C05_finding_symlink_target_relative_to_link.1 (by decide))

/-- the cwd hypothesis holds whenever the cwd key consists of well-formed names (non-empty, no
    `/`, not `.`/`..`) — in particular for the root `[]` -/
theorem C05_cwd_clean_of_wf {st : State} (h : ∀ n ∈ st.cwd, Wf n) : NormalForm (renderP st.cwd) :=
  renderP_normalForm h

/-- non-vacuity: the hypotheses of spelling independence hold for a non-trivial spelling -/
example : ∃ (env : Env) (st : State) (raw a : Str), NormalForm (renderP st.cwd) ∧
    absWith env (renderP st.cwd) raw = .ok a ∧ NoSpecial a ∧ raw ≠ a :=
  ⟨fun _ => none, ⟨[], [], ["x".toList], [], []⟩, "a/../b".toList, "/x/b".toList,
    by decide +kernel⟩

end Rivia.Props
