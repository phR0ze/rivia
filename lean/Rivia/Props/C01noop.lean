/-
  C01 (second sentence): "A single-target call that reports failure (mkfile, mkdir_p/mkdir_m,
  write_all, append_all, remove, move_p, symlink, set_cwd) leaves the tree exactly as it was."

  Stated on the Memfs model as full structural equality of the `State` (entries, child sets, data
  map, cwd, root, handles) — stronger than equality of the abstract tree.

  * eight of the nine calls: true under `Inv` alone (`C01_failed_call_is_noop_nomove`);
  * `move_p`: FALSE under `Inv` alone (`C01_failed_call_is_noop_full_false`: `Inv` does not forbid
    an entry flagged both `dir` and `file`, and over such an entry `move_p` overwrites the
    directory and then fails in the parent update); true under `Inv ∧ KeysWf ∧ FlagsWf`
    (`C01_failed_move_is_noop`), both decidable and true of `Memfs.init`.
  Proofs are in `Rivia/Lemmas/Noop.lean`; `move_p` follows from its total description
  `Lemmas.moveM_total` (`Rivia/Lemmas/MoveRefine.lean`).
-/
import Rivia.Lemmas.NoopPath
import Rivia.Lemmas.MoveRefine

namespace Rivia.Props
open Rivia Rivia.Memfs Rivia.Spec Rivia.Lemmas.Noop

/-- the single-target calls of C01 -/
def NoopOp : Op → Prop
  | .mkfile _ | .mkdirP _ | .mkdirM _ _ | .writeAll _ _ | .appendAll _ _ | .remove _
  | .moveP _ _ | .symlink _ _ | .setCwd _ => True
  | _ => False

instance : DecidablePred NoopOp := fun op => by unfold NoopOp; split <;> infer_instance

/-- the extra domain condition, needed for `move_p` only: regular key names and no entry flagged
    both as directory and as file -/
def MoveDomain (s : State) : Op → Prop
  | .moveP _ _ => KeysWf s ∧ FlagsWf s
  | _ => True

instance (s : State) : DecidablePred (MoveDomain s) := fun op => by
  cases op <;> (unfold MoveDomain; infer_instance)

/-- the property at full strength: under the C03 invariant alone -/
def C01_failed_call_is_noop_full : Prop :=
  ∀ (env : Env) (s : State) (op : Op), NoopOp op → Spec.Inv s →
    ∀ k, (step env s op).1 = .err k → (step env s op).2 = s

/-! ### the witness against the full statement -/

def cexEnv : Env := fun _ => none

def cexDir (p : FsPath) (fs : List Str) : Entry := { mkDirEntry p none with files := some fs }

/-- satisfies `Inv`, but `/a/c` is flagged both as a directory and as a file -/
def cexState : State :=
  { entries := [([], cexDir [] [['a']]),
                ([['a']], cexDir [['a']] [['c']]),
                ([['a'], ['c']], { cexDir [['a'], ['c']] [['c']] with file := true }),
                ([['a'], ['c'], ['c']], mkFileEntry [['a'], ['c'], ['c']])],
    files := [([['a'], ['c']], []), ([['a'], ['c'], ['c']], [])],
    cwd := [], root := [], handles := [] }

/-- `move_p("/a/c/c", "/a")` -/
def cexOp : Op := .moveP ['/', 'a', '/', 'c', '/', 'c'] ['/', 'a']

theorem cex_inv : Spec.Inv cexState := by decide +kernel

theorem cex_keysWf : KeysWf cexState := by decide +kernel

theorem cex_step : (step cexEnv cexState cexOp).1 = .err .isNotDir ∧
    (step cexEnv cexState cexOp).2 ≠ cexState := by decide +kernel

/-- `Inv` alone is not enough for `move_p` -/
theorem C01_failed_call_is_noop_full_false : ¬ C01_failed_call_is_noop_full := fun h =>
  cex_step.2 (h cexEnv cexState cexOp trivial cex_inv _ cex_step.1)

/-! ### the theorems -/

/-- `move_p` that reports failure leaves the state exactly as it was, on states with regular key
    names and exclusive `dir`/`file` flags -/
theorem C01_failed_move_is_noop (env : Env) (s : State) (a b : Str) (h : Spec.Inv s) (hk : KeysWf s)
    (hf : FlagsWf s) (k : ErrKind) (he : (step env s (.moveP a b)).1 = .err k) :
    (step env s (.moveP a b)).2 = s := by
  have hkind : Lemmas.KindWf s := fun kv hkv => by
    have := hf kv hkv
    cases hd : kv.2.dir <;> cases hfl : kv.2.file <;> simp_all
  -- `move_p` validates before it writes, and on such states the relocation loop cannot fail
  refine noop_of_mapVal (m := moveM env a b) (fun k s' hm => ?_) he
  rcases Lemmas.moveM_total (env := env) (a := a) (b := b) h hk hkind with
    ⟨r, hr, _⟩ | ⟨_, _, _, _, _, _, _, hr⟩ | ⟨_, _, _, _, _, _, _, hr, _⟩
  · rw [hr] at hm; cases hm; rfl
  · rw [hr] at hm; cases hm
  · rw [hr] at hm; cases hm

/-- partial variant covering all nine calls: `Inv`, plus `MoveDomain` (which is `True` except for
    `move_p`) -/
theorem C01_failed_call_is_noop (env : Env) (s : State) (op : Op) (hop : NoopOp op) (h : Spec.Inv s)
    (hmv : MoveDomain s op) (k : ErrKind) (he : (step env s op).1 = .err k) : (step env s op).2 = s := by
  have hI := invP_of_inv h
  unfold NoopOp at hop
  split at hop
  · exact noop_of_mapVal (noop_mkfileM hI env _) he
  · exact noop_of_mapVal (noop_mkdirOp hI env _ none) he
  · exact noop_of_mapVal (noop_mkdirOp hI env _ (some _)) he
  · exact noop_of_mapVal (noop_writeAllM hI env _ _) he
  · exact noop_of_mapVal (noop_appendAllM hI env _ _) he
  · exact noop_of_mapVal (noop_removeM s env _) he
  · exact C01_failed_move_is_noop env s _ _ h hmv.1 hmv.2 k he
  · exact noop_of_mapVal (noop_symlinkM hI env _ _) he
  · exact noop_of_mapVal (noop_setCwdM s env _) he
  · exact hop.elim

/-- the eight calls other than `move_p`: full strength (the invariant alone) -/
theorem C01_failed_call_is_noop_nomove (env : Env) (s : State) (op : Op) (hop : NoopOp op)
    (hnm : ∀ a b, op ≠ .moveP a b) (h : Spec.Inv s) (k : ErrKind) (he : (step env s op).1 = .err k) :
    (step env s op).2 = s := by
  refine C01_failed_call_is_noop env s op hop h ?_ k he
  unfold MoveDomain
  split
  · exact absurd rfl (hnm _ _)
  · trivial

/-- all nine calls on states with regular names and exclusive flags -/
theorem C01_failed_call_is_noop_wf (env : Env) (s : State) (op : Op) (hop : NoopOp op) (h : Spec.Inv s)
    (hk : KeysWf s) (hf : FlagsWf s) (k : ErrKind) (he : (step env s op).1 = .err k) :
    (step env s op).2 = s := by
  refine C01_failed_call_is_noop env s op hop h ?_ k he
  unfold MoveDomain
  split
  · exact ⟨hk, hf⟩
  · trivial

/-! ### non-vacuity -/

/-- the initial state is in the domain -/
theorem C01_domain_init : Spec.Inv Memfs.init ∧ KeysWf Memfs.init ∧ FlagsWf Memfs.init := by decide +kernel

/-- a populated state in the domain (`cexState` with the flags of `/a/c` repaired) -/
def okState : State :=
  { cexState with
    entries := [([], cexDir [] [['a']]),
                ([['a']], cexDir [['a']] [['c']]),
                ([['a'], ['c']], cexDir [['a'], ['c']] [['c']]),
                ([['a'], ['c'], ['c']], mkFileEntry [['a'], ['c'], ['c']])],
    files := [([['a'], ['c'], ['c']], [])] }

/-- the hypotheses of `C01_failed_call_is_noop` are satisfiable with a failing `move_p` (into its
    own subtree) and a failing `mkdir_p` (below a file) -/
example : Spec.Inv okState ∧ KeysWf okState ∧ FlagsWf okState ∧
    (step cexEnv okState (.moveP ['/', 'a'] ['/', 'a', '/', 'c'])).1 = .err .ioInvalidInput ∧
    (step cexEnv okState (.mkdirP ['/', 'a', '/', 'c', '/', 'c', '/', 'd'])).1 = .err .isNotDir := by decide +kernel

end Rivia.Props
