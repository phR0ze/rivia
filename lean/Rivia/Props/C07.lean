/-
  C07 — handles from read/write/append honour the std Read, Seek and Write contracts.
  Property theorems ONLY (helper lemmas live in Rivia/Lemmas/*).
-/
import Rivia.Model.File
import Rivia.Spec.Cursor
import Rivia.Lemmas.File

namespace Rivia.Props
open Rivia Rivia.File Rivia.Spec

/-- the cursor a read handle corresponds to -/
def toCursor (f : MFile) : Cursor := ⟨f.pos, f.data⟩

/-! ### read / seek handles behave exactly like std::io::Cursor -/

theorem C07_read_refines_cursor (f : MFile) (n : Nat) :
    (File.read f n).1 = ((toCursor f).read n).1 ∧ toCursor (File.read f n).2 = ((toCursor f).read n).2 :=
  Lemmas.read_cursor f n

theorem C07_read_all_refines_cursor (f : MFile) :
    (File.readToEnd f).1 = ((toCursor f).readAll).1 ∧ toCursor (File.readToEnd f).2 = ((toCursor f).readAll).2 :=
  Lemmas.readToEnd_cursor f

theorem C07_seek_refines_cursor (f : MFile) (w : Whence) (off : Int) :
    (File.seek f w off).map (fun r => (r.1, toCursor r.2)) = (toCursor f).seek w off :=
  Lemmas.seek_cursor f w off

/-- for EVERY sequence of read / read_to_end / seek calls (any buffer lengths, any offsets,
    in or out of range) the observations equal those of `std::io::Cursor` over the same bytes -/
theorem C07_sequence_refines_cursor (f : MFile) (ops : List HOp) :
    File.runOps f ops = Cursor.runOps (toCursor f) ops :=
  Lemmas.runOps_cursor f ops

/-- reads at or beyond the end return 0 bytes and leave the handle unchanged -/
theorem C07_read_at_or_beyond_end (f : MFile) (n : Nat) (h : f.data.length ≤ f.pos) :
    File.read f n = ([], f) := by
  rw [Lemmas.read_eq, List.drop_eq_nil_of_le h]; simp

/-- a read returns exactly the next `min n remaining` bytes and advances by that many -/
theorem C07_read_exact (f : MFile) (n : Nat) :
    (File.read f n).1 = (f.data.drop f.pos).take n ∧
    (File.read f n).2.pos = f.pos + ((f.data.drop f.pos).take n).length ∧
    (File.read f n).2.data = f.data := by
  rw [Lemmas.read_eq]; exact ⟨rfl, rfl, rfl⟩

/-- seeking before the start is an error (and, an error carrying no new handle, the position is
    unchanged: `runOps` continues with the old handle) -/
theorem C07_seek_before_start_is_error (f : MFile) (off : Int) :
    ((f.pos : Int) + off < 0 → File.seek f .current off = .err .ioInvalidInput) ∧
    ((f.data.length : Int) + off < 0 → File.seek f .endw off = .err .ioInvalidInput) := by
  constructor <;> intro h <;> simp only [File.seek, h, true_or, if_true]

theorem C07_seek_in_range (f : MFile) (off : Int) :
    (0 ≤ (f.pos : Int) + off → (f.pos : Int) + off < 2 ^ 64 →
        File.seek f .current off = .ok (((f.pos : Int) + off).toNat, { f with pos := ((f.pos : Int) + off).toNat })) ∧
    (0 ≤ (f.data.length : Int) + off → (f.data.length : Int) + off < 2 ^ 64 →
        File.seek f .endw off = .ok (((f.data.length : Int) + off).toNat, { f with pos := ((f.data.length : Int) + off).toNat })) := by
  constructor <;> intro h1 h2 <;> simp only [File.seek] <;> rw [if_neg (by omega)]

/-- nothing panics or hangs: every observation is bytes, a position or an error kind, one per op -/
theorem C07_never_panics (f : MFile) (ops : List HOp) : (File.runOps f ops).length = ops.length :=
  Lemmas.runOps_length f ops

/-! ### write / append handles: every chunking, flushes anywhere, drop after any prefix -/

/-- dropping the handle after ANY op sequence persists exactly the bytes written through it
    (prefixed by the old content for append) -/
theorem C07_write_chunks_persist (append : Bool) (stored : Bytes) (ops : List WOp) :
    writeSession append stored ops = (if append then stored else []) ++ chunksOf ops :=
  Lemmas.writeSession_eq append stored ops

/-- crash-point quantifier: dropping after any prefix of the ops persists exactly that prefix -/
theorem C07_drop_after_any_prefix (append : Bool) (stored : Bytes) (ops : List WOp) (k : Nat) :
    writeSession append stored (ops.take k) = (if append then stored else []) ++ chunksOf (ops.take k) :=
  Lemmas.writeSession_eq append stored (ops.take k)

/-- at each flush everything written so far is visible -/
theorem C07_flush_makes_visible (append : Bool) (stored : Bytes) (ops : List WOp) :
    (runW (if append then openAppend stored else openWrite stored) stored (ops ++ [.flush])).2 =
      (if append then stored else []) ++ chunksOf ops := by
  rw [Lemmas.runW_flush_last]; cases append <;> rfl

/-- how the data is split into chunks does not matter -/
theorem C07_chunking_irrelevant (append : Bool) (stored : Bytes) (ops ops' : List WOp)
    (h : chunksOf ops = chunksOf ops') : writeSession append stored ops = writeSession append stored ops' := by
  rw [Lemmas.writeSession_eq, Lemmas.writeSession_eq, h]

-- non-vacuity / sanity (tests, labelled as such)
example : File.runOps ⟨0, [1, 2, 3]⟩ [.seek .start 10, .read 2, .seek .current (-11), .seek .endw (-1), .read 5] =
    [.pos 10, .bytes [], .err .ioInvalidInput, .pos 2, .bytes [3]] := by decide +kernel
example : writeSession true [1] [.write [2], .flush, .write [3]] = [1, 2, 3] := by decide

end Rivia.Props
