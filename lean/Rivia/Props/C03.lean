/-
  C03 (global) — after ANY history of calls from the fresh filesystem, succeeding or failing, with
  arbitrary arguments, the Memfs tree invariant `Rivia.Spec.Inv` holds: every existing path other than
  the root has an existing parent that is a real directory and lists it; every listed name exists;
  exactly the regular non-link files have byte content; every entry reports the path it is stored
  under; nothing is orphaned, duplicated or left with dangling data.

  Plain `Inv` is NOT inductive (`C03_inv_step_full_is_false`: `move_p` breaks it from an `Inv` state
  with an unsorted child list). The theorem is therefore proved through the strengthened invariant
  `C03_Strong = Inv ∧ KeysWf ∧ SortedKids ∧ FlagsOk`, which holds initially and is kept by EVERY
  constructor of `Op` (`C03_strong_step`); the three extra clauses only speak about states that no
  history can produce anyway, so nothing is lost for reachable states (`C03_inv_reachable`).

  The only side condition is "the call returns" (`≠ .hang`; `hang` is the model's fuel exhaustion, a
  Rust call that would not terminate has no post-state to speak of). It is used for `move_p` only:
  every other operation keeps the invariant even at a `hang` exit (`C03_strong_step_any_outcome`).

  Property theorems ONLY; proofs in Rivia/Lemmas/InvAll.lean (assembly), InvA / InvB* / InvC*.lean.
  This file does not import Rivia/Props/C03B.lean (both declare `C03_strong_init`).
-/
import Rivia.Lemmas.InvAll

namespace Rivia.Props
open Rivia Rivia.Memfs Rivia.Spec Rivia.Lemmas Rivia.Lemmas.InvAll

/-! ### the strengthened invariant, spelled out -/

/-- a real path element: non-empty, not `.`, slash-free (= `Lemmas.BodyPiece`) -/
def C03_NameOk (n : Str) : Prop := n ≠ [] ∧ n ≠ ['.'] ∧ '/' ∉ n

/-- every name of every key, and of the working directory, is a real path element -/
def C03_KeysWf (s : State) : Prop :=
  (∀ kv ∈ s.entries, ∀ n ∈ kv.1, C03_NameOk n) ∧ (∀ n ∈ s.cwd, C03_NameOk n)

/-- every child-name list is in the order `insertName` keeps (`strLt` = byte-wise lexicographic) -/
def C03_SortedKids (s : State) : Prop :=
  ∀ kv ∈ s.entries, ∀ fs, kv.2.files = some fs → fs.Pairwise (fun a b => strLt b a = false)

/-- no entry is flagged both as a file and as a directory -/
def C03_FlagsOk (s : State) : Prop :=
  ∀ kv ∈ s.entries, ¬ (kv.2.file = true ∧ kv.2.dir = true)

instance (n : Str) : Decidable (C03_NameOk n) := by unfold C03_NameOk; infer_instance
instance (s : State) : Decidable (C03_KeysWf s) := by unfold C03_KeysWf; infer_instance
instance (s : State) : Decidable (C03_SortedKids s) := by unfold C03_SortedKids; infer_instance
instance (s : State) : Decidable (C03_FlagsOk s) := by unfold C03_FlagsOk; infer_instance

/-- the inductive invariant -/
def C03_Strong (s : State) : Prop := Spec.Inv s ∧ C03_KeysWf s ∧ C03_SortedKids s ∧ C03_FlagsOk s

/-- (restates definitions) it is group B's `Strong`, so it is decidable and the judge can evaluate it -/
theorem C03_strong_iff_groupB (s : State) : C03_Strong s ↔ InvB.Strong s := Iff.rfl

instance (s : State) : Decidable (C03_Strong s) := by unfold C03_Strong; infer_instance

/-! ### coverage -/

/-- the three proof groups exhaust the constructors of `Op`: no operation is left out -/
theorem C03_every_op_covered (op : Op) : InvA.CoveredA op ∨ InvB.CoveredB op ∨ InvC.CoveredC op :=
  covered_all op

/-! ### induction -/

theorem C03_strong_init : C03_Strong Memfs.init := strong_init

/-- one call of ANY operation, any environment, any arguments, any outcome but `hang` -/
theorem C03_strong_step (env : Env) (s : State) (op : Op) (h : C03_Strong s)
    (hh : (step env s op).1 ≠ .hang) : C03_Strong (step env s op).2 :=
  strong_step env s op h hh

/-- every operation other than `move_p` keeps it at every exit, `hang` included -/
theorem C03_strong_step_any_outcome (env : Env) (s : State) (op : Op) (hm : ∀ a b, op ≠ .moveP a b)
    (h : C03_Strong s) : C03_Strong (step env s op).2 :=
  strong_step_any_outcome env s op hm h

/-- a history from any state satisfying the strengthened invariant -/
theorem C03_strong_run (env : Env) (s : State) (ops : List Op) (h : C03_Strong s)
    (hh : NoHangRun env s ops) : C03_Strong (run env s ops) :=
  strong_run env s ops h hh

/-- (bridge) the recursive form of the no-hang hypothesis is the "every split" form used below -/
theorem C03_noHangRun_iff (env : Env) (s : State) (ops : List Op) :
    NoHangRun env s ops ↔
      ∀ pre op post, ops = pre ++ op :: post → (step env (run env s pre) op).1 ≠ .hang :=
  noHangRun_iff env s ops

/-- every state reachable from the fresh filesystem satisfies the strengthened invariant … -/
theorem C03_strong_reachable (env : Env) (ops : List Op)
    (hh : ∀ pre op post, ops = pre ++ op :: post → (step env (run env Memfs.init pre) op).1 ≠ .hang) :
    C03_Strong (run env Memfs.init ops) :=
  strong_reachable env ops hh

/-- … hence **every reachable state is a well-formed tree**: any environment, any history of calls
    (all 53 operations, arbitrary arguments, succeeding or failing), each of which returns -/
theorem C03_inv_reachable (env : Env) (ops : List Op)
    (hh : ∀ pre op post, ops = pre ++ op :: post → (step env (run env Memfs.init pre) op).1 ≠ .hang) :
    Spec.Inv (run env Memfs.init ops) :=
  (strong_reachable env ops hh).1

/-! ### why the strengthening: plain `Inv` is not inductive -/

/-- the statement one would like to have -/
def C03_inv_step_full : Prop :=
  ∀ (env : Env) (s : State) (op : Op), Spec.Inv s → (step env s op).1 ≠ .hang → Spec.Inv (step env s op).2

def C03_envNone : Env := fun _ => none

/-- `/` lists `b, a, c` (unsorted; no history produces this): `move_p "/c" "/a"` makes `insertName`
    miss the existing name and list `a` twice (same witness as `wUnsorted` of C03B) -/
def C03_wUnsorted : State :=
  { entries := [([], { mkDirEntry [] none with files := some [['b'], ['a'], ['c']] }),
                ([['a']], mkFileEntry [['a']]), ([['b']], mkFileEntry [['b']]), ([['c']], mkFileEntry [['c']])]
    files := [([['a']], []), ([['b']], []), ([['c']], [])]
    cwd := [], root := [], handles := [] }

theorem C03_inv_breaks_on_unsorted :
    Spec.Inv C03_wUnsorted ∧ ¬ C03_SortedKids C03_wUnsorted ∧
    (step C03_envNone C03_wUnsorted (.moveP ['/', 'c'] ['/', 'a'])).1 = .ok .unit ∧
    invViolation (step C03_envNone C03_wUnsorted (.moveP ['/', 'c'] ['/', 'a'])).2
      = some "duplicate-child-name:/" := by
  decide +kernel

theorem C03_inv_step_full_is_false :
    ¬ (∀ (env : Env) (s : State) (op : Op), Spec.Inv s → (step env s op).1 ≠ .hang →
        Spec.Inv (step env s op).2) := by
  intro h
  have w := C03_inv_breaks_on_unsorted
  have := h C03_envNone C03_wUnsorted (.moveP ['/', 'c'] ['/', 'a']) w.1
    (by rw [w.2.2.1]; intro h0; cases h0)
  unfold Spec.Inv at this
  rw [w.2.2.2] at this
  cases this

/-! ### non-vacuity -/

/-- the hypothesis of `C03_inv_reachable` holds of the empty history … -/
example (env : Env) : ∀ pre op post, ([] : List Op) = pre ++ op :: post →
    (step env (run env Memfs.init pre) op).1 ≠ .hang :=
  (noHangRun_iff env _ _).1 trivial

/-- … and of a concrete 3-call history, for every environment (these queries return in every state) -/
example (env : Env) : ∀ pre op post,
    [Op.exists ['a'], Op.isDir ['/'], Op.cwd] = pre ++ op :: post →
    (step env (run env Memfs.init pre) op).1 ≠ .hang :=
  (noHangRun_iff env _ _).1 (noHangRun_simpleQueries env _ _ (by simp [simpleQuery]))

example (env : Env) : Spec.Inv (run env Memfs.init [Op.exists ['a'], Op.isDir ['/'], Op.cwd]) :=
  C03_inv_reachable env _
    ((noHangRun_iff env _ _).1 (noHangRun_simpleQueries env _ _ (by simp [simpleQuery])))

/-- a mutating call from the fresh filesystem that returns and really changes the tree: the step
    theorem applies to it non-trivially (one call, not a history) -/
theorem C03_mkdirP_returns : (step C03_envNone Memfs.init (.mkdirP ['/', 'a'])).1 ≠ .hang ∧
    alLookup [['a']] (step C03_envNone Memfs.init (.mkdirP ['/', 'a'])).2.entries
      = some (mkDirEntry [['a']] none) := by
  decide +kernel

example : C03_Strong (step C03_envNone Memfs.init (.mkdirP ['/', 'a'])).2 :=
  C03_strong_step _ _ _ C03_strong_init C03_mkdirP_returns.1

end Rivia.Props
