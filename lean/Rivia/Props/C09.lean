/-
  C09 — copy duplicates and move_p relocates a subtree without loss or collateral change.
  Property theorems ONLY (helper lemmas live in Rivia/Lemmas/{CopyMove,AbsWf,MoveP,MoveRefine,CopyP,CopyFrame,
  CopyTree,C09Witness}.lean; the reference copy is Rivia/Spec/CopySpec.lean).

  Standing hypotheses on the pre-state `s` (all decidable):
    `Spec.Inv s`  the tree invariant of C03,
    `KeysWf s`    every name in every key and in cwd is non-empty, slash-free, not `.` / `..`,
    `KindWf s`    no entry is flagged both directory and file (true of every reachable state;
                  `Spec.Inv` does not state it, and C09 is false without it).
  That `abs` hands well-formed keys to the operations is proved (`Lemmas.absM_wf`), not assumed.
-/
import Rivia.Lemmas.MoveRefine
import Rivia.Lemmas.CopyFrame
import Rivia.Lemmas.C09Witness

namespace Rivia.Props
open Rivia Rivia.Memfs Rivia.Spec Rivia.Spec.TreeFs Rivia.Lemmas

/-! ### (a) destination keys -/

/-- `dst_root.mash(path.trim_prefix(prefix))`, computed on strings as the code does, re-roots the
    key: the entry `pre ++ r` goes to `dstRoot ++ r` (any prefix `pre`, the root `[]` included) -/
theorem C09_dstOf {dstRoot pre r : FsPath} (hd : WfKey dstRoot) (hr : WfKey r) :
    dstOf dstRoot (pre ++ r) pre = dstRoot ++ r :=
  dstOf_append hd hr

theorem C09_dstOf_root {dstRoot r : FsPath} (hd : WfKey dstRoot) (hr : WfKey r) :
    dstOf dstRoot r [] = dstRoot ++ r :=
  dstOf_append (pre := []) hd hr

/-! ### (c) a move_p that does not succeed changes nothing -/

/-- every outcome other than `Ok` (error, panic, hang) leaves the state exactly as it was -/
theorem C09_move_not_ok_noop {env : Env} {a b : Str} {s : State} (hinv : Spec.Inv s)
    (hk : KeysWf s) (hkind : KindWf s)
    (h : ∀ v, (step env s (.moveP a b)).1 ≠ .ok v) : (step env s (.moveP a b)).2 = s := by
  show (mapVal (fun _ => Val.unit) (moveM env a b) s).2 = s
  rw [mapVal_snd]
  rcases moveM_total (a := a) (b := b) hinv hk hkind with ⟨r, hr, _⟩ | ⟨_, _, _, _, _, _, _, hr⟩ |
    ⟨_, _, _, s', _, _, _, hr, _⟩
  · rw [hr]
  · rw [hr]
  · exact absurd (congrArg Prod.fst (mapVal_of_ok hr)) (h _)

theorem C09_move_failure_noop {env : Env} {a b : Str} {s : State} {k : ErrKind} (hinv : Spec.Inv s)
    (hk : KeysWf s) (hkind : KindWf s)
    (h : (step env s (.moveP a b)).1 = .err k) : (step env s (.moveP a b)).2 = s :=
  C09_move_not_ok_noop hinv hk hkind (by intro v hv; rw [h] at hv; cases hv)

/-! ### (b) a successful move_p re-keys the source subtree and nothing else -/

/-- the destination of `move_p` as the property states it: `dk/<last name of sk>` when `dk` is a
    real directory, else `dk` -/
theorem C09_moveDst_eq {s : State} {sk dk : FsPath} (hsk : WfKey sk) (hne : sk ≠ []) (hdk : WfKey dk) :
    moveDst s sk dk = if isDirP s dk = true then dk ++ [baseName sk] else dk :=
  moveDst_eq hsk hne hdk

/-- key-wise form. `sk`, `dk` are the resolved arguments, `dst` the final destination
    (`dk/<name>` when `dk` is a real directory, else `dk`). Either `dst = sk` and nothing changed, or:
    no key at or below `sk` remains, the abstract node of every `sk ++ r` is now at `dst ++ r`,
    and every other key has the abstract node it had. -/
theorem C09_move_success {env : Env} {a b : Str} {s s' : State} (hinv : Spec.Inv s)
    (hk : KeysWf s) (hkind : KindWf s)
    (h : step env s (.moveP a b) = (.ok .unit, s')) :
    ∃ sk dk, absM env a s = (.ok sk, s) ∧ absM env b s = (.ok dk, s) ∧
      (sk ≠ [] → moveDst s sk dk = if isDirP s dk = true then dk ++ [baseName sk] else dk) ∧
      ((moveDst s sk dk = sk ∧ s' = s) ∨
       (s'.cwd = s.cwd ∧
        (∀ r, alLookup (sk ++ r) s'.entries = none) ∧
        (∀ r, nodeAt s' (moveDst s sk dk ++ r) = nodeAt s (sk ++ r)) ∧
        (∀ k, (∀ r, k ≠ sk ++ r) → (∀ r, k ≠ moveDst s sk dk ++ r) → nodeAt s' k = nodeAt s k))) := by
  obtain ⟨u, hu, _⟩ := mapVal_ok (show mapVal (fun _ => Val.unit) (moveM env a b) s = (.ok .unit, s') from h)
  rcases moveM_total (a := a) (b := b) hinv hk hkind with ⟨r, hr, hne⟩ |
    ⟨sk, dk, _, ha, hb, _, hsame, hr⟩ | ⟨sk, dk, _, s'', ha, hb, _, hr, hcwd, h1, h2, h3, _⟩
  · rw [hr] at hu
    cases hu
    exact absurd rfl (hne u)
  · rw [hr] at hu
    cases hu
    exact ⟨sk, dk, ha, hb, fun hne => C09_moveDst_eq (absM_wf hk.2 ha) hne (absM_wf hk.2 hb),
      Or.inl ⟨hsame, rfl⟩⟩
  · rw [hr] at hu
    cases hu
    exact ⟨sk, dk, ha, hb, fun hne => C09_moveDst_eq (absM_wf hk.2 ha) hne (absM_wf hk.2 hb),
      Or.inr ⟨hcwd, h1, h2, h3⟩⟩

/-- refinement form: the abstraction of the post-state is (equivalent to) the result of the
    reference `move_p` on the abstraction of the pre-state, and the reference succeeds too
    (moving `/` is outside the reference's domain) -/
theorem C09_move_refines {env : Env} {a b : Str} {s s' : State} (hinv : Spec.Inv s)
    (hk : KeysWf s) (hkind : KindWf s)
    (h : step env s (.moveP a b) = (.ok .unit, s')) :
    ∃ sk dk, absM env a s = (.ok sk, s) ∧ absM env b s = (.ok dk, s) ∧
      TEquiv (absS s') (TreeFs.moveP (absS s) sk dk).2 ∧
      (sk ≠ [] → (TreeFs.moveP (absS s) sk dk).1 = .ok ()) := by
  obtain ⟨u, hu, _⟩ := mapVal_ok (show mapVal (fun _ => Val.unit) (moveM env a b) s = (.ok .unit, s') from h)
  rcases moveM_total (a := a) (b := b) hinv hk hkind with ⟨r, hr, hne⟩ |
    ⟨sk, dk, srcE, ha, hb, hsrc, hsame, hr⟩ | ⟨sk, dk, _, s'', ha, hb, _, hr, _, _, _, _, hok, heq⟩
  · rw [hr] at hu
    cases hu
    exact absurd rfl (hne u)
  · rw [hr] at hu
    cases hu
    refine ⟨sk, dk, ha, hb, ?_, ?_⟩
    · by_cases hne : sk = []
      · subst hne
        have : (TreeFs.moveP (absS s) [] dk).2 = absS s := by
          unfold TreeFs.moveP
          cases get (absS s) [] with
          | none => rfl
          | some sn => simp
        rw [this]; exact TEquiv.refl _
      · rw [treeMoveP_same hk (absM_wf hk.2 hb) hsrc hne hsame]; exact TEquiv.refl _
    · intro hne
      rw [treeMoveP_same hk (absM_wf hk.2 hb) hsrc hne hsame]
  · rw [hr] at hu
    cases hu
    exact ⟨sk, dk, ha, hb, heq, fun _ => hok⟩

/-! ### (d) a copy changes nothing outside its destination -/

/-- `Cmp D k`: `k` is an ancestor of `D`, `D` itself, or below `D`.  For a no-follow copy (any
    options, any outcome — success or failure) every key that is not comparable with the destination
    root `D = copyDst s sk dk` keeps its entry, its data and hence its abstract node; the cwd is
    unchanged.  (Ancestors of `D` are excluded: they may gain a child name / be created.) -/
theorem C09_copy_outside_unchanged {env : Env} {a b : Str} {c : CopyOpts} {s : State} {sk dk : FsPath}
    (hinv : Spec.Inv s) (hk : KeysWf s) (hfollow : c.follow = false)
    (ha : absM env a s = (.ok sk, s)) (hb : absM env b s = (.ok dk, s))
    (k : FsPath) (hout : ¬ Cmp (copyDst s sk dk) k) :
    alLookup k (step env s (.copyB a b c)).2.entries = alLookup k s.entries ∧
    alLookup k (step env s (.copyB a b c)).2.files = alLookup k s.files ∧
    nodeAt (step env s (.copyB a b c)).2 k = nodeAt s k ∧
    (step env s (.copyB a b c)).2.cwd = s.cwd := by
  have hst : (step env s (.copyB a b c)).2 = (copyM env a b c s).2 := mapVal_snd _ _ _
  rw [hst]
  obtain ⟨h1, h2⟩ := copyM_frame (c := c) (invF_of_inv hinv) hk hfollow ha hb (absM_wf hk.2 hb)
  exact ⟨(h1 k hout).1, (h1 k hout).2, nodeAt_eq_of_lookup (h1 k hout).1 (h1 k hout).2, h2⟩

/-- the source is untouched: when the destination root is neither at/below the source nor above it,
    every key at or below the source keeps its entry and its data (whatever the outcome) -/
theorem C09_copy_source_untouched {env : Env} {a b : Str} {c : CopyOpts} {s : State} {sk dk : FsPath}
    (hinv : Spec.Inv s) (hk : KeysWf s) (hfollow : c.follow = false)
    (ha : absM env a s = (.ok sk, s)) (hb : absM env b s = (.ok dk, s))
    (h1 : ¬ sk <+: copyDst s sk dk) (h2 : ¬ copyDst s sk dk <+: sk) (r : FsPath) :
    alLookup (sk ++ r) (step env s (.copyB a b c)).2.entries = alLookup (sk ++ r) s.entries ∧
    alLookup (sk ++ r) (step env s (.copyB a b c)).2.files = alLookup (sk ++ r) s.files ∧
    nodeAt (step env s (.copyB a b c)).2 (sk ++ r) = nodeAt s (sk ++ r) := by
  have hout : ¬ Cmp (copyDst s sk dk) (sk ++ r) := by
    rintro (h | h)
    · exact h1 ((List.prefix_append sk r).trans h)
    · rcases List.prefix_or_prefix_of_prefix h (List.prefix_append sk r) with h' | h'
      · exact h2 h'
      · exact h1 h'
  obtain ⟨e1, e2, e3, _⟩ := C09_copy_outside_unchanged (c := c) hinv hk hfollow ha hb _ hout
  exact ⟨e1, e2, e3⟩

/-! ### (e) the single-file case in full -/

/-- source a regular file, destination slot (`dk`, or `dk/<name>` when `dk` is a real directory)
    free, its parent an existing real directory: the copy succeeds and the post-state is the
    pre-state plus one file entry (source bytes; source mode, or `mode` when it applies to files),
    one data record and one more name in the parent's child set — nothing else -/
theorem C09_copy_file_concrete {env : Env} {a b : Str} {c : CopyOpts} {s : State} {sk dk : FsPath}
    {srcE pe : Entry} (hinv : Spec.Inv s) (hk : KeysWf s)
    (ha : absM env a s = (.ok sk, s)) (hb : absM env b s = (.ok dk, s)) (hne : sk ≠ dk)
    (hfollow : c.follow = false)
    (hsrc : alLookup sk s.entries = some srcE) (hfile : srcE.file = true) (hlink : srcE.link = false)
    (hdir : srcE.dir = false)
    (hDne : copyDst s sk dk ≠ [])
    (hfree : alLookup (copyDst s sk dk) s.entries = none)
    (hpar : alLookup (copyDst s sk dk).dropLast s.entries = some pe) (hped : pe.dir = true)
    (hpel : pe.link = false) :
    ∃ fs bytes, pe.files = some fs ∧ alLookup sk s.files = some bytes ∧
      step env s (.copyB a b c) =
        (.ok .unit, fileCopied s (copyDst s sk dk) c srcE pe fs bytes) := by
  obtain ⟨fs, bytes, h1, h2, h3⟩ := copyM_file (c := c) (invF_of_inv hinv) hk (absM_wf hk.2 hb) ha hb hne hfollow
    hsrc hfile hlink hdir hDne hfree hpar hped hpel
  exact ⟨fs, bytes, h1, h2, mapVal_of_ok h3⟩

/-- the same against the reference: the reference copy succeeds too and the abstraction of the
    post-state is the reference's post-state.  Domain: the source's mode is canonical — permission
    bits plus its file-type bit, which is what `MemfsEntryOpts::mode` produces for every entry since
    the `mode_type_bits` repair — and a requested `mode` is a permission value (`< 0o10000`: Memfs
    keeps its permission bits only, like chmod(2); the reference stores it uninterpreted) -/
theorem C09_copy_file_partial {env : Env} {a b : Str} {c : CopyOpts} {s : State} {sk dk : FsPath}
    {srcE pe : Entry} (hinv : Spec.Inv s) (hk : KeysWf s)
    (ha : absM env a s = (.ok sk, s)) (hb : absM env b s = (.ok dk, s)) (hne : sk ≠ dk)
    (hfollow : c.follow = false)
    (hsrc : alLookup sk s.entries = some srcE) (hfile : srcE.file = true) (hlink : srcE.link = false)
    (hdir : srcE.dir = false)
    (hDne : copyDst s sk dk ≠ [])
    (hfree : alLookup (copyDst s sk dk) s.entries = none)
    (hpar : alLookup (copyDst s sk dk).dropLast s.entries = some pe) (hped : pe.dir = true)
    (hpel : pe.link = false)
    (hmode : (srcE.mode &&& 0o7777) ||| 0o100000 = srcE.mode)
    (hperm : ∀ x, c.mode = some x → x < 0o10000) :
    ∃ s', step env s (.copyB a b c) = (.ok .unit, s') ∧
      (copySpec (absS s) sk dk c.mode c.cdirs c.cfiles).1 = .ok () ∧
      TEquiv (absS s') (copySpec (absS s) sk dk c.mode c.cdirs c.cfiles).2 := by
  obtain ⟨s', h1, h2, h3⟩ := copy_file_refines (c := c) (invF_of_inv hinv) hk (absM_wf hk.2 hb) ha hb hne hfollow
    hsrc hfile hlink hdir hDne hfree hpar hped hpel hmode hperm
  exact ⟨s', mapVal_of_ok h1, h2, h3⟩

/-! ### (f) copying a whole tree — conditional on the traversal order -/

/-- `TreeCtx s sk dk c` (all fields decidable except the universally quantified ones, which range
    over the finitely many keys of `s`): invariant, well-formed names, no-follow, source not the
    root, destination root `D = copyDst s sk dk` free with an existing real-directory parent and not
    below the source, every entry of the source subtree `SubOk` (no link; the mode is canonical:
    permission bits plus the type bit; directories have the default owner 1000:1000), a requested
    `mode` is a non-zero permission value (`< 0o10000`).
    `PreOrder s sk L`: `L` lists exactly the entries of the subtree of `sk`, each once, ancestors
    first.  `htrav`: the traversal of the snapshot yields `L` — this is the traversal theorem (C08)
    taken as an explicit hypothesis; it is proved for a concrete snapshot in `Lemmas.htrav_small`.
    Conclusion: the copy succeeds, the reference copy succeeds, and the abstraction of the
    post-state is the reference's post-state. -/
theorem C09_copy_tree_partial {env : Env} {a b : Str} {c : CopyOpts} {s : State} {sk dk : FsPath}
    {rootE travRoot : Entry} {snap : Snap} {L : List Entry}
    (ctx : TreeCtx s sk dk c)
    (ha : absM env a s = (.ok sk, s)) (hb : absM env b s = (.ok dk, s)) (hne : sk ≠ dk)
    (hsrc : alLookup sk s.entries = some rootE)
    (hent : entriesOf s sk = .ok (travRoot, snap))
    (hL : PreOrder s sk L)
    (htrav : ∀ (step : Entry → State → Outcome Unit × State) (w : State),
      runIter snap (copyOpts false) noPre travRoot step (travFuel snap) {} w = runList step L w) :
    ∃ s', step env s (.copyB a b c) = (.ok .unit, s') ∧
      (copySpec (absS s) sk dk c.mode c.cdirs c.cfiles).1 = .ok () ∧
      TEquiv (absS s') (copySpec (absS s) sk dk c.mode c.cdirs c.cfiles).2 := by
  obtain ⟨s', h1, h2, h3⟩ := copy_tree_refines ctx ha hb hne hsrc hent hL htrav
  exact ⟨s', mapVal_of_ok h1, h2, h3⟩


/-! ### the statements without `KindWf` are false; non-vacuity of the hypotheses -/

/-- `move_p` failure is a no-op, stated with `Inv` and `KeysWf` only -/
def C09_move_failure_noop_full : Prop :=
  ∀ (env : Env) (a b : Str) (s : State) (k : ErrKind), Spec.Inv s → KeysWf s →
    (step env s (.moveP a b)).1 = .err k → (step env s (.moveP a b)).2 = s

/-- `move_p("/x/x", "/")` passes validation on `weirdState` (destination `/x` "is a file"), replaces
    the directory entry `/x` and then fails with `IsNotDir` while unlinking from the old parent:
    a failed move that changed the state -/
theorem C09_move_failure_noop_full_false : ¬ C09_move_failure_noop_full := by
  intro h
  have h1 : Spec.Inv weirdState := by decide
  have h2 : KeysWf weirdState := by decide
  have h3 : (step (fun _ => none) weirdState (.moveP ['/', 'x', '/', 'x'] ['/'])).1 = .err .isNotDir ∧
      (step (fun _ => none) weirdState (.moveP ['/', 'x', '/', 'x'] ['/'])).2 ≠ weirdState := by
    decide
  exact h3.2 (h _ _ _ _ _ h1 h2 h3.1)

/-- the standing hypotheses are satisfiable, and both a successful move of a non-trivial subtree
    and a failing move exist on that state -/
example : Spec.Inv smallState ∧ KeysWf smallState ∧ KindWf smallState := by decide

example : (step (fun _ => none) smallState (.moveP ['/', 'a'] ['/', 'd'])).1 = .ok .unit := by decide

example : (step (fun _ => none) smallState (.moveP ['/', 'a'] ['/', 'a', '/', 'x'])).1 = .err .ioInvalidInput := by
  decide

/-- hypotheses of the single-file theorems are satisfiable: `/a/f` → `/d` (an existing directory) -/
example : copyDst smallState [['a'], ['f']] [['d']] = [['d'], ['f']] ∧
    alLookup [['d'], ['f']] smallState.entries = none ∧
    (alLookup [['a'], ['f']] smallState.entries).map (fun e => (e.file, e.link, e.dir, (e.mode &&& 0o7777) ||| 0o100000 == e.mode))
      = some (true, false, false, true) := by decide

/-- non-vacuity of the tree theorem: on `smallState`, `copy("/a", "/d")` satisfies every hypothesis
    of `copy_tree_refines` (the traversal hypothesis is proved for this snapshot), so it succeeds
    and refines the reference copy -/
example : ∃ s', copyM (fun _ => none) ['/', 'a'] ['/', 'd'] {} smallState = (.ok (), s') ∧
    (copySpec (absS smallState) [['a']] [['d']] none false false).1 = .ok () ∧
    TEquiv (absS s') (copySpec (absS smallState) [['a']] [['d']] none false false).2 :=
  copy_tree_refines (c := {}) treeCtx_small (by decide) (by decide) (by decide) (rootE := eA) (by decide)
    (travRoot := eA) (snap := snapA) entriesOf_small preOrder_small htrav_small


end Rivia.Props
