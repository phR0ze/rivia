/-
  C02R — "Stdfs and Memfs are interchangeable" on REACHABLE Memfs states, all 43 refined operations.

  Props/C02 compares both backends through the reference tree filesystem: `C02_stdfs_refines_reference_partial`
  (Stdfs model vs reference, on `Wf t`, `D2 env t op`, `CoveredS op`) and the composition
  `C02_backends_agree_partial`, whose Memfs side was discharged for the 25 group-A operations only
  (`C02_backends_agree_groupA`, with `Inv`, `KeysWf`, `EntriesOk`, `Wf (absS s)` as hypotheses).

  Here the Memfs side is discharged by `C01R_refines_step'` (Props/C01C: groups A, B, C = everything the
  reference answers) from the invariant of reachable states `RInv s`, `Wf (absS s)` is PROVED from `Inv s`
  (`C02R_wf_absS`), `CoveredS` follows from `Refined'` (`C02R_refined_covered`), and — with Props/C12R —
  the state hypothesis becomes "reached by ANY history that does not follow links" (every call of such a
  history returns).  What is left are the per-call conditions: the finding classes of C01 (`classOf … = "-"`),
  the depth bound `DepthDom'` (or the size bound), and the Stdfs domain `D2 env (absS s) op` of C02.

  (Imports: Props/C02 (Stdfs lemma family), Props/C01C (C01R family) and Props/C12R are compatible — checked.)
-/
import Rivia.Props.C02
import Rivia.Props.C12R
import Rivia.Lemmas.ReturnsWf

namespace Rivia.Props
open Rivia Rivia.Memfs Rivia.File Rivia.Spec Rivia.Spec.TreeFs Rivia.Stdfs Rivia.Lemmas.StdfsL
open Rivia.Lemmas.RefineA (ResMatch)

/-- the abstraction of a well-formed Memfs state is a well-formed tree: distinct keys, `/` a directory,
    the parent of every other key a directory -/
theorem C02R_wf_absS (s : State) (h : Spec.Inv s) : Wf (absS s) := Rivia.Lemmas.RetWf.wf_absS_of_inv h

/-- hence of every state with the invariant of reachable states -/
theorem C02R_wf_absS_of_rinv (s : State) (h : RInv s) : Wf (absS s) := C02R_wf_absS s h.1.1

/-- the 43 operations refined on the Memfs side are the 43 covered on the Stdfs side -/
theorem C02R_refined_covered (op : Op) (h : Refined' op) : CoveredS op = true := by
  cases op <;> first
    | rfl
    | (rcases h with (h | h) | h <;> first | exact Bool.noConfusion h | exact False.elim h)

theorem C02R_covered_refined_iff (op : Op) : CoveredS op = true ↔
    (Refined' op ∨ ∃ p c, op = .chmodB p c ∧ c.sym ≠ [] ∧ ¬ (c.dirs = 0 ∧ c.files = 0 ∧ c.follow = false)) := by
  constructor
  · intro h
    cases op <;> first
      | exact Bool.noConfusion h
      | exact Or.inl (Or.inl (Or.inl rfl))
      | exact Or.inl (Or.inl (Or.inr trivial))
      | exact Or.inl (Or.inr trivial)
      | skip
    rename_i p c
    by_cases hs : c.sym = []
    · exact Or.inl (Or.inl (Or.inr hs))
    · by_cases hz : c.dirs = 0 ∧ c.files = 0 ∧ c.follow = false
      · exact Or.inl (Or.inr ⟨hs, hz⟩)
      · exact Or.inr ⟨p, c, rfl, hs, hz⟩
  · rintro (h | ⟨p, c, rfl, _⟩)
    · exact C02R_refined_covered op h
    · rfl

/-- **C02 from an `RInv` state** (one step): for each of the 43 refined operations, outside the
    known-finding classes of C01 and inside the Stdfs domain `D2`, `Memfs.step` on `s` and `Stdfs.step`
    on the tree `absS s` return ok/err together, equal values on ok, and leave equivalent trees —
    whenever the reference pins the result down.  No `Inv` / `KeysWf` / `EntriesOk` / `Wf` hypothesis. -/
theorem C02_backends_agree_rinv (env : Env) (s : State) (op : Op) (r : R Val) (t' : T)
    (h : RInv s) (hR : Refined' op) (hCl : classOf s env op = "-") (hd : DepthDom' s op)
    (hD : D2 env (absS s) op)
    (hs : specStep env (absS s) op = some (r, t')) (hr : r ≠ .unspecified) :
    OutcomeAgree (Memfs.step env s op).1 (Stdfs.step env (absS s) op).1 ∧
      Lemmas.RefineA.TEquiv (absS (Memfs.step env s op).2) (Stdfs.step env (absS s) op).2 :=
  C02_backends_agree_partial env s op r t'
    (fun r t' h' =>
      have x := C01R_refines_step' env s op h hR hCl hd r t' h'
      ⟨(resMatch_A_iff_B _ _).2 x.1, x.2⟩)
    (C02R_wf_absS_of_rinv s h) hD (C02R_refined_covered op hR) hs hr

/-- … from every `Reached` state (Props/C06R) -/
theorem C02_backends_agree_reached (env : Env) (s : State) (op : Op) (r : R Val) (t' : T)
    (h : Reached s) (hR : Refined' op) (hCl : classOf s env op = "-") (hd : DepthDom' s op)
    (hD : D2 env (absS s) op)
    (hs : specStep env (absS s) op = some (r, t')) (hr : r ≠ .unspecified) :
    OutcomeAgree (Memfs.step env s op).1 (Stdfs.step env (absS s) op).1 ∧
      Lemmas.RefineA.TEquiv (absS (Memfs.step env s op).2) (Stdfs.step env (absS s) op).2 :=
  C02_backends_agree_rinv env s op r t' (C06R_reached_rinv h) hR hCl hd hD hs hr

/-- **C02 on reachable states**: after ANY history `pre` (fresh filesystem, environment `env₀`, arbitrary
    arguments, calls succeeding or failing) that does not follow links, the two backends agree on the next
    call.  No hypothesis on the history but the alphabet (every call returns: `C12R_history_returns`). -/
theorem C02_backends_agree_reachable (env₀ env : Env) (pre : List Op) (op : Op) (r : R Val) (t' : T)
    (hn : ∀ o ∈ pre, NoFollowOp o) (hR : Refined' op)
    (hCl : classOf (run env₀ Memfs.init pre) env op = "-") (hd : DepthDom' (run env₀ Memfs.init pre) op)
    (hD : D2 env (absS (run env₀ Memfs.init pre)) op)
    (hs : specStep env (absS (run env₀ Memfs.init pre)) op = some (r, t')) (hr : r ≠ .unspecified) :
    OutcomeAgree (Memfs.step env (run env₀ Memfs.init pre) op).1
        (Stdfs.step env (absS (run env₀ Memfs.init pre)) op).1 ∧
      Lemmas.RefineA.TEquiv (absS (Memfs.step env (run env₀ Memfs.init pre) op).2)
        (Stdfs.step env (absS (run env₀ Memfs.init pre)) op).2 :=
  C02_backends_agree_rinv env _ op r t' (C12R_history_rinv env₀ pre hn) hR hCl hd hD hs hr

/-- with the physical size bound (fewer than `usize::MAX` entries) in place of `DepthDom'` -/
theorem C02_backends_agree_reachable_small (env₀ env : Env) (pre : List Op) (op : Op) (r : R Val) (t' : T)
    (hn : ∀ o ∈ pre, NoFollowOp o) (hR : Refined' op)
    (hCl : classOf (run env₀ Memfs.init pre) env op = "-")
    (hsmall : (run env₀ Memfs.init pre).entries.length < 2 ^ 64 - 1)
    (hD : D2 env (absS (run env₀ Memfs.init pre)) op)
    (hs : specStep env (absS (run env₀ Memfs.init pre)) op = some (r, t')) (hr : r ≠ .unspecified) :
    OutcomeAgree (Memfs.step env (run env₀ Memfs.init pre) op).1
        (Stdfs.step env (absS (run env₀ Memfs.init pre)) op).1 ∧
      Lemmas.RefineA.TEquiv (absS (Memfs.step env (run env₀ Memfs.init pre) op).2)
        (Stdfs.step env (absS (run env₀ Memfs.init pre)) op).2 :=
  have hrinv := C12R_history_rinv env₀ pre hn
  C02_backends_agree_rinv env _ op r t' hrinv hR hCl (C01C_depthDom_of_small _ op hrinv hsmall) hD hs hr

/-- the Stdfs half alone on reachable states: the tree a Memfs history leaves is a legal start tree for
    `C02_stdfs_refines_reference_partial` (its `Wf` hypothesis is discharged) -/
theorem C02_stdfs_refines_reference_reachable (env₀ env : Env) (pre : List Op) (op : Op) (r : R Val) (t' : T)
    (hn : ∀ o ∈ pre, NoFollowOp o) (hD : D2 env (absS (run env₀ Memfs.init pre)) op)
    (hC : CoveredS op = true) (hs : specStep env (absS (run env₀ Memfs.init pre)) op = some (r, t')) :
    ResMatchOkErr (Stdfs.step env (absS (run env₀ Memfs.init pre)) op).1 r ∧
      (r ≠ .unspecified → Lemmas.RefineA.TEquiv (Stdfs.step env (absS (run env₀ Memfs.init pre)) op).2 t') :=
  C02_stdfs_refines_reference_partial env _ op r t'
    (C02R_wf_absS_of_rinv _ (C12R_history_rinv env₀ pre hn)) hD hC hs

/-! ### non-vacuity -/

open C01RWitness C01CWitness

/-- the state `hist3` leaves: `/a/b/g`, `/a/f` and the link `/l → /a/f`, modes as the recursive `chmod_b` set them -/
def hist3State : State :=
  { entries :=
      [([], { mkDirEntry [] none with files := some [S "a", S "l"] }),
       ([S "a"], { mkDirEntry [S "a"] (some 0o700) with files := some [S "b", S "f"] }),
       ([S "a", S "b"], { mkDirEntry [S "a", S "b"] (some 0o700) with files := some [S "g"] }),
       ([S "a", S "f"], { mkFileEntry [S "a", S "f"] with mode := 0o100744 }),
       ([S "a", S "b", S "g"], { mkFileEntry [S "a", S "b", S "g"] with mode := 0o100744 }),
       ([S "l"], { mkFileEntry [S "l"] with alt := some [S "a", S "f"], rel := S "a/f", link := true, mode := 0o120777 })]
    files := [([S "a", S "f"], [120, 10, 121, 10, 122, 10]), ([S "a", S "b", S "g"], [113, 10])]
    cwd := [], root := [], handles := [] }

theorem C02R_hist3_state : run env0 Memfs.init hist3 = hist3State := by decide +kernel

/-- every hypothesis of `C02_backends_agree_reachable` holds after `hist3` of Props/C01C (15 calls; the
    tree has a link `/l → /a/f`) for a group-C call (`all_paths "/"`, the link among the results), a
    group-B call (`move_p` of the directory `/a/b`), the recursive `chmod`, and `all_files "/"` / `files "/"`
    (the link to a file lies below: formerly outside `classOf = "-"` and outside `D2`, finding S7) -/
theorem C02R_hist3_hyps : (∀ o ∈ hist3, NoFollowOp o) ∧
    (∀ op ∈ [Op.allPaths (S "/"), Op.moveP (S "/a/b") (S "/c"), Op.chmod (S "/a") 0o700,
        Op.allFiles (S "/"), Op.files (S "/")],
      Refined' op ∧ classOf (run env0 Memfs.init hist3) env0 op = "-" ∧
      DepthDom' (run env0 Memfs.init hist3) op ∧ D2 env0 (absS (run env0 Memfs.init hist3)) op) := by
  rw [C02R_hist3_state]
  decide +kernel

/-- … and the reference pins the results down -/
theorem C02R_hist3_spec :
    isOkPaths [[S "a"], [S "a", S "b"], [S "a", S "b", S "g"], [S "a", S "f"], [S "l"]]
      (specStep env0 (absS (run env0 Memfs.init hist3)) (.allPaths (S "/"))) = true ∧
    isOkUnit (specStep env0 (absS (run env0 Memfs.init hist3)) (.moveP (S "/a/b") (S "/c"))) = true := by
  rw [C02R_hist3_state]
  decide +kernel

/-- the conclusion, instantiated: both backends list the same five paths -/
example : OutcomeAgree (Memfs.step env0 (run env0 Memfs.init hist3) (.allPaths (S "/"))).1
      (Stdfs.step env0 (absS (run env0 Memfs.init hist3)) (.allPaths (S "/"))).1 ∧
    Lemmas.RefineA.TEquiv (absS (Memfs.step env0 (run env0 Memfs.init hist3) (.allPaths (S "/"))).2)
      (Stdfs.step env0 (absS (run env0 Memfs.init hist3)) (.allPaths (S "/"))).2 := by
  obtain ⟨t', hs⟩ := isOkPaths_elim C02R_hist3_spec.1
  obtain ⟨hR, hc, hd, hD⟩ := C02R_hist3_hyps.2 _ List.mem_cons_self
  exact C02_backends_agree_reachable env0 env0 hist3 _ _ t' C02R_hist3_hyps.1 hR hc hd hD hs
    (fun h => by cases h)

/-- `all_files "/"` after `hist3`: the reference lists the two regular files, not the link `/l → /a/f` … -/
theorem C02R_hist3_spec_allFiles :
    isOkPaths [[S "a", S "b", S "g"], [S "a", S "f"]]
      (specStep env0 (absS (run env0 Memfs.init hist3)) (.allFiles (S "/"))) = true := by
  rw [C02R_hist3_state]
  decide +kernel

/-- … and so do both backends (S7 / `listing_includes_links` repaired: no hypothesis about links) -/
example : OutcomeAgree (Memfs.step env0 (run env0 Memfs.init hist3) (.allFiles (S "/"))).1
      (Stdfs.step env0 (absS (run env0 Memfs.init hist3)) (.allFiles (S "/"))).1 ∧
    Lemmas.RefineA.TEquiv (absS (Memfs.step env0 (run env0 Memfs.init hist3) (.allFiles (S "/"))).2)
      (Stdfs.step env0 (absS (run env0 Memfs.init hist3)) (.allFiles (S "/"))).2 := by
  obtain ⟨t', hs⟩ := isOkPaths_elim C02R_hist3_spec_allFiles
  obtain ⟨hR, hc, hd, hD⟩ := C02R_hist3_hyps.2 (.allFiles (S "/")) (by simp)
  exact C02_backends_agree_reachable env0 env0 hist3 _ _ t' C02R_hist3_hyps.1 hR hc hd hD hs
    (fun h => by cases h)

-- OPEN (not proved):
--   * `D2 env (absS s) op` stays a per-call hypothesis: its state part (every link has an existing
--     non-link target with an accurate `toDir` flag; link texts resolve back to their target key; the cwd
--     is an existing directory) is NOT an invariant of reachable Memfs states (dangling links, links to
--     links, a removed cwd are reachable — findings S9, S10 and the link classes of C02), and its
--     operation part lists the Stdfs findings S6, S8, S11–S14, S16 (S7 is repaired).
--   * symbolic `chmod_b` is `Refined'` (Memfs side, Props/C01C) but outside the Stdfs proof: `D2` is false
--     for it (OPEN item of Props/C02), so the theorems above say nothing about it.

end Rivia.Props
