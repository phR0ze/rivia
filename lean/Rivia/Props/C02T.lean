/-
  C02T — C02 at HISTORY level: the two backend models run SIDE BY SIDE along one history.

  Props/C02 and Props/C02R compare one step: the Stdfs model is restarted on `absS s` (the abstraction of
  the current Memfs state) at every position.  Here three runs advance in lock-step along ONE history
  from the fresh filesystem,

      sᵢ₊₁ = (Memfs.step env sᵢ opᵢ).2      s₀ = Memfs.init
      tᵢ₊₁ = (specStep   env tᵢ opᵢ).2      t₀ = absS Memfs.init          (`refRun`, the reference ALONE)
      uᵢ₊₁ = (Stdfs.step env uᵢ opᵢ).2      u₀ = Stdfs.init  (= `absS Memfs.init`)

  and the invariant `TriInv sᵢ tᵢ uᵢ` = `RInv sᵢ ∧ TEquiv (absS sᵢ) tᵢ ∧ NodupK tᵢ ∧ Wf uᵢ ∧ TEquiv uᵢ tᵢ`
  is carried along.  The Stdfs state is NEVER re-abstracted: `uᵢ` is what the syscall model itself built.

  What this needs beyond Props/C02R, proved in Lemmas/StdfsWfStep*.lean:
  * `C02T_stdfs_step_wf` — EVERY operation of the Stdfs model (all 53 constructors of `Op`, `copy` and
    `move_p` included, any arguments, success or failure, NO domain hypothesis) keeps the tree `Wf`
    (distinct keys, `/` a directory, the parent of every other key a directory): every syscall of
    Model/Posix does (`mkdir`, `rmdir`, `unlink`, `create_dir_all`, `remove_dir_all`, `open(O_CREAT)`,
    `write`, `chmod`, `chown`, `fs::copy`, `symlinkat`, `chdir`, `rename`), and the `SM` monad, the
    `forM` loops and the three traversals (`_chmod`, `_chown`, `_copy`) only compose them.
  * that the Stdfs model respects `TEquiv` is NOT needed: the reference does (`C01S_specStep_congr`, on
    `NodupK` trees, and `Wf uᵢ` gives `NodupK uᵢ`), so the answer of the reference from `tᵢ` is its
    answer from `uᵢ`, where `C02_stdfs_refines_reference_partial` applies.

  Hypotheses of the history theorems (all decidable, all per position):
    the finding classes of C01 (`classOf sᵢ env opᵢ = "-"`), the depth bound `DepthDom' sᵢ opᵢ` (or the
    size bound), the Stdfs domain `D2 env uᵢ opᵢ` ON THE STDFS STATE, and "the reference, run alone,
    answers every call" (`refRun … = some _`: no call outside the reference, none `.unspecified`).
  The alphabet is not a hypothesis: a call the reference answers is `NoFollowOp ∧ Refined' ∧ CoveredS`
  (`C02T_alphabet`), and every Memfs call returns (Props/C12R).
-/
import Rivia.Props.C02R
import Rivia.Lemmas.StdfsWfStepWalk

namespace Rivia.Props
open Rivia Rivia.Memfs Rivia.File Rivia.Spec Rivia.Spec.TreeFs Rivia.Stdfs Rivia.Lemmas.StdfsL
open Rivia.Lemmas
open Rivia.Lemmas.Sim (NodupK AncDir)

/-! ### 1. the Stdfs model keeps its tree well-formed -/

/-- **every operation of the Stdfs model keeps the tree well-formed** (all of `Op`, no domain hypothesis) -/
theorem C02T_stdfs_step_wf (env : Env) (t : T) (op : Op) (h : Wf t) : Wf (Stdfs.step env t op).2 :=
  StdfsWf.stdfs_step_wf env t op h

/-- … along every history -/
theorem C02T_stdfs_run_wf (env : Env) (ops : List Op) (t : T) (h : Wf t) : Wf (Stdfs.run env t ops) :=
  StdfsWf.stdfs_run_wf env ops t h

/-- the sandbox the Stdfs harness starts from is the abstraction of the fresh Memfs -/
theorem C02T_init_eq : Stdfs.init = absS Memfs.init := by decide +kernel

theorem C02T_init_wf : Wf Stdfs.init := by decide +kernel

/-- every tree the Stdfs model reaches from its sandbox is well-formed: the `Wf` hypothesis of
    `C02_stdfs_refines_reference_partial` holds on every reachable Stdfs state -/
theorem C02T_stdfs_reachable_wf (env : Env) (ops : List Op) : Wf (Stdfs.run env Stdfs.init ops) :=
  C02T_stdfs_run_wf env ops _ C02T_init_wf

/-- the Stdfs half of C02 on every tree the Stdfs model itself reaches (ANY history `pre`, any operations,
    calls succeeding or failing): the `Wf` hypothesis of `C02_stdfs_refines_reference_partial` is discharged -/
theorem C02T_stdfs_refines_reachable (env₀ env : Env) (pre : List Op) (op : Op) (r : R Val) (t' : T)
    (hD : D2 env (Stdfs.run env₀ Stdfs.init pre) op) (hC : CoveredS op = true)
    (hs : specStep env (Stdfs.run env₀ Stdfs.init pre) op = some (r, t')) :
    ResMatchOkErr (Stdfs.step env (Stdfs.run env₀ Stdfs.init pre) op).1 r ∧
      (r ≠ .unspecified → RefineA.TEquiv (Stdfs.step env (Stdfs.run env₀ Stdfs.init pre) op).2 t') :=
  C02_stdfs_refines_reference_partial env _ op r t' (C02T_stdfs_reachable_wf env₀ pre) hD hC hs

/-- `Wf` is: no duplicate key, `/` a directory, every other key has a directory parent (restates
    `wfB` through `get`) -/
theorem C02T_wf_iff (t : T) : Wf t ↔ NodupK t ∧ isDir t [] = true ∧
    ∀ k n, get t k = some n → k ≠ [] → isDir t k.dropLast = true :=
  ⟨fun h => have f := wf_facts h; ⟨f.nodup, f.root, f.parent⟩,
   fun h => StdfsWf.wf_of_facts ⟨h.1, h.2.1, h.2.2⟩⟩

/-! ### 2. three runs in lock-step -/

/-- the invariant of the three runs: Memfs state `s`, reference tree `t`, Stdfs tree `u` -/
def TriInv (s : State) (t u : T) : Prop := SimInv s t ∧ Wf u ∧ RefineB.TEquiv u t

theorem C02T_triInv_init : TriInv Memfs.init (absS Memfs.init) Stdfs.init :=
  ⟨C01S_simInv_init, C02T_init_wf, by rw [C02T_init_eq]; exact RefineB.TEquiv.refl _⟩

/-- in the invariant, the Stdfs tree is (equivalent to) the abstraction of the Memfs state -/
theorem TriInv.agree {s : State} {t u : T} (h : TriInv s t u) : RefineB.TEquiv (absS s) u :=
  Sim.TEquiv.trans h.1.2.1 (Sim.TEquiv.symm h.2.2)

/-- what the reference answers is in the alphabet of all three theorems -/
theorem C02T_covered (env : Env) (t : T) (op : Op) (h : (specStep env t op).isSome = true) :
    NoFollowOp op ∧ Refined' op ∧ CoveredS op = true :=
  have hR := C01C_covers_reference env t op h
  ⟨C12R_covered_noFollow env t op h, hR, C02R_refined_covered op hR⟩

/-- **one step of the three runs**: from related states, outside the finding classes of C01 and inside
    the Stdfs domain `D2` AT THE STDFS STATE `u`, if the reference answers from its own state `t` then
    both backends return what it answers, they agree with each other, and the post-states are related
    again (in particular `Wf` of the new Stdfs tree and `TEquiv (absS s') u'`) -/
theorem C02T_step (env : Env) (s : State) (t u : T) (op : Op) (h : TriInv s t u)
    (hc : classOf s env op = "-") (hd : DepthDom' s op) (hD : D2 env u op)
    (r : R Val) (t' : T) (hs : specStep env t op = some (r, t')) (hr : r ≠ .unspecified) :
    RefineB.ResMatch (Memfs.step env s op).1 r ∧ ResMatchOkErr (Stdfs.step env u op).1 r ∧
      OutcomeAgree (Memfs.step env s op).1 (Stdfs.step env u op).1 ∧
      TriInv (Memfs.step env s op).2 t' (Stdfs.step env u op).2 := by
  obtain ⟨hS, hW, hE⟩ := h
  have hsome : (specStep env t op).isSome = true := by rw [hs]; rfl
  obtain ⟨hN, hR, hC⟩ := C02T_covered env t op hsome
  have hsd : StepDom' env s op :=
    ⟨⟨C12R_noFollow_good op hN, hR⟩, (C12R_returns env s op hS.1 hN).1, hc, hd⟩
  have hM := C01S_step' env s t op hS hsd r t' hs
  obtain ⟨t'', hs', hE'⟩ := C01S_specStep_congr' env hE (wf_facts hW).nodup hS.2.2 op r t' hs
  have hSt := C02_stdfs_refines_reference_partial env u op r t'' hW hD hC hs'
  have hE2 : RefineB.TEquiv (Stdfs.step env u op).2 t' :=
    Sim.TEquiv.trans (hSt.2 hr) hE'
  exact ⟨hM.1, hSt.1, agree_of_okErr (okErr_of_resMatch ((resMatch_A_iff_B _ _).2 hM.1)) hSt.1 hr,
    hM.2 hr, C02T_stdfs_step_wf env u op hW, hE2⟩

/-- the per-call side conditions along the two backend runs, recursively: finding class and depth bound at
    the Memfs state, `D2` at the Stdfs state -/
def SideRun (env : Env) : State → T → List Op → Prop
  | _, _, [] => True
  | s, u, op :: ops => (classOf s env op = "-" ∧ DepthDom' s op ∧ D2 env u op) ∧
      SideRun env (Memfs.step env s op).2 (Stdfs.step env u op).2 ops

/-- the same, position by position -/
theorem sideRun_of (env : Env) : ∀ (ops : List Op) (s : State) (u : T),
    (∀ pre op post, ops = pre ++ op :: post →
      classOf (run env s pre) env op = "-" ∧ DepthDom' (run env s pre) op ∧
        D2 env (Stdfs.run env u pre) op) → SideRun env s u ops := by
  intro ops
  induction ops with
  | nil => intro _ _ _; trivial
  | cons op ops ih =>
    intro s u h
    exact ⟨h [] op ops rfl, ih _ _ fun pre o post he => h (op :: pre) o post (by rw [he]; rfl)⟩

theorem sideRun_at (env : Env) : ∀ (pre : List Op) (s : State) (u : T) (op : Op) (post : List Op),
    SideRun env s u (pre ++ op :: post) →
      classOf (run env s pre) env op = "-" ∧ DepthDom' (run env s pre) op ∧ D2 env (Stdfs.run env u pre) op := by
  intro pre
  induction pre with
  | nil => intro s u op post h; exact h.1
  | cons o pre ih => intro s u op post h; exact ih _ _ op post h.2

/-- the three runs up to any point of a history the reference answers -/
theorem C02T_prefix (env : Env) : ∀ (pre : List Op) (s : State) (t u : T) (rest : List Op) (tf : T),
    TriInv s t u → SideRun env s u (pre ++ rest) → refRun env t (pre ++ rest) = some tf →
    ∃ ti, refRun env t pre = some ti ∧ TriInv (run env s pre) ti (Stdfs.run env u pre) ∧
      SideRun env (run env s pre) (Stdfs.run env u pre) rest ∧ refRun env ti rest = some tf := by
  intro pre
  induction pre with
  | nil => intro s t u rest tf h hs hr; exact ⟨t, rfl, h, hs, hr⟩
  | cons o pre ih =>
    intro s t u rest tf h hs hr
    obtain ⟨r, t', hsp, hne, hr'⟩ := refRun_cons hr
    have hst := C02T_step env s t u o h hs.1.1 hs.1.2.1 hs.1.2.2 r t' hsp hne
    obtain ⟨ti, h1, h2, h3, h4⟩ := ih _ t' _ rest tf hst.2.2.2 hs.2 hr'
    refine ⟨ti, ?_, h2, h3, h4⟩
    show refRun env t (o :: pre) = some ti
    unfold refRun
    rw [hsp]
    cases r with
    | unspecified => exact absurd rfl hne
    | ok v => exact h1
    | err k => exact h1

theorem C02T_run (env : Env) (ops : List Op) (s : State) (t u tf : T) (h : TriInv s t u)
    (hs : SideRun env s u ops) (hr : refRun env t ops = some tf) :
    TriInv (run env s ops) tf (Stdfs.run env u ops) := by
  obtain ⟨ti, _, h2, _, h4⟩ := C02T_prefix env ops s t u [] tf h (by rw [List.append_nil]; exact hs)
    (by rw [List.append_nil]; exact hr)
  cases h4
  exact h2

/-! ### 3. the history theorems -/

/-- the alphabet of a history the reference answers: no call follows links, every call is one of the 43
    operations refined on the Memfs side and covered on the Stdfs side -/
theorem C02T_alphabet (env : Env) : ∀ (ops : List Op) (t tf : T), refRun env t ops = some tf →
    ∀ o ∈ ops, NoFollowOp o ∧ Refined' o ∧ CoveredS o = true := by
  intro ops
  induction ops with
  | nil => intro _ _ _ o ho; cases ho
  | cons op ops ih =>
    intro t tf hr o ho
    obtain ⟨r, t', hsp, _, hr'⟩ := refRun_cons hr
    rcases List.mem_cons.1 ho with rfl | ho
    · exact C02T_covered env t o (by rw [hsp]; rfl)
    · exact ih t' tf hr' o ho

/-- **C02 along a history: the two backend models side by side.**  Let `ops` be any history from the
    fresh filesystem such that, position by position, the call is in no known-finding class of C01 and
    within the depth bound (at the Memfs state), within the Stdfs domain `D2` (AT THE STDFS STATE reached
    by the Stdfs model itself), and the reference, run alone, answers every call.  Then at EVERY position
    `pre ++ op :: post`:
    * before the call, the Stdfs tree is the abstraction of the Memfs state: `TEquiv (absS sᵢ) uᵢ`, and
      `Wf uᵢ`;
    * the two calls return ok/err together, with equal values on ok: `OutcomeAgree`;
    * after the call the trees agree again: `TEquiv (absS sᵢ₊₁) uᵢ₊₁`. -/
theorem C02_backends_agree_history (env : Env) (ops : List Op)
    (hdom : ∀ pre op post, ops = pre ++ op :: post →
      classOf (run env Memfs.init pre) env op = "-" ∧ DepthDom' (run env Memfs.init pre) op ∧
        D2 env (Stdfs.run env Stdfs.init pre) op)
    (tf : T) (href : refRun env (absS Memfs.init) ops = some tf) :
    ∀ pre op post, ops = pre ++ op :: post →
      RefineB.TEquiv (absS (run env Memfs.init pre)) (Stdfs.run env Stdfs.init pre) ∧
      Wf (Stdfs.run env Stdfs.init pre) ∧
      OutcomeAgree (Memfs.step env (run env Memfs.init pre) op).1
        (Stdfs.step env (Stdfs.run env Stdfs.init pre) op).1 ∧
      RefineB.TEquiv (absS (Memfs.step env (run env Memfs.init pre) op).2)
        (Stdfs.step env (Stdfs.run env Stdfs.init pre) op).2 := by
  intro pre op post he
  subst he
  have hs := sideRun_of env _ Memfs.init Stdfs.init hdom
  obtain ⟨ti, _, h2, h3, h4⟩ := C02T_prefix env pre _ _ _ (op :: post) tf C02T_triInv_init hs href
  obtain ⟨r, t', hsp, hne, _⟩ := refRun_cons h4
  have hst := C02T_step env _ ti _ op h2 h3.1.1 h3.1.2.1 h3.1.2.2 r t' hsp hne
  exact ⟨h2.agree, h2.2.1, hst.2.2.1, hst.2.2.2.agree⟩

/-- the end of the history: the tree the Stdfs model has built is the abstraction of the final Memfs
    state, and both are the reference's own final state -/
theorem C02_backends_agree_history_final (env : Env) (ops : List Op)
    (hdom : ∀ pre op post, ops = pre ++ op :: post →
      classOf (run env Memfs.init pre) env op = "-" ∧ DepthDom' (run env Memfs.init pre) op ∧
        D2 env (Stdfs.run env Stdfs.init pre) op)
    (tf : T) (href : refRun env (absS Memfs.init) ops = some tf) :
    RefineB.TEquiv (absS (run env Memfs.init ops)) (Stdfs.run env Stdfs.init ops) ∧
      RefineB.TEquiv (Stdfs.run env Stdfs.init ops) tf ∧ Wf (Stdfs.run env Stdfs.init ops) := by
  have h := C02T_run env ops _ _ _ tf C02T_triInv_init (sideRun_of env _ _ _ hdom) href
  exact ⟨h.agree, h.2.2, h.2.1⟩

/-- with the physical size bound (fewer than `usize::MAX` entries) in place of `DepthDom'` -/
theorem C02_backends_agree_history_small (env : Env) (ops : List Op)
    (hdom : ∀ pre op post, ops = pre ++ op :: post →
      classOf (run env Memfs.init pre) env op = "-" ∧ (run env Memfs.init pre).entries.length < 2 ^ 64 - 1 ∧
        D2 env (Stdfs.run env Stdfs.init pre) op)
    (tf : T) (href : refRun env (absS Memfs.init) ops = some tf) :
    ∀ pre op post, ops = pre ++ op :: post →
      RefineB.TEquiv (absS (run env Memfs.init pre)) (Stdfs.run env Stdfs.init pre) ∧
      Wf (Stdfs.run env Stdfs.init pre) ∧
      OutcomeAgree (Memfs.step env (run env Memfs.init pre) op).1
        (Stdfs.step env (Stdfs.run env Stdfs.init pre) op).1 ∧
      RefineB.TEquiv (absS (Memfs.step env (run env Memfs.init pre) op).2)
        (Stdfs.step env (Stdfs.run env Stdfs.init pre) op).2 := by
  refine C02_backends_agree_history env ops (fun pre op post he => ?_) tf href
  obtain ⟨h1, h2, h3⟩ := hdom pre op post he
  refine ⟨h1, ?_, h3⟩
  have hn := C02T_alphabet env ops _ tf href
  have hrinv := C12R_history_rinv env pre (fun o ho => (hn o (by rw [he]; exact List.mem_append_left _ ho)).1)
  exact C01C_depthDom_of_small _ op hrinv h2

/-! ### the same as one statement about the two result lists -/

/-- what the calls of the Stdfs model return, in order -/
def stdOuts (env : Env) : T → List Op → List (Outcome Val)
  | _, [] => []
  | u, op :: ops => (Stdfs.step env u op).1 :: stdOuts env (Stdfs.step env u op).2 ops

/-- position by position: same length, ok/err together, equal values on ok -/
def OutsAgree : List (Outcome Val) → List (Outcome Val) → Prop
  | [], [] => True
  | a :: as, b :: bs => OutcomeAgree a b ∧ OutsAgree as bs
  | _, _ => False

theorem C02T_trace (env : Env) : ∀ (ops : List Op) (s : State) (t u tf : T), TriInv s t u →
    SideRun env s u ops → refRun env t ops = some tf →
    OutsAgree (memOuts env s ops) (stdOuts env u ops) := by
  intro ops
  induction ops with
  | nil => intro _ _ _ _ _ _ _; trivial
  | cons op ops ih =>
    intro s t u tf h hs hr
    obtain ⟨r, t', hsp, hne, hr'⟩ := refRun_cons hr
    have hst := C02T_step env s t u op h hs.1.1 hs.1.2.1 hs.1.2.2 r t' hsp hne
    exact ⟨hst.2.2.1, ih _ t' _ tf hst.2.2.2 hs.2 hr'⟩

/-- **trace form**: the list of results of the Memfs run and the list of results of the Stdfs run agree
    position by position (same hypotheses as `C02_backends_agree_history`) -/
theorem C02_backends_agree_trace (env : Env) (ops : List Op)
    (hdom : ∀ pre op post, ops = pre ++ op :: post →
      classOf (run env Memfs.init pre) env op = "-" ∧ DepthDom' (run env Memfs.init pre) op ∧
        D2 env (Stdfs.run env Stdfs.init pre) op)
    (tf : T) (href : refRun env (absS Memfs.init) ops = some tf) :
    OutsAgree (memOuts env Memfs.init ops) (stdOuts env Stdfs.init ops) :=
  C02T_trace env ops _ _ _ tf C02T_triInv_init (sideRun_of env _ _ _ hdom) href

/-- … and each of the two lists matches the list of the reference's answers -/
theorem C02_backends_agree_trace_ref (env : Env) (ops : List Op)
    (hdom : ∀ pre op post, ops = pre ++ op :: post →
      classOf (run env Memfs.init pre) env op = "-" ∧ DepthDom' (run env Memfs.init pre) op ∧
        D2 env (Stdfs.run env Stdfs.init pre) op)
    (rs : List (R Val)) (href : refOuts env (absS Memfs.init) ops = some rs) :
    OutsAgree (memOuts env Memfs.init ops) (stdOuts env Stdfs.init ops) ∧
      TraceMatch (memOuts env Memfs.init ops) rs := by
  obtain ⟨tf, htf⟩ := refRun_of_refOuts env ops _ rs href
  exact ⟨C02_backends_agree_trace env ops hdom tf htf,
    C12R_simulates_trace env ops (fun pre op post he => ⟨(hdom pre op post he).1, (hdom pre op post he).2.1⟩) rs href⟩

/-! ### 4. non-vacuity -/

instance decSideRun (env : Env) : ∀ (ops : List Op) (s : State) (u : T), Decidable (SideRun env s u ops)
  | [], _, _ => isTrue trivial
  | op :: ops, s, u =>
    have := decSideRun env ops (Memfs.step env s op).2 (Stdfs.step env u op).2
    inferInstanceAs (Decidable ((classOf s env op = "-" ∧ DepthDom' s op ∧ D2 env u op) ∧ _))

namespace C02TWitness
open C01RWitness (S)
/-- 8 calls: a directory tree, a file with content, a link to that file, two queries (one through the
    link's own node), a listing with the link among the results, the link removed, a recursive listing -/
def hist5 : List Op :=
  [.mkdirP (S "/a/b"), .writeAll (S "/a/f") [104, 105], .symlink (S "/l") (S "/a/f"), .readlink (S "/l"),
   .readAll (S "/a/f"), .paths (S "/"), .remove (S "/l"), .allPaths (S "/")]
def isOkv : Outcome Val → Bool | .ok _ => true | _ => false
end C02TWitness
open C02TWitness C01RWitness C01CWitness

theorem C02T_hist5_side : SideRun env0 Memfs.init Stdfs.init hist5 :=
  by decide +kernel

/-- the reference, run alone, answers all 8 calls (none `.unspecified`) -/
theorem C02T_hist5_ref : (refRun env0 (absS Memfs.init) hist5).isSome = true ∧
    ((refOuts env0 (absS Memfs.init) hist5).map List.length) = some 8 := by
  decide +kernel

/-- every hypothesis of `C02_backends_agree_history` / `_trace` holds of `hist5` -/
theorem C02T_hist5_hyps : ∀ pre op post, hist5 = pre ++ op :: post →
    classOf (run env0 Memfs.init pre) env0 op = "-" ∧ DepthDom' (run env0 Memfs.init pre) op ∧
      D2 env0 (Stdfs.run env0 Stdfs.init pre) op :=
  fun pre op post he => sideRun_at env0 pre _ _ op post (he ▸ C02T_hist5_side)

/-- … so the conclusions hold of it: the two result lists agree position by position and the final trees
    are equivalent -/
example : OutsAgree (memOuts env0 Memfs.init hist5) (stdOuts env0 Stdfs.init hist5) ∧
    RefineB.TEquiv (absS (run env0 Memfs.init hist5)) (Stdfs.run env0 Stdfs.init hist5) := by
  cases h : refRun env0 (absS Memfs.init) hist5 with
  | none => have := C02T_hist5_ref.1; rw [h] at this; cases this
  | some tf =>
    exact ⟨C02_backends_agree_trace env0 hist5 C02T_hist5_hyps tf h,
      (C02_backends_agree_history_final env0 hist5 C02T_hist5_hyps tf h).1⟩

/-- the history is not a sequence of failures: all 8 calls succeed on the Stdfs model, the listing before
    the `remove` shows the link, the one after it does not -/
theorem C02T_hist5_outs : (stdOuts env0 Stdfs.init hist5).all isOkv = true ∧
    (Stdfs.step env0 (Stdfs.run env0 Stdfs.init (hist5.take 5)) (.paths (S "/"))).1 =
      .ok (.paths [[S "a"], [S "l"]]) ∧
    (Stdfs.step env0 (Stdfs.run env0 Stdfs.init (hist5.take 7)) (.allPaths (S "/"))).1 =
      .ok (.paths [[S "a"], [S "a", S "b"], [S "a", S "f"]]) := by
  decide +kernel

/-! ### the `D2` hypothesis is about the Stdfs state and cannot be dropped -/

/-- (from Props/C02, finding S6) a history of four calls after which the two backends DISAGREE on a query
    through a link: `D2` fails at that position and only there -/
theorem C02T_D2_needed :
    let pre : List Op := [.mkfile (S "/f"), .symlink (S "/l") (S "/f")]
    (∀ o ∈ pre ++ [Op.isExec (S "/l")], NoFollowOp o ∧ Refined' o) ∧
    SideRun env0 Memfs.init Stdfs.init pre ∧
    ¬ D2 env0 (Stdfs.run env0 Stdfs.init pre) (.isExec (S "/l")) ∧
    (Memfs.step env0 (run env0 Memfs.init pre) (.isExec (S "/l"))).1 = .ok (.bool true) ∧
    (Stdfs.step env0 (Stdfs.run env0 Stdfs.init pre) (.isExec (S "/l"))).1 = .ok (.bool false) := by
  refine ⟨by decide +kernel, by decide +kernel, by decide +kernel, by decide +kernel,
    by decide +kernel⟩

-- OPEN (not proved):
--   * `D2 env uᵢ opᵢ` stays a per-position hypothesis (now on the Stdfs state itself, decidable): its state
--     part (every link has an existing non-link target with an accurate `toDir` flag, link texts resolve
--     back to their target key, the cwd is an existing directory) is not an invariant of either backend
--     (dangling links, links to links, a removed cwd are reachable: findings S9, S10), and its operation
--     part lists the Stdfs findings S6, S8, S11–S14, S16 (S7 is repaired) (`C02T_D2_needed`: S6 along a history).
--   * the reference must answer every call (`refRun … = some _`): calls outside the reference (`mkfile_m`,
--     `copy`, `copy_b`, `entry`, `entries`, the handle operations, `follow = true`) and calls it leaves
--     `.unspecified` end the comparison; the invariant `Wf uᵢ` alone survives them (`C02T_stdfs_step_wf`
--     has no domain hypothesis), `TEquiv (absS sᵢ) uᵢ` does not (no common specification to go through).
--   * symbolic `chmod_b` is answered by the reference and refined on the Memfs side, but `D2` is false
--     for it (OPEN item of Props/C02): the history theorems say nothing about histories containing it.
--   * that `Stdfs.step` itself respects `TEquiv` (same results from `TEquiv` start trees) is not proved and
--     was not needed: the comparison goes through the reference, which does (`C01S_specStep_congr`).

end Rivia.Props
