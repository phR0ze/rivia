/-
  C14 — clean() returns the shortest lexically equivalent path (= Go's path.Clean).
  Property theorems ONLY (helper lemmas live in Rivia/Lemmas/*).
-/
import Rivia.Model.Path
import Rivia.Spec.GoClean
import Rivia.Lemmas.Clean

namespace Rivia.Props
open Rivia Rivia.Spec

/-- Full strength: for every path string the model of `sys::clean` never panics and returns
    exactly what Go's `path.Clean` (the six documented rules) returns. -/
theorem C14_clean_eq_go (s : Str) : cleanO s = some (goClean s) :=
  Lemmas.cleanO_eq_goClean s

/-- `clean` never takes the `prev.unwrap()` panic branch. -/
theorem C14_never_panics (s : Str) : cleanO s ≠ none := by
  rw [C14_clean_eq_go]; simp

/-- idempotent -/
theorem C14_idempotent (s : Str) : cleanO (goClean s) = some (goClean s) := by
  rw [C14_clean_eq_go, Lemmas.goClean_of_normalForm (Lemmas.goClean_normalForm s)]

/-- preserves absoluteness (both directions) -/
theorem C14_preserves_absolute (s : Str) : isRooted (goClean s) = isRooted s :=
  Lemmas.goClean_rooted s

/-- never returns an empty path -/
theorem C14_never_empty (s : Str) : goClean s ≠ [] := by
  rw [Lemmas.goClean_eq]
  split
  · exact List.cons_ne_nil _ _
  · assumption

/-- The result is in normal form: its `/`-pieces contain no empty piece (no `//`, no trailing
    `/`) except for the root marker, no `.` piece unless the whole result is `.`, and `..` pieces
    only as a leading run of a non-rooted path. -/
theorem C14_normal_form (s : Str) : Lemmas.NormalForm (goClean s) :=
  Lemmas.goClean_normalForm s

-- non-vacuity / sanity: concrete evaluations (tests, labelled as such)
example : cleanO "/a/../../b/./c//".toList = some "/b/c".toList := by decide +kernel
example : cleanO "".toList = some ".".toList := by decide +kernel
example : cleanO "../a/../..".toList = some "../..".toList := by decide +kernel

end Rivia.Props
