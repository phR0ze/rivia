/-
  C01S — C01 as a trace-level simulation against ONE run of the reference filesystem.

  Props/C01R re-abstracts before every call: the reference is stepped from `absS` of the CURRENT Memfs
  state.  Here the reference runs alone,

      t₀ = absS Memfs.init,   tᵢ₊₁ = (specStep env tᵢ opᵢ).2        (`refRun`)

  and `TEquiv (absS sᵢ) tᵢ` is shown for every i, together with result agreement at every step
  (`C01_simulates_history`), for histories in which every operation is `GoodOp ∧ Refined` (the 33
  operations of C01A / C01B), every call returns, no step is in a known-finding class
  (`classOf … = "-"`), `DepthDom` (or the physical size bound) holds at each step, and the reference
  answers every step (`refRun … = some _`: no step `.unspecified`, none outside the reference).

  What this needs beyond C01R (Lemmas/SimCongr.lean, Lemmas/SimStep.lean):
  * `specStep` respects `TEquiv` — `C01S_specStep_congr`, proved for ALL operations of `Op` (not only the
    33): equal results and `TEquiv` post-states on `TEquiv` arguments.  Every reference operation reads
    the node list through `get` only, except `del` (used by `remove`; `alErase` drops the FIRST
    occurrence of a key) and the six listings (sort of the selected keys): these need the node keys to
    be duplicate-free (`NodupK`) on both sides;
  * `NodupK` is an invariant of the reference run — `C01S_specStep_nodup`, all operations; `move_p`
    (`rest ++ moved`) needs "every proper ancestor of a key is a directory" (`AncDir`), which is
    `get`-determined and therefore carried over from `absS sᵢ` (`Inv sᵢ`) by `TEquiv`;
  * `absS s` has both for `Inv s`.
-/
import Rivia.Props.C01R
import Rivia.Lemmas.SimStep

namespace Rivia.Props
open Rivia Rivia.Memfs Rivia.Spec Rivia.Spec.TreeFs Rivia.Lemmas
open Rivia.Lemmas.Sim (NodupK AncDir RelO Rel)

/-! ### the reference respects `TEquiv` -/

/-- (restates the definitions) the relation between two reference answers: both undefined, or both
    defined with EQUAL results and `TEquiv` post-states -/
theorem C01S_relO_def (x y : Option SR) : RelO x y ↔
    match x, y with
    | some x, some y => x.1 = y.1 ∧ RefineB.TEquiv x.2 y.2
    | none, none => True
    | _, _ => False := by
  cases x <;> cases y <;> exact Iff.rfl

/-- **`specStep` is a congruence for `TEquiv`** on duplicate-free node lists — every operation -/
theorem C01S_specStep_congr (env : Env) {a b : T} (h : RefineB.TEquiv a b) (ha : NodupK a) (hb : NodupK b)
    (op : Op) : RelO (specStep env a op) (specStep env b op) :=
  Sim.specStep_congr env h ha hb op

/-- the same, unfolded: whatever the reference answers from `b` it answers from `a` -/
theorem C01S_specStep_congr' (env : Env) {a b : T} (h : RefineB.TEquiv a b) (ha : NodupK a) (hb : NodupK b)
    (op : Op) (r : R Val) (t' : T) (hs : specStep env b op = some (r, t')) :
    ∃ t'', specStep env a op = some (r, t'') ∧ RefineB.TEquiv t'' t' := by
  have hc := C01S_specStep_congr env h ha hb op
  rw [hs] at hc
  cases hsa : specStep env a op with
  | none => rw [hsa] at hc; exact hc.elim
  | some x =>
    rw [hsa] at hc
    obtain ⟨r'', t''⟩ := x
    obtain ⟨h1, h2⟩ := hc
    simp only at h1 h2
    subst h1
    exact ⟨t'', rfl, h2⟩

/-- **the reference keeps its node keys duplicate-free** (every operation; `AncDir`: every proper
    ancestor of a key is a directory — only `move_p` uses it) -/
theorem C01S_specStep_nodup (env : Env) {t : T} (hn : NodupK t) (hA : AncDir t) (op : Op) (r : R Val) (t' : T)
    (hs : specStep env t op = some (r, t')) : NodupK t' :=
  Sim.nodupK_specStep env hn hA op (r, t') hs

/-- the abstraction of a well-formed Memfs state is duplicate-free with directory ancestors -/
theorem C01S_absS_wf {s : State} (h : Spec.Inv s) : NodupK (absS s) ∧ AncDir (absS s) :=
  ⟨Sim.nodupK_absS h, Sim.ancDir_absS h⟩

/-- `NodupK` cannot be dropped from the congruence: `remove` erases the first occurrence only -/
theorem C01S_congr_needs_nodup :
    ∃ (a b : T), RefineB.TEquiv a b ∧ NodupK a ∧ ¬ NodupK b ∧
      ¬ RefineB.TEquiv (TreeFs.remove a [['x']]).2 (TreeFs.remove b [['x']]).2 := by
  refine ⟨⟨[([], newDir 0o755), ([['x']], newFile)], []⟩,
    ⟨[([], newDir 0o755), ([['x']], newFile), ([['x']], newFile)], []⟩, ?_, by decide, by decide, ?_⟩
  · refine ⟨rfl, fun k => ?_⟩
    unfold TreeFs.get
    simp only [alLookup]
    split
    · rfl
    · split <;> simp_all
  · intro h
    have := h.2 [['x']]
    revert this
    decide

/-! ### the single run of the reference -/

/-- the reference alone: `none` as soon as a step is outside the reference (`specStep = none`) or
    `.unspecified` -/
def refRun (env : Env) : T → List Op → Option T
  | t, [] => some t
  | t, op :: ops =>
    match specStep env t op with
    | some (.unspecified, _) => none
    | some (_, t') => refRun env t' ops
    | none => none

theorem refRun_cons {env : Env} {t t₂ : T} {op : Op} {ops : List Op} (h : refRun env t (op :: ops) = some t₂) :
    ∃ r t', specStep env t op = some (r, t') ∧ r ≠ .unspecified ∧ refRun env t' ops = some t₂ := by
  unfold refRun at h
  split at h
  · cases h
  · rename_i r t' hne heq
    refine ⟨r, t', heq, ?_, h⟩
    rintro rfl
    exact hne rfl
  · cases h

/-- the simulation relation: the invariants of C01R, the abstraction is the reference state, and the
    reference state has no duplicate key -/
def SimInv (s : State) (t : T) : Prop := RInv s ∧ RefineB.TEquiv (absS s) t ∧ NodupK t

theorem C01S_simInv_init : SimInv Memfs.init (absS Memfs.init) :=
  ⟨C01R_init, RefineB.TEquiv.refl _, by decide⟩

/-- the side conditions of one step -/
def StepDom (env : Env) (s : State) (op : Op) : Prop :=
  (GoodOp op ∧ Refined op) ∧ (step env s op).1 ≠ .hang ∧ classOf s env op = "-" ∧ DepthDom s op

instance (env : Env) (s : State) (op : Op) : Decidable (StepDom env s op) := by
  unfold StepDom; infer_instance

/-- **one step of the simulation**: from related states, the Memfs call returns what the reference
    answers FROM ITS OWN STATE `t`, and the post-states are related again -/
theorem C01S_step (env : Env) (s : State) (t : T) (op : Op) (h : SimInv s t) (hd : StepDom env s op)
    (r : R Val) (t' : T) (hs : specStep env t op = some (r, t')) :
    RefineB.ResMatch (step env s op).1 r ∧ (r ≠ .unspecified → SimInv (step env s op).2 t') := by
  obtain ⟨hI, hE, hN⟩ := h
  obtain ⟨⟨hg, hR⟩, hh, hc, hdd⟩ := hd
  have hwf := C01S_absS_wf hI.1.1
  obtain ⟨t'', hs', hE'⟩ := C01S_specStep_congr' env hE hwf.1 hN op r t' hs
  have href := C01R_refines_step env s op hI hR hc hdd r t'' hs'
  refine ⟨href.1, fun hne => ⟨C01R_good_step env s op hg hI hh, Sim.TEquiv.trans (href.2 hne) hE', ?_⟩⟩
  exact C01S_specStep_nodup env hN (Sim.ancDir_congr hE hwf.2) op r t' hs

/-- side conditions along a run, recursively -/
def DomRun (env : Env) : State → List Op → Prop
  | _, [] => True
  | s, op :: ops => StepDom env s op ∧ DomRun env (step env s op).2 ops

theorem C01S_run (env : Env) : ∀ (ops : List Op) (s : State) (t t₂ : T), SimInv s t → DomRun env s ops →
    refRun env t ops = some t₂ → SimInv (run env s ops) t₂ := by
  intro ops
  induction ops with
  | nil => intro s t t₂ h _ hr; cases hr; exact h
  | cons op ops ih =>
    intro s t t₂ h hd hr
    obtain ⟨r, t', hs, hne, hr'⟩ := refRun_cons hr
    exact ih _ t' t₂ ((C01S_step env s t op h hd.1 r t' hs).2 hne) hd.2 hr'

theorem domRun_of (env : Env) : ∀ (ops : List Op) (s : State),
    (∀ pre op post, ops = pre ++ op :: post → StepDom env (run env s pre) op) → DomRun env s ops := by
  intro ops
  induction ops with
  | nil => intro _ _; trivial
  | cons op ops ih =>
    intro s h
    refine ⟨h [] op ops rfl, ih _ fun pre o post he => ?_⟩
    have := h (op :: pre) o post (by rw [he]; rfl)
    exact this

/-- the hypotheses of the history theorems, put together position by position -/
theorem stepDom_of (env : Env) (ops : List Op)
    (hops : ∀ o ∈ ops, GoodOp o ∧ Refined o) (hret : Returns env Memfs.init ops)
    (hdom : ∀ pre op post, ops = pre ++ op :: post →
      classOf (run env Memfs.init pre) env op = "-" ∧ DepthDom (run env Memfs.init pre) op) :
    ∀ pre op post, ops = pre ++ op :: post → StepDom env (run env Memfs.init pre) op := by
  intro pre op post he
  exact ⟨hops op (by rw [he]; simp), hret pre op post he, hdom pre op post he⟩

/-- **C01 as a simulation of one reference run.**  Let `ops` be a history of refined `GoodOp`s from the
    fresh filesystem, every call returning, no call in a known-finding class, `DepthDom` at each step.
    Run the reference ALONE from `absS Memfs.init`.  Then at every position `pre ++ op :: post` of the
    history up to which the reference has answered (`refRun … pre = some t`):
    * the reference's state is the abstraction of the Memfs state, `TEquiv (absS sᵢ) tᵢ`;
    * `tᵢ` has no duplicate key;
    * the Memfs call returns what the reference answers from `tᵢ` (`ResMatch`), and unless that answer
      is `.unspecified` the next states agree again. -/
theorem C01_simulates_history (env : Env) (ops : List Op)
    (hops : ∀ o ∈ ops, GoodOp o ∧ Refined o) (hret : Returns env Memfs.init ops)
    (hdom : ∀ pre op post, ops = pre ++ op :: post →
      classOf (run env Memfs.init pre) env op = "-" ∧ DepthDom (run env Memfs.init pre) op) :
    ∀ pre op post, ops = pre ++ op :: post → ∀ t, refRun env (absS Memfs.init) pre = some t →
      RefineB.TEquiv (absS (run env Memfs.init pre)) t ∧ NodupK t ∧
      ∀ r t', specStep env t op = some (r, t') →
        RefineB.ResMatch (step env (run env Memfs.init pre) op).1 r ∧
        (r ≠ .unspecified → RefineB.TEquiv (absS (step env (run env Memfs.init pre) op).2) t') := by
  intro pre op post he t hr
  have hsd := stepDom_of env ops hops hret hdom
  have hpre : DomRun env Memfs.init pre := domRun_of env pre _ fun p o q hp =>
    hsd p o (q ++ op :: post) (by rw [he, hp]; simp)
  have hinv := C01S_run env pre _ _ t C01S_simInv_init hpre hr
  refine ⟨hinv.2.1, hinv.2.2, fun r t' hs => ?_⟩
  have := C01S_step env _ t op hinv (hsd pre op post he) r t' hs
  exact ⟨this.1, fun hne => (this.2 hne).2.1⟩

/-- the end of the run: if the reference answers every step, its final state is the abstraction of the
    final Memfs state (and every intermediate one, by `C01_simulates_history`) -/
theorem C01_simulates_history_final (env : Env) (ops : List Op)
    (hops : ∀ o ∈ ops, GoodOp o ∧ Refined o) (hret : Returns env Memfs.init ops)
    (hdom : ∀ pre op post, ops = pre ++ op :: post →
      classOf (run env Memfs.init pre) env op = "-" ∧ DepthDom (run env Memfs.init pre) op)
    (t : T) (hr : refRun env (absS Memfs.init) ops = some t) :
    RefineB.TEquiv (absS (run env Memfs.init ops)) t ∧ NodupK t :=
  have h := C01S_run env ops _ _ t C01S_simInv_init
    (domRun_of env ops _ (stepDom_of env ops hops hret hdom)) hr
  ⟨h.2.1, h.2.2⟩

/-- with the physical size bound (fewer than `usize::MAX` entries) in place of `DepthDom` -/
theorem C01_simulates_history_small (env : Env) (ops : List Op)
    (hops : ∀ o ∈ ops, GoodOp o ∧ Refined o) (hret : Returns env Memfs.init ops)
    (hdom : ∀ pre op post, ops = pre ++ op :: post →
      classOf (run env Memfs.init pre) env op = "-" ∧ (run env Memfs.init pre).entries.length < 2 ^ 64 - 1) :
    ∀ pre op post, ops = pre ++ op :: post → ∀ t, refRun env (absS Memfs.init) pre = some t →
      RefineB.TEquiv (absS (run env Memfs.init pre)) t ∧ NodupK t ∧
      ∀ r t', specStep env t op = some (r, t') →
        RefineB.ResMatch (step env (run env Memfs.init pre) op).1 r ∧
        (r ≠ .unspecified → RefineB.TEquiv (absS (step env (run env Memfs.init pre) op).2) t') := by
  refine C01_simulates_history env ops hops hret fun pre op post he => ⟨(hdom pre op post he).1, ?_⟩
  have hr : RInv (run env Memfs.init pre) :=
    C01R_good_run env _ pre (fun o ho => (hops o (by rw [he]; exact List.mem_append_left _ ho)).1) C01R_init
      ((InvAll.noHangRun_iff env _ pre).2 fun p o q hp => hret p o (q ++ op :: post) (by rw [he, hp]; simp))
  exact C01R_depthDom_of_small _ op hr (hdom pre op post he).2

/-! ### the same as one statement about the two traces -/

/-- what the Memfs calls return, in order -/
def memOuts (env : Env) : State → List Op → List (Outcome Val)
  | _, [] => []
  | s, op :: ops => (step env s op).1 :: memOuts env (step env s op).2 ops

/-- what the reference, run alone, answers, in order (`none` as `refRun`) -/
def refOuts (env : Env) : T → List Op → Option (List (R Val))
  | _, [] => some []
  | t, op :: ops =>
    match specStep env t op with
    | some (.unspecified, _) => none
    | some (r, t') => (refOuts env t' ops).map (r :: ·)
    | none => none

/-- where the reference answers every call, its run alone goes through -/
theorem refRun_of_refOuts (env : Env) : ∀ (ops : List Op) (t : T) (rs : List (R Val)),
    refOuts env t ops = some rs → ∃ t₂, refRun env t ops = some t₂ := by
  intro ops
  induction ops with
  | nil => intro t _ _; exact ⟨t, rfl⟩
  | cons op ops ih =>
    intro t rs h
    unfold refOuts at h
    unfold refRun
    split at h
    · cases h
    · rename_i r t' hne heq
      cases hro : refOuts env t' ops with
      | none => rw [hro] at h; cases h
      | some rs' =>
        obtain ⟨t₂, ht₂⟩ := ih t' rs' hro
        exact ⟨t₂, ht₂⟩
    · cases h

/-- position by position: same length, every outcome allowed by the corresponding answer -/
def TraceMatch : List (Outcome Val) → List (R Val) → Prop
  | [], [] => True
  | o :: os, r :: rs => RefineB.ResMatch o r ∧ TraceMatch os rs
  | _, _ => False

theorem C01S_trace (env : Env) : ∀ (ops : List Op) (s : State) (t : T) (rs : List (R Val)), SimInv s t →
    DomRun env s ops → refOuts env t ops = some rs →
    TraceMatch (memOuts env s ops) rs := by
  intro ops
  induction ops with
  | nil => intro s t rs _ _ hr; cases hr; trivial
  | cons op ops ih =>
    intro s t rs h hd hr
    unfold refOuts at hr
    split at hr
    · cases hr
    · rename_i r t' hne heq
      have hne' : r ≠ .unspecified := by rintro rfl; exact hne rfl
      have hst := C01S_step env s t op h hd.1 r t' heq
      cases hro : refOuts env t' ops with
      | none => rw [hro] at hr; cases hr
      | some rs' =>
        rw [hro] at hr
        cases hr
        exact ⟨hst.1, ih _ t' rs' (hst.2 hne') hd.2 hro⟩
    · cases hr

/-- **trace form**: the list of outcomes of the Memfs run matches, position by position, the list of
    answers of the reference run alone (same hypotheses as `C01_simulates_history`) -/
theorem C01_simulates_trace (env : Env) (ops : List Op)
    (hops : ∀ o ∈ ops, GoodOp o ∧ Refined o) (hret : Returns env Memfs.init ops)
    (hdom : ∀ pre op post, ops = pre ++ op :: post →
      classOf (run env Memfs.init pre) env op = "-" ∧ DepthDom (run env Memfs.init pre) op)
    (rs : List (R Val)) (hr : refOuts env (absS Memfs.init) ops = some rs) :
    TraceMatch (memOuts env Memfs.init ops) rs :=
  C01S_trace env ops _ _ rs C01S_simInv_init (domRun_of env ops _ (stepDom_of env ops hops hret hdom)) hr

/-! ### non-vacuity -/

/-- executable check of the side conditions along a run (one evaluation of `step` per call) -/
def domChk (env : Env) : State → List Op → Bool
  | _, [] => true
  | s, op :: ops =>
    decide (GoodOp op ∧ Refined op) && decide (classOf s env op = "-") && decide (DepthDom s op) &&
      match step env s op with
      | (.hang, _) => false
      | (_, s') => domChk env s' ops

theorem domRun_of_chk (env : Env) : ∀ (ops : List Op) (s : State), domChk env s ops = true → DomRun env s ops := by
  intro ops
  induction ops with
  | nil => intro _ _; trivial
  | cons op ops ih =>
    intro s h
    unfold domChk at h
    simp only [Bool.and_eq_true, decide_eq_true_eq] at h
    obtain ⟨⟨⟨h1, h2⟩, h3⟩, h4⟩ := h
    rcases hs : step env s op with ⟨o, s'⟩
    rw [hs] at h4
    unfold DomRun StepDom
    rw [hs]
    cases o with
    | hang => cases h4
    | ok v => exact ⟨⟨h1, (fun h0 => by cases h0), h2, h3⟩, ih _ h4⟩
    | err k => exact ⟨⟨h1, (fun h0 => by cases h0), h2, h3⟩, ih _ h4⟩
    | panic => exact ⟨⟨h1, (fun h0 => by cases h0), h2, h3⟩, ih _ h4⟩

theorem stepDom_of_domRun (env : Env) : ∀ (pre : List Op) (s : State) (op : Op) (post : List Op),
    DomRun env s (pre ++ op :: post) → StepDom env (run env s pre) op := by
  intro pre
  induction pre with
  | nil => intro s op post h; exact h.1
  | cons o pre ih => intro s op post h; exact ih _ op post h.2

namespace C01SWitness
open C01RWitness (S)
/-- 14 calls: a link is made and moved, a directory tree is moved, a file removed through the new
    path, the cwd changed and a relative path used, a recursive chown, a `remove_all` -/
def hist2 : List Op :=
  [.mkdirP (S "/a/b"), .writeAll (S "/a/b/f") [104, 105], .mkdirP (S "/d"), .symlink (S "/a/l") (S "/a/b/f"),
   .moveP (S "/a/l") (S "/d"), .readlink (S "/d/l"), .chmod (S "/a") 0o750, .moveP (S "/a/b") (S "/d"),
   .remove (S "/d/b/f"), .setCwd (S "/d/b"), .mkfile (S "g"),
   .chownB (S "/") { uid := some 5, recursive := true }, .removeAll (S "/a"), .isDir (S "/d/b")]
end C01SWitness
open C01SWitness C01RWitness

theorem C01S_hist2_dom : DomRun env0 Memfs.init hist2 := domRun_of_chk _ _ _ (by decide +kernel)

/-- every hypothesis of `C01_simulates_history` holds of `hist2` … -/
theorem C01S_hist2_hyps :
    (∀ o ∈ hist2, GoodOp o ∧ Refined o) ∧ Returns env0 Memfs.init hist2 ∧
    (∀ pre op post, hist2 = pre ++ op :: post →
      classOf (run env0 Memfs.init pre) env0 op = "-" ∧ DepthDom (run env0 Memfs.init pre) op) := by
  refine ⟨by decide +kernel, ?_, ?_⟩
  · intro pre op post he
    exact (stepDom_of_domRun env0 pre _ op post (he ▸ C01S_hist2_dom)).2.1
  · intro pre op post he
    exact (stepDom_of_domRun env0 pre _ op post (he ▸ C01S_hist2_dom)).2.2

/-- … and the reference, run alone, answers all 14 steps (none `.unspecified`): the answers exist
    (hypothesis of `C01_simulates_trace`) -/
theorem C01S_hist2_outs : ((refOuts env0 (absS Memfs.init) hist2).map List.length) = some 14 := by
  decide +kernel

theorem C01S_hist2_ref : (refRun env0 (absS Memfs.init) hist2).isSome = true := by
  cases h : refOuts env0 (absS Memfs.init) hist2 with
  | none => have := C01S_hist2_outs; rw [h] at this; cases this
  | some rs => obtain ⟨t, ht⟩ := refRun_of_refOuts env0 hist2 _ rs h; rw [ht]; rfl

/-- the conclusion, instantiated: the reference's own final state is the abstraction of Memfs's -/
example : ∃ t, refRun env0 (absS Memfs.init) hist2 = some t ∧
    RefineB.TEquiv (absS (run env0 Memfs.init hist2)) t := by
  cases h : refRun env0 (absS Memfs.init) hist2 with
  | none => have := C01S_hist2_ref; rw [h] at this; cases this
  | some t =>
    exact ⟨t, rfl, (C01_simulates_history_final env0 hist2 C01S_hist2_hyps.1 C01S_hist2_hyps.2.1
      C01S_hist2_hyps.2.2 t h).1⟩


-- OPEN (not proved):
--   * The simulation is stated for the 33 operations with a step refinement theorem (`Refined`: 25 of
--     C01A, 8 of C01B).  The congruence `C01S_specStep_congr` and the `NodupK` preservation
--     `C01S_specStep_nodup` are proved for ALL operations the reference covers (also the six listings,
--     `write_lines` / `append_lines` / `append_line`, symbolic `chmod_b`), so the simulation extends to any
--     of those as soon as its per-step refinement from an `RInv` state is available; for the operations
--     the reference does not cover (`mkfile_m`, `entry`, `copy`, `copy_b`, `entries`, the handle
--     operations: `specStep = none`) a single reference run cannot continue by construction.
--   * `DepthDom` (for recursive `chown` / `chmod`: no key `usize::MAX` components deep) stays a per-step
--     side condition on the Memfs state, or the size bound of `C01_simulates_history_small`; it is no
--     invariant of the model (see Props/C01R.lean).

end Rivia.Props
