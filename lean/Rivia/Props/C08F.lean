/-
  C08F — C08 with links followed (`follow = true`): the traversal yields exactly what the options
  denote — the contents of a link's target once per followed link — in order, and ends with
  `LinkLooping` rather than descending for ever when following a link cycle.
  Property theorems ONLY (helper lemmas live in Rivia/Lemmas/WalkFollow.lean).

  Spec:  `Spec.entriesSpecF snap o rootE : List Entry × Option ErrKind` (Rivia/Spec/WalkFollow.lean):
         yielded entries in order, and the error that ended the traversal (if any).
  Model: the iterator stack machine `runIter` run to exhaustion collecting what it yields
         (`modelRun`), and `collectEntries` (= `modelRun` with fuel `travFuel`, yields dropped on error).

  Hypotheses used below (all decidable)
  * `SnapWf snap`, `InSnap snap rootE`  as in C08;
  * `ExactDomF3 o` (Lemmas/WalkCF.lean) `follow = true ∧ OrdOk o ∧ KindOk o`: links followed,
                   `dirs_first`/`files_first` only with `sort_by_name`, exclusive kind filters; no
                   restriction on `contents_first` or the depth window, no side condition (the
                   implementation after the repairs of the findings `contents_first_ignores_filter`
                   and `contents_first_min_depth_order`); the domain of the central theorem;
  * `ExactDomF2 o` (after the first repair only) as `ExactDomF3`, but `contents_first` only with
                   `min_depth = 0`; its theorems carry the side condition `FlagsOkFor snap o` (with
                   `files()`: no snapshot entry carries both kind flags);
  * `ExactDomF o`  (= `ExactDom` of C08 with `follow = true`) either parents first with exclusive kind
                   filters, or `contents_first` without kind filter and lower depth bound;
  * `fuelNeed snap o rootE ≤ f`  the fuel of the model: `fuelNeed` = 3 · (number of entries the
                   walk visits, computed by `sizeF`) + 1.  The real iterator has no fuel; `.hang` of
                   the model with `travFuel` is an artifact where the walk is larger than
                   `travFuel` allows (diamond link chains, see the end of this file).
-/
import Rivia.Lemmas.WalkFollow
import Rivia.Lemmas.WalkCF

namespace Rivia.Props
open Rivia Rivia.Memfs Rivia.Spec
open Rivia.Lemmas.WalkF (DomF fuelNeed stepCons specOutcome)
open Rivia.Lemmas.WalkCF (ExactDomF2 ExactDomF3 FlagsExcl FlagsOkFor)

/-- the model run to exhaustion with the given fuel: yielded entries (in order), final outcome -/
def modelRun (snap : Snap) (o : Opts) (rootE : Entry) (fuel : Nat) : List Entry × Outcome Unit :=
  ((runIter snap o noPre rootE stepCons fuel {} []).2.reverse, (runIter snap o noPre rootE stepCons fuel {} []).1)

/-- the spec's result in the same shape -/
def specRun (snap : Snap) (o : Opts) (rootE : Entry) : List Entry × Outcome Unit :=
  ((entriesSpecF snap o rootE).1, specOutcome (entriesSpecF snap o rootE).2)

/-- the option combinations for which the implementation is exact when links are followed -/
def ExactDomF (o : Opts) : Prop := o.follow = true ∧ OrdOk o ∧ DomF o

instance (o : Opts) : Decidable (ExactDomF o) := by unfold ExactDomF; infer_instance

/-! ### small concrete snapshots used as witnesses -/

namespace C08Fw
def mkLink (path target : FsPath) : Entry :=
  { path := path, alt := some target, rel := [], dir := true, file := false, link := true,
    mode := optsMode true false true none, uid := 1000, gid := 1000, follow := false, cached := false,
    files := some [] }
/-- `/t/` with `/t/l -> /t` -/
def rootL : Entry := { mkDirEntry [['t']] none with files := some [['l']] }
def linkL : Entry := mkLink [['t'], ['l']] [['t']]
def snapL : Snap := [([['t']], rootL), ([['t'], ['l']], linkL)]
/-- `/t/` with `/t/a/` and `/t/l -> /t/a` -/
def rootS : Entry := { mkDirEntry [['t']] none with files := some [['a'], ['l']] }
def dirS : Entry := mkDirEntry [['t'], ['a']] none
def linkS : Entry := mkLink [['t'], ['l']] [['t'], ['a']]
def snapS : Snap := [([['t']], rootS), ([['t'], ['a']], dirS), ([['t'], ['l']], linkS)]
end C08Fw
open C08Fw

/-! ### a. `follow = false`: the new spec is the old one -/

theorem C08F_coincides_no_follow (snap : Snap) (o : Opts) (e : Entry)
    (hwf : SnapWf snap) (hroot : InSnap snap e) (hfol : o.follow = false) :
    entriesSpecF snap o e = (entriesSpec snap o e, none) :=
  Lemmas.WalkF.entriesSpecF_no_follow hwf hfol hroot

/-! ### b. the spec terminates by itself: its fuel is immaterial; its only errors -/

/-- any amount of fuel from `fuelF snap` = (|snap|+1)² + 1 on gives the same walk (both values of
    `follow`, every option combination): the recursion depth of the spec is bounded because a link
    is only entered when its target is not among the open directories -/
theorem C08F_spec_fuel_independent (snap : Snap) (o : Opts) (rootE : Entry) (k : Nat)
    (hwf : SnapWf snap) (hk : fuelF snap ≤ k) :
    walkF snap o k [] (present o rootE) 0 = entriesSpecF snap o rootE :=
  Lemmas.WalkF.walkF_fuel_irrel hwf o _ _ _ _ _
    (Nat.lt_of_lt_of_le (Lemmas.WalkF.mu_lt_fuelF _ _ _ _ _) hk) (Lemmas.WalkF.mu_lt_fuelF _ _ _ _ _)

/-- (restates the definition) a followed link to a directory whose target is one of the open
    directories ends the walk with `LinkLooping`, nothing is yielded for it -/
theorem C08F_loop_is_error (snap : Snap) (o : Opts) (k : Nat) (chain : List FsPath) (x : Entry) (d : Nat)
    (hfol : o.follow = true) (hl : x.link = true) (hd : x.dir = true) (hin : x.path ∈ chain) :
    walkF snap o (k + 1) chain x d = ([], some .linkLooping) :=
  Lemmas.WalkF.walkF_loop (by simp [loopsF, followed, hfol, hl, hd, hin]) k

/-- the walk ends in no other error than `LinkLooping` and `DoesNotExist` (target of a followed
    link missing from the snapshot) -/
theorem C08F_spec_errors (snap : Snap) (o : Opts) (rootE : Entry) (k : ErrKind)
    (h : (entriesSpecF snap o rootE).2 = some k) : k = .linkLooping ∨ k = .doesNotExist :=
  Lemmas.WalkF.walkF_err snap o _ _ _ _ k h

/-! ### c. the stack machine equals the recursive walk, links followed: every option combination
  with `OrdOk` and `KindOk` (`ExactDomF3`) — `contents_first` with any depth window and kind filter -/

/-- Central theorem (fuel-free form): for every well-formed snapshot — with link cycles, diamonds,
    links to ancestors, missing targets — and every option combination of `ExactDomF3` (depth
    window, kind filters, `sort_by_name` with `dirs_first`/`files_first`, `contents_first`, any
    descriptor cap), the machine run with ANY fuel from `fuelNeed` on yields exactly the entries
    of the recursive walk, in its order, and ends as the walk ends: normally, or with the walk's
    error (`LinkLooping` / `DoesNotExist`) after the entries yielded before it. -/
theorem C08F_exact3 (snap : Snap) (o : Opts) (rootE : Entry) (f : Nat)
    (hwf : SnapWf snap) (hroot : InSnap snap rootE) (hdom : ExactDomF3 o)
    (hf : fuelNeed snap o rootE ≤ f) :
    modelRun snap o rootE f = specRun snap o rootE := by
  unfold modelRun specRun
  rw [Lemmas.WalkF.runIter_exact hwf hdom.2.1 hdom.2.2 hroot f hf, List.reverse_reverse]

/-- the same for `collectEntries` (fuel `travFuel`, the yielded entries are dropped on error),
    when `travFuel` is enough (decidable) -/
theorem C08F_collectEntries3 (snap : Snap) (o : Opts) (rootE : Entry)
    (hwf : SnapWf snap) (hroot : InSnap snap rootE) (hdom : ExactDomF3 o)
    (hfuel : fuelNeed snap o rootE ≤ travFuel snap) :
    collectEntries snap o rootE =
      match entriesSpecF snap o rootE with
      | (ys, none) => .ok ys
      | (_, some k) => .err k :=
  Lemmas.WalkF.collectEntries_exactF hwf hdom.2.1 hdom.2.2 hroot hfuel

/-- the same at the level of the operation `entries(path)` of the model (`step (.entries p r)` =
    `travM`, which collects the yielded paths and the error): it returns the paths of the walk, in
    order, and the walk's error; the state is unchanged -/
theorem C08F_entries_op3 (env : Env) (p : Str) (r : TravReq) (s : State) (k : FsPath) (rootE : Entry)
    (snap : Snap) (habs : absM env p s = (.ok k, s)) (hent : entriesOf s k = .ok (rootE, snap))
    (hwf : SnapWf snap) (hroot : InSnap snap rootE) (hdom : ExactDomF3 r.opts)
    (hfuel : fuelNeed snap r.opts rootE ≤ travFuel snap) :
    step env s (.entries p r) =
      (.ok (.trav ((entriesSpecF snap r.opts rootE).1.map (·.path)) (entriesSpecF snap r.opts rootE).2), s) :=
  Lemmas.WalkF.travM_exact habs hent hwf hroot hdom.2.1 hdom.2.2 hfuel

/-- ... ends either normally or with `LinkLooping` / `DoesNotExist`, every option combination -/
theorem C08F_outcomes3 (snap : Snap) (o : Opts) (rootE : Entry) (f : Nat)
    (hwf : SnapWf snap) (hroot : InSnap snap rootE) (hdom : ExactDomF3 o)
    (hf : fuelNeed snap o rootE ≤ f) :
    (modelRun snap o rootE f).2 = .ok () ∨ (modelRun snap o rootE f).2 = .err .linkLooping ∨
      (modelRun snap o rootE f).2 = .err .doesNotExist := by
  rw [C08F_exact3 snap o rootE f hwf hroot hdom hf]
  simp only [specRun]
  cases h : (entriesSpecF snap o rootE).2 with
  | none => exact Or.inl rfl
  | some k =>
    rcases C08F_spec_errors snap o rootE k h with rfl | rfl
    · exact Or.inr (Or.inl rfl)
    · exact Or.inr (Or.inr rfl)

/-- every yielded entry is the root or a snapshot entry as presented (a link switched to its
    target), passes the kind filter, and was met at a depth inside the depth window: nothing a
    filter or the depth window rejects is yielded, every option combination -/
theorem C08F_filter_respected3 (snap : Snap) (o : Opts) (rootE : Entry) (f : Nat)
    (hwf : SnapWf snap) (hroot : InSnap snap rootE) (hdom : ExactDomF3 o)
    (hf : fuelNeed snap o rootE ≤ f) :
    ∀ y ∈ (modelRun snap o rootE f).1,
      (y = present o rootE ∨ ∃ p n raw, alLookup (p ++ [n]) snap = some raw ∧ y = present o raw) ∧
      (o.files = true → y.file = true) ∧ (o.dirs = true → y.dir = true) ∧
      ∃ dy, o.minDepth ≤ dy ∧ (dy = 0 ∨ dy ≤ o.maxDepth) := by
  rw [C08F_exact3 snap o rootE f hwf hroot hdom hf]
  intro y hy
  obtain ⟨h1, dy, _, h3, h4⟩ := Lemmas.WalkF.mem_walkF o _ _ _ _ y hy
  simp only [selected, Bool.and_eq_true, decide_eq_true_eq, Bool.or_eq_true, Bool.not_eq_true'] at h4
  refine ⟨h1, ?_, ?_, dy, h4.1.1, h3⟩
  · intro hfl; rcases h4.1.2 with h | h
    · rw [hfl] at h; cases h
    · exact h
  · intro hdl; rcases h4.2 with h | h
    · rw [hdl] at h; cases h
    · exact h

/-- the former `min_depth` finding with links followed, on a witness (`/t/`, `/t/a/`, `/t/l -> /t/a`):
    `min_depth(1).contents_first().follow(true)`; model and spec evaluated independently -/
theorem C08F_witness_contents_first_min_depth :
    ExactDomF3 { follow := true, contentsFirst := true, minDepth := 1 } ∧
    ¬ ExactDomF2 { follow := true, contentsFirst := true, minDepth := 1 } ∧
    modelRun snapS { follow := true, contentsFirst := true, minDepth := 1 } rootS 12 =
      ([dirS, linkS.doFollow true], .ok ()) ∧
    entriesSpecF snapS { follow := true, contentsFirst := true, minDepth := 1 } rootS =
      ([dirS, linkS.doFollow true], none) ∧
    fuelNeed snapS { follow := true, contentsFirst := true, minDepth := 1 } rootS ≤ 12 := by decide

/-! ### c'. no endless descent, whatever the options -/

set_option linter.unusedVariables false in
/-- EVERY option combination with `OrdOk` (both kind flags, `contents_first` with filters or
    `min_depth`, any cap — also where the output differs from the walk, C08 b.): with links followed
    the machine ends, never `.hang`, for any fuel from `fuelNeed` on (which is finite: the size of
    the walk); link cycles end in `LinkLooping`, diamonds are walked once per link and end -/
theorem C08F_terminates_all_options (snap : Snap) (o : Opts) (rootE : Entry) (f : Nat)
    (hwf : SnapWf snap) (hroot : InSnap snap rootE) (hfol : o.follow = true) (hord : OrdOk o)
    (hf : fuelNeed snap o rootE ≤ f) :
    (modelRun snap o rootE f).2 ≠ .hang :=
  Lemmas.WalkF.runIter_term hwf hord hroot f hf

set_option linter.unusedVariables false in
/-- the same for `collectEntries`, when `travFuel` covers `fuelNeed` (decidable) -/
theorem C08F_collectEntries_never_hangs (snap : Snap) (o : Opts) (rootE : Entry)
    (hwf : SnapWf snap) (hroot : InSnap snap rootE) (hfol : o.follow = true) (hord : OrdOk o)
    (hfuel : fuelNeed snap o rootE ≤ travFuel snap) :
    collectEntries snap o rootE ≠ .hang := by
  have h := Lemmas.WalkF.runIter_term hwf hord hroot (travFuel snap) hfuel
  unfold collectEntries
  have hs : (fun e (acc : List Entry) => ((.ok () : Outcome Unit), e :: acc)) = stepCons := rfl
  rw [hs]
  revert h
  generalize runIter snap o noPre rootE stepCons (travFuel snap) {} [] = R
  obtain ⟨r, acc⟩ := R
  cases r <;> simp

/-! ### c''. the narrower option domains `ExactDomF2` (`contents_first` only with `min_depth = 0`; stated
  with the side condition `FlagsOkFor`, which is not needed) and `ExactDomF` (`contents_first` only
  without kind filter and lower depth bound) -/

/-- `ExactDomF2` contains `ExactDomF` (where the side condition holds trivially) -/
theorem C08F_exactDomF_sub (snap : Snap) (o : Opts) (hdom : ExactDomF o) : ExactDomF2 o ∧ FlagsOkFor snap o := by
  refine ⟨⟨hdom.1, hdom.2.1, Lemmas.WalkCF.DomF.to2 hdom.2.2⟩, ?_⟩
  intro hcf hf
  rcases hdom.2.2 with h | h
  · rw [h.1] at hcf; cases hcf
  · rw [h.2.2.1] at hf; cases hf

theorem C08F_exactDomF2_sub (o : Opts) (hdom : ExactDomF2 o) : ExactDomF3 o := Lemmas.WalkCF.ExactDomF2.to3 hdom

theorem C08F_exact2_partial (snap : Snap) (o : Opts) (rootE : Entry) (f : Nat)
    (hwf : SnapWf snap) (hroot : InSnap snap rootE) (hdom : ExactDomF2 o) (hx : FlagsOkFor snap o)
    (hf : fuelNeed snap o rootE ≤ f) :
    modelRun snap o rootE f = specRun snap o rootE :=
  C08F_exact3 snap o rootE f hwf hroot (C08F_exactDomF2_sub o hdom) hf

theorem C08F_collectEntries2_partial (snap : Snap) (o : Opts) (rootE : Entry)
    (hwf : SnapWf snap) (hroot : InSnap snap rootE) (hdom : ExactDomF2 o) (hx : FlagsOkFor snap o)
    (hfuel : fuelNeed snap o rootE ≤ travFuel snap) :
    collectEntries snap o rootE =
      match entriesSpecF snap o rootE with
      | (ys, none) => .ok ys
      | (_, some k) => .err k :=
  C08F_collectEntries3 snap o rootE hwf hroot (C08F_exactDomF2_sub o hdom) hfuel

theorem C08F_entries_op2_partial (env : Env) (p : Str) (r : TravReq) (s : State) (k : FsPath) (rootE : Entry)
    (snap : Snap) (habs : absM env p s = (.ok k, s)) (hent : entriesOf s k = .ok (rootE, snap))
    (hwf : SnapWf snap) (hroot : InSnap snap rootE) (hdom : ExactDomF2 r.opts) (hx : FlagsOkFor snap r.opts)
    (hfuel : fuelNeed snap r.opts rootE ≤ travFuel snap) :
    step env s (.entries p r) =
      (.ok (.trav ((entriesSpecF snap r.opts rootE).1.map (·.path)) (entriesSpecF snap r.opts rootE).2), s) :=
  C08F_entries_op3 env p r s k rootE snap habs hent hwf hroot (C08F_exactDomF2_sub r.opts hdom) hfuel

theorem C08F_filter_respected2 (snap : Snap) (o : Opts) (rootE : Entry) (f : Nat)
    (hwf : SnapWf snap) (hroot : InSnap snap rootE) (hdom : ExactDomF2 o) (hx : FlagsOkFor snap o)
    (hf : fuelNeed snap o rootE ≤ f) :
    ∀ y ∈ (modelRun snap o rootE f).1,
      (y = present o rootE ∨ ∃ p n raw, alLookup (p ++ [n]) snap = some raw ∧ y = present o raw) ∧
      (o.files = true → y.file = true) ∧ (o.dirs = true → y.dir = true) ∧
      ∃ dy, o.minDepth ≤ dy ∧ (dy = 0 ∨ dy ≤ o.maxDepth) :=
  C08F_filter_respected3 snap o rootE f hwf hroot (C08F_exactDomF2_sub o hdom) hf

/-- the part of `ExactDomF2` outside `ExactDomF` on a witness (`/t/`, `/t/a/`, `/t/l -> /t/a`):
    `dirs().contents_first().follow(true)` yields the directories after their contents, the link
    presented as its target; `files()` instead yields nothing (no directory slips through);
    model and spec evaluated independently -/
theorem C08F_witness_contents_first_filter :
    ExactDomF2 { follow := true, contentsFirst := true, dirs := true } ∧
    ¬ ExactDomF { follow := true, contentsFirst := true, dirs := true } ∧
    FlagsExcl snapS ∧
    modelRun snapS { follow := true, contentsFirst := true, dirs := true } rootS 12 =
      ([dirS, linkS.doFollow true, rootS], .ok ()) ∧
    entriesSpecF snapS { follow := true, contentsFirst := true, dirs := true } rootS =
      ([dirS, linkS.doFollow true, rootS], none) ∧
    modelRun snapS { follow := true, contentsFirst := true, files := true } rootS 12 = ([], .ok ()) ∧
    entriesSpecF snapS { follow := true, contentsFirst := true, files := true } rootS = ([], none) ∧
    fuelNeed snapS { follow := true, contentsFirst := true, dirs := true } rootS ≤ 12 := by decide

theorem C08F_exact_partial (snap : Snap) (o : Opts) (rootE : Entry) (f : Nat)
    (hwf : SnapWf snap) (hroot : InSnap snap rootE) (hdom : ExactDomF o)
    (hf : fuelNeed snap o rootE ≤ f) :
    modelRun snap o rootE f = specRun snap o rootE :=
  C08F_exact3 snap o rootE f hwf hroot (C08F_exactDomF2_sub o (C08F_exactDomF_sub snap o hdom).1) hf

theorem C08F_collectEntries_partial (snap : Snap) (o : Opts) (rootE : Entry)
    (hwf : SnapWf snap) (hroot : InSnap snap rootE) (hdom : ExactDomF o)
    (hfuel : fuelNeed snap o rootE ≤ travFuel snap) :
    collectEntries snap o rootE =
      match entriesSpecF snap o rootE with
      | (ys, none) => .ok ys
      | (_, some k) => .err k :=
  C08F_collectEntries3 snap o rootE hwf hroot (C08F_exactDomF2_sub o (C08F_exactDomF_sub snap o hdom).1) hfuel

theorem C08F_entries_op_partial (env : Env) (p : Str) (r : TravReq) (s : State) (k : FsPath) (rootE : Entry)
    (snap : Snap) (habs : absM env p s = (.ok k, s)) (hent : entriesOf s k = .ok (rootE, snap))
    (hwf : SnapWf snap) (hroot : InSnap snap rootE) (hdom : ExactDomF r.opts)
    (hfuel : fuelNeed snap r.opts rootE ≤ travFuel snap) :
    step env s (.entries p r) =
      (.ok (.trav ((entriesSpecF snap r.opts rootE).1.map (·.path)) (entriesSpecF snap r.opts rootE).2), s) :=
  C08F_entries_op3 env p r s k rootE snap habs hent hwf hroot
    (C08F_exactDomF2_sub r.opts (C08F_exactDomF_sub snap r.opts hdom).1) hfuel

theorem C08F_never_hangs (snap : Snap) (o : Opts) (rootE : Entry) (f : Nat)
    (hwf : SnapWf snap) (hroot : InSnap snap rootE) (hdom : ExactDomF o)
    (hf : fuelNeed snap o rootE ≤ f) :
    (modelRun snap o rootE f).2 ≠ .hang :=
  C08F_terminates_all_options snap o rootE f hwf hroot hdom.1 hdom.2.1 hf

theorem C08F_outcomes (snap : Snap) (o : Opts) (rootE : Entry) (f : Nat)
    (hwf : SnapWf snap) (hroot : InSnap snap rootE) (hdom : ExactDomF o)
    (hf : fuelNeed snap o rootE ≤ f) :
    (modelRun snap o rootE f).2 = .ok () ∨ (modelRun snap o rootE f).2 = .err .linkLooping ∨
      (modelRun snap o rootE f).2 = .err .doesNotExist :=
  C08F_outcomes3 snap o rootE f hwf hroot (C08F_exactDomF2_sub o (C08F_exactDomF_sub snap o hdom).1) hf

/-- the result does not depend on the descriptor cap nor (beyond `fuelNeed`) on the fuel -/
theorem C08F_fuel_irrelevant (snap : Snap) (o : Opts) (rootE : Entry) (f f' : Nat)
    (hwf : SnapWf snap) (hroot : InSnap snap rootE) (hdom : ExactDomF o)
    (hf : fuelNeed snap o rootE ≤ f) (hf' : fuelNeed snap o rootE ≤ f') :
    modelRun snap o rootE f = modelRun snap o rootE f' := by
  rw [C08F_exact_partial snap o rootE f hwf hroot hdom hf, C08F_exact_partial snap o rootE f' hwf hroot hdom hf']

theorem C08F_filter_respected (snap : Snap) (o : Opts) (rootE : Entry) (f : Nat)
    (hwf : SnapWf snap) (hroot : InSnap snap rootE) (hdom : ExactDomF o)
    (hf : fuelNeed snap o rootE ≤ f) :
    ∀ y ∈ (modelRun snap o rootE f).1,
      (y = present o rootE ∨ ∃ p n raw, alLookup (p ++ [n]) snap = some raw ∧ y = present o raw) ∧
      (o.files = true → y.file = true) ∧ (o.dirs = true → y.dir = true) ∧
      ∃ dy, o.minDepth ≤ dy ∧ (dy = 0 ∨ dy ≤ o.maxDepth) :=
  C08F_filter_respected3 snap o rootE f hwf hroot (C08F_exactDomF2_sub o (C08F_exactDomF_sub snap o hdom).1) hf

/-- non-vacuity: the hypotheses hold of concrete snapshots with a link loop / a link to a sibling;
    both option domains are inhabited -/
example : SnapWf snapL ∧ InSnap snapL rootL ∧ SnapWf snapS ∧ InSnap snapS rootS ∧
    ExactDomF { follow := true, sorted := true, dirsFirst := true, files := true, minDepth := 1, maxDepth := 3, maxDesc := 0 } ∧
    ExactDomF { follow := true, sorted := true, contentsFirst := true, maxDepth := 2 } := by decide

/-! ### d. concrete witnesses -/

/-- a link to a sibling directory: the link is presented as its target, and the target's contents
    (none here) are walked once more; no error -/
theorem C08F_witness_sibling :
    entriesSpecF snapS { follow := true } rootS =
      ([rootS, dirS, linkS.doFollow true], none) := by decide

/-- a link to the directory being walked: `LinkLooping`, after the root has been yielded -/
theorem C08F_witness_loop :
    entriesSpecF snapL { follow := true } rootL = ([rootL], some .linkLooping) := by decide

/-- observation (spec mirrors the code here): the loop check does not look at the depth limit —
    with `max_depth(1)` the link at depth 1 would not be entered, so there is no descent to
    prevent, yet the traversal ends with `LinkLooping` instead of yielding the link -/
theorem C08F_observation_loop_at_max_depth :
    entriesSpecF snapL { follow := true, maxDepth := 1 } rootL = ([rootL], some .linkLooping) := by
  decide

/-- the model on the same witnesses (direct evaluation, independent of c.): the loop is reported
    after the root was yielded; the sibling link is presented as its target; and `travFuel`
    covers `fuelNeed` there (non-vacuity of the fuel hypotheses) -/
theorem C08F_witness_model :
    modelRun snapL { follow := true } rootL 8 = ([rootL], .err .linkLooping) ∧
    modelRun snapS { follow := true } rootS 12 = ([rootS, dirS, linkS.doFollow true], .ok ()) ∧
    collectEntries snapL { follow := true } rootL = .err .linkLooping ∧
    fuelNeed snapL { follow := true } rootL ≤ 8 ∧ fuelNeed snapS { follow := true } rootS ≤ 12 ∧
    fuelNeed snapL { follow := true } rootL ≤ travFuel snapL := by decide

/-
  -- OPEN (not proved) / observed by evaluation only:
  -- * `C08F_collectEntries_full` (no fuel hypothesis): FALSE for the model — `travFuel` is
  --   quadratic in the snapshot, the walk can be exponential: diamond chain
  --   /top/d0 .. /top/d16, d_i = { m -> d_{i+1}, n -> d_{i+1} }, d_16 = { x } (50 entries),
  --   walked from /top/d0 with { follow, sorted }: the spec yields 196607 entries without error,
  --   `collectEntries` (travFuel = 173056) returns `.hang`; for 15 levels (98303 entries) both
  --   agree. Checked by `#eval` (Rivia/Spec/WalkFollowTest.lean, `diaChain`), too large for `decide`.
  --   The real iterator has no fuel: it terminates after 2^k steps (resource blow-up, not a hang).
  -- * a closed-form decidable condition on the snapshot implying `fuelNeed ≤ travFuel`
  --   (e.g. a bound on the number of directory links): not proved; `fuelNeed` itself is computable.
  -- * outside `ExactDomF3` (no builder call sequence produces either): with both kind flags at once
  --   the machine yields the walk of `files()` alone, grouping flags without `sort_by_name` it
  --   ignores (`Lemmas.WalkF.runIter_walkF`: the walk of `Lemmas.Walk.eff o`), so it terminates
  --   (`C08F_terminates_all_options` uses `OrdOk` to compare `fuelNeed` of the given options with
  --   that of the effective ones).
  -- * the consumers with a `pre_op` (`chmodM`): not covered (`noPre`); a consumer `step` that may
  --   fail (`copyM`) is (`Lemmas.WalkF.runIter_walkF_any`).
-/

end Rivia.Props
