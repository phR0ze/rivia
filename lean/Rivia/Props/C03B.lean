/-
  C03 (group B): `remove`, `removeAll`, `symlink`, `moveP` and the tree invariant.
  Property theorems only; the proofs are in Rivia/Lemmas/InvB*.lean.
-/
import Rivia.Lemmas.InvB

namespace Rivia.Props
open Rivia Rivia.Memfs Rivia.File Rivia.Spec Rivia.Lemmas.InvB

/-- FULL (remove, removeAll, symlink): the invariant is preserved for every environment, state,
    argument and outcome (error exits and `hang` included); no extra hypothesis. -/
theorem C03_inv_step_groupB3 (env : Env) (s : State) (op : Op) (hc : CoveredB3 op) (h : Inv s) :
    Inv (step env s op).2 :=
  inv_step_B3 env s op hc h

/-- the full-strength statement for the whole group (false because of `moveP`) -/
def C03_inv_step_groupB_full : Prop :=
  ∀ (env : Env) (s : State) (op : Op), CoveredB op → Inv s → (step env s op).1 ≠ .hang → Inv (step env s op).2

/-! ### witnesses: `Inv` alone is not inductive for `moveP` (all three start states are unreachable) -/

def envNone : Env := fun _ => none

/-- (1) an unsorted child list: `/` lists `b, a, c`; `moveP "/c" "/a"` duplicates the name `a` -/
def wUnsorted : State :=
  { entries := [([], { mkDirEntry [] none with files := some [['b'], ['a'], ['c']] }),
                ([['a']], mkFileEntry [['a']]), ([['b']], mkFileEntry [['b']]), ([['c']], mkFileEntry [['c']])]
    files := [([['a']], []), ([['b']], []), ([['c']], [])]
    cwd := [], root := [], handles := [] }

/-- (2) cwd `["."]` (`Inv` does not constrain cwd): `moveP "a" "."` re-keys the file onto the root key -/
def wDotCwd : State :=
  { entries := [([], { mkDirEntry [] none with files := some [['a']] }), ([['a']], mkFileEntry [['a']])]
    files := [([['a']], [])]
    cwd := [['.']], root := [], handles := [] }

/-- (3) `/a/c` flagged file ∧ dir with a child: `moveP "/c" "/a"` overwrites it and orphans `/a/c/x` -/
def wFileDir : State :=
  { entries := [([], { mkDirEntry [] none with files := some [['a'], ['c']] }),
                ([['a']], { mkDirEntry [['a']] none with files := some [['c']] }),
                ([['a'], ['c']], { mkFileEntry [['a'], ['c']] with dir := true, files := some [['x']] }),
                ([['a'], ['c'], ['x']], mkFileEntry [['a'], ['c'], ['x']]),
                ([['c']], mkFileEntry [['c']])]
    files := [([['a'], ['c']], []), ([['a'], ['c'], ['x']], []), ([['c']], [])]
    cwd := [], root := [], handles := [] }

/-- `SortedKids` is necessary: everything else holds, the call returns `ok`, the result violates `Inv` -/
theorem C03_moveP_needs_sortedKids :
    Inv wUnsorted ∧ KeysWf wUnsorted ∧ FlagsOk wUnsorted ∧ ¬ SortedKids wUnsorted ∧
    (step envNone wUnsorted (.moveP ['/', 'c'] ['/', 'a'])).1 = .ok .unit ∧
    invViolation (step envNone wUnsorted (.moveP ['/', 'c'] ['/', 'a'])).2 = some "duplicate-child-name:/" := by
  decide +kernel

/-- `KeysWf` is necessary (here: its cwd part) -/
theorem C03_moveP_needs_keysWf :
    Inv wDotCwd ∧ SortedKids wDotCwd ∧ FlagsOk wDotCwd ∧ ¬ KeysWf wDotCwd ∧
    (step envNone wDotCwd (.moveP ['a'] ['.'])).1 ≠ .hang ∧
    invViolation (step envNone wDotCwd (.moveP ['a'] ['.'])).2 = some "root-missing-or-not-dir" := by
  decide +kernel

/-- `FlagsOk` is necessary -/
theorem C03_moveP_needs_flagsOk :
    Inv wFileDir ∧ KeysWf wFileDir ∧ SortedKids wFileDir ∧ ¬ FlagsOk wFileDir ∧
    (step envNone wFileDir (.moveP ['/', 'c'] ['/', 'a'])).1 = .ok .unit ∧
    invViolation (step envNone wFileDir (.moveP ['/', 'c'] ['/', 'a'])).2 = some "orphan-or-unlisted:/a/c/x" := by
  decide +kernel

theorem C03_inv_step_groupB_full_false : ¬ C03_inv_step_groupB_full := by
  intro h
  have w := C03_moveP_needs_sortedKids
  have := h envNone wUnsorted (.moveP ['/', 'c'] ['/', 'a']) trivial w.1 (by rw [w.2.2.2.2.1]; intro h0; cases h0)
  unfold Spec.Inv at this
  rw [w.2.2.2.2.2] at this
  cases this

/-- PARTIAL (domain: the decidable `KeysWf s ∧ SortedKids s ∧ FlagsOk s`): every operation of group B
    preserves `Inv`; the three extras are needed for `moveP` only and each of them is necessary. -/
theorem C03_inv_step_groupB (env : Env) (s : State) (op : Op) (hc : CoveredB op)
    (h : Inv s) (hk : KeysWf s) (hs : SortedKids s) (hf : FlagsOk s)
    (hh : (step env s op).1 ≠ .hang) : Inv (step env s op).2 :=
  inv_step_B env s op hc h hk hs hf hh

/-- the domain hypotheses are themselves preserved by group B … -/
theorem C03_extras_step_groupB (env : Env) (s : State) (op : Op) (hc : CoveredB op)
    (h : Inv s) (hk : KeysWf s) (hs : SortedKids s) (hf : FlagsOk s)
    (hh : (step env s op).1 ≠ .hang) :
    KeysWf (step env s op).2 ∧ SortedKids (step env s op).2 ∧ FlagsOk (step env s op).2 :=
  extras_step_B env s op hc h hk hs hf hh

/-- … so the strengthened invariant is inductive for group B -/
theorem C03_strong_step_groupB (env : Env) (s : State) (op : Op) (hc : CoveredB op) (h : Strong s)
    (hh : (step env s op).1 ≠ .hang) : Strong (step env s op).2 :=
  strong_step_B env s op hc h hh

/-- and it holds initially -/
theorem C03_strong_init_groupB : Strong Memfs.init := by decide

/-- non-vacuity: a non-trivial state in the domain on which `moveP` (directory into directory) succeeds -/
def wGood : State :=
  { entries := [([], { mkDirEntry [] none with files := some [['a'], ['b']] }),
                ([['a']], { mkDirEntry [['a']] none with files := some [['f']] }),
                ([['a'], ['f']], mkFileEntry [['a'], ['f']]),
                ([['b']], mkDirEntry [['b']] none)]
    files := [([['a'], ['f']], [1, 2, 3])]
    cwd := [], root := [], handles := [] }

set_option maxRecDepth 100000 in
example : Strong wGood ∧ CoveredB (.moveP ['/', 'a'] ['/', 'b']) ∧
    (step envNone wGood (.moveP ['/', 'a'] ['/', 'b'])).1 = .ok .unit ∧
    alLookup [['b'], ['a'], ['f']] (step envNone wGood (.moveP ['/', 'a'] ['/', 'b'])).2.files = some [1, 2, 3] ∧
    Strong (step envNone wGood (.moveP ['/', 'a'] ['/', 'b'])).2 := by
  decide +kernel

end Rivia.Props
