/-
  C10 — symlinks record their target faithfully and are never mistaken for the target.
  Property theorems ONLY (helper lemmas live in Rivia/Lemmas/Symlink.lean).

  Conventions: a user path `p` is related to the key it denotes by `absM env p s = (.ok k, s)`
  (`Memfs::_abs`; it reads only `s.cwd` and never changes the state).  `tstr` is the string the
  code resolves for the target: the target itself when absolute, else `dir(link).mash(target)`.
-/
import Rivia.Model.MemfsOps
import Rivia.Spec.MemfsJudge
import Rivia.Lemmas.Symlink
import Rivia.Lemmas.MoveLinkRel
import Rivia.Props.C16

namespace Rivia.Props
open Rivia Rivia.Memfs Rivia.Spec Rivia.Lemmas
open Rivia.Lemmas.MoveLinkRel (LinkRelAt LinkRelOk)

/-- every name in every key and in `s.cwd` is non-empty, has no `/`, is not `.` or `..`
    (`Lemmas.Wf` is the lemma-level copy of `WfName`) -/
def KeysWf (s : State) : Prop :=
  (∀ kv ∈ s.entries, ∀ n ∈ kv.1, WfName n) ∧ (∀ n ∈ s.cwd, WfName n)

/-- the string `_symlink` resolves for the target -/
def targetStr (lk : FsPath) (t : Str) : Str :=
  if isAbsolute t then t else mash (renderP lk.dropLast) t

/-! ### 7. `Entry::follow` -/

/-- `follow(true)` swaps path and alt exactly once: a second call is a no-op; `follow(false)` and
    `follow` on a non-link do nothing; on a not-yet-followed link path and alt are exchanged -/
theorem C10_follow_swaps_once (e : Entry) :
    (e.doFollow true).doFollow true = e.doFollow true ∧
    e.doFollow false = e ∧
    (e.link = true → e.follow = false →
      (e.doFollow true).path = e.alt.getD [] ∧ (e.doFollow true).alt = some e.path ∧
      (e.doFollow true).follow = true) ∧
    (e.link = false → ∀ b, e.doFollow b = e) := by
  refine ⟨?_, doFollow_false e, ?_, ?_⟩
  · unfold Entry.doFollow
    by_cases h : e.link = true ∧ (!e.follow) = true
    · simp [h]
    · simp only [true_and, if_neg h]
  · intro hl hf; simp [Entry.doFollow, hl, hf]
  · intro hl b; simp [Entry.doFollow, hl]

/-! ### 6. readlink on something that is not a link -/

theorem C10_non_link_errors (env : Env) (s : State) (p : Str) (k : FsPath)
    (ha : absM env p s = (.ok k, s)) :
    (∀ e, alLookup k s.entries = some e → e.link = false →
      step env s (.readlink p) = (.err .isNotSymlink, s) ∧
      step env s (.readlinkAbs p) = (.err .isNotSymlink, s)) ∧
    (alLookup k s.entries = none →
      step env s (.readlink p) = (.err .doesNotExist, s) ∧
      step env s (.readlinkAbs p) = (.err .doesNotExist, s)) := by
  rw [step_readlink_eq ha, step_readlinkAbs_eq ha]
  constructor
  · intro e he hl; simp [he, hl]
  · intro he; simp [he]

/-! ### 3. link exclusion -/

/-- whatever the state: a key holding a link entry answers `is_symlink = true`,
    `is_file = is_dir = false`, and `is_symlink_dir` / `is_symlink_file` report the stored kind -/
theorem C10_link_exclusion (env : Env) (s : State) (p : Str) (k : FsPath) (e : Entry)
    (ha : absM env p s = (.ok k, s)) (he : alLookup k s.entries = some e) (hl : e.link = true) :
    step env s (.isSymlink p) = (.ok (.bool true), s) ∧
    step env s (.isFile p) = (.ok (.bool false), s) ∧
    step env s (.isDir p) = (.ok (.bool false), s) ∧
    step env s (.isSymlinkDir p) = (.ok (.bool e.dir), s) ∧
    step env s (.isSymlinkFile p) = (.ok (.bool e.file), s) := by
  simp [step, boolQuery, ha, he, hl]

/-! ### 8. symlink over an existing path -/

/-- (behaviour after the fix) the link location must be free: otherwise `ExistsAlready` and
    nothing changes — whatever is there (file, directory or link) is not replaced -/
theorem C10_symlink_over_existing_fails (env : Env) (s : State) (l t : Str) (lk : FsPath) (x : Entry)
    (ha : absM env l s = (.ok lk, s)) (he : alLookup lk s.entries = some x) :
    step env s (.symlink l t) = (.err .existsAlready, s) := by
  show mapVal _ (symlinkM env l t) s = _
  rw [mapVal_apply, symlinkM_exists t ha he]

/-! ### 1. the target is recorded -/

/-- what a successful `symlink` does to the state (exact): the parent directory `d` of the link
    gains the name, and the entry `linkEntry s lk tk` is stored under the link key -/
theorem C10_symlink_post_state (env : Env) (s s' : State) (l t : Str) (lk tk r : FsPath)
    (ha : absM env l s = (.ok lk, s)) (ht : absM env (targetStr lk t) s = (.ok tk, s))
    (h : step env s (.symlink l t) = (.ok (.path r), s')) :
    r = lk ∧ lk ≠ [] ∧ alLookup lk s.entries = none ∧
    ∃ d d', alLookup lk.dropLast s.entries = some d ∧ d.dir = true ∧ d.link = false ∧
      d.addChild (baseName lk) = .ok (true, d') ∧
      s' = { s with entries := alInsert lk.dropLast d' (alInsert lk (linkEntry s lk tk) s.entries) } := by
  obtain ⟨r', h', hr⟩ := mapVal_eq_ok (m := symlinkM env l t) h
  cases hr
  rw [symlinkM_eq_symlinkAbs env s l t lk tk ha ht] at h'
  exact symlinkAbs_ok s s' lk tk r h'

/-- when it succeeds (state satisfying the invariant): exactly when the link location is free and
    its parent is a real directory — for EVERY target spelling that resolves, existing or not -/
theorem C10_symlink_succeeds (env : Env) (s : State) (l t : Str) (lk tk : FsPath) (d : Entry)
    (hinv : Spec.Inv s)
    (ha : absM env l s = (.ok lk, s)) (ht : absM env (targetStr lk t) s = (.ok tk, s))
    (hfree : alLookup lk s.entries = none) (hd : alLookup lk.dropLast s.entries = some d)
    (hdd : d.dir = true) (hdl : d.link = false) :
    ∃ s', step env s (.symlink l t) = (.ok (.path lk), s') := by
  obtain ⟨s', hs'⟩ := symlinkAbs_succeeds hinv tk hfree hd hdd hdl
  refine ⟨s', ?_⟩
  simp only [step, mapVal_apply, symlinkM_eq_symlinkAbs env s l t lk tk ha ht, hs']

/-- after `symlink(link, target)` succeeded, the entry at the link key is a link whose `alt` is
    the key the target resolves to, `readlink_abs(link)` returns exactly that key and `readlink`
    the stored relative string; the target need not exist -/
theorem C10_symlink_records_target (env : Env) (s s' : State) (l t : Str) (lk tk r : FsPath)
    (ha : absM env l s = (.ok lk, s)) (ht : absM env (targetStr lk t) s = (.ok tk, s))
    (h : step env s (.symlink l t) = (.ok (.path r), s')) :
    r = lk ∧
    ∃ e, alLookup lk s'.entries = some e ∧ e = linkEntry s lk tk ∧
      e.link = true ∧ e.alt = some tk ∧ e.path = lk ∧ e.follow = false ∧
      e.rel = relative (renderP tk) (renderP lk.dropLast) ∧
      step env s' (.readlinkAbs l) = (.ok (.path tk), s') ∧
      step env s' (.readlink l) = (.ok (.str e.rel), s') := by
  obtain ⟨hr, hnil, _, d, d', _, _, _, _, hs'⟩ := C10_symlink_post_state env s s' l t lk tk r ha ht h
  have hlook : alLookup lk s'.entries = some (linkEntry s lk tk) := by
    rw [hs']
    simp only
    rw [alLookup_alInsert_ne (dropLast_ne_self hnil), alLookup_alInsert_self]
  have ha' : absM env l s' = (.ok lk, s') := absM_congr (by rw [hs']) ha
  refine ⟨hr, linkEntry s lk tk, hlook, rfl, rfl, rfl, rfl, rfl, rfl, ?_, ?_⟩
  · rw [step_readlinkAbs_eq ha', hlook]; rfl
  · rw [step_readlink_eq ha', hlook]; rfl

/-! ### 3 (second half). the kind recorded at creation -/

/-- the new link is a "link to a directory" iff the resolved target key held an entry with
    `dir = true` when the link was made — a target that is itself a link-to-dir counts as a
    directory, a dangling target counts as a file; `file` is the negation. The flags are stored in
    the link entry, so they keep reporting the kind at creation (see `C10_link_exclusion`). -/
theorem C10_link_kind_at_creation (env : Env) (s s' : State) (l t : Str) (lk tk r : FsPath)
    (ha : absM env l s = (.ok lk, s)) (ht : absM env (targetStr lk t) s = (.ok tk, s))
    (h : step env s (.symlink l t) = (.ok (.path r), s')) :
    ∃ e, alLookup lk s'.entries = some e ∧
      (e.dir = true ↔ ∃ x, alLookup tk s.entries = some x ∧ x.dir = true) ∧
      e.file = !e.dir ∧
      step env s' (.isSymlinkDir l) = (.ok (.bool e.dir), s') ∧
      step env s' (.isSymlinkFile l) = (.ok (.bool (!e.dir)), s') := by
  obtain ⟨_, e, hlook, he, hl, _, _, _, _, _, _⟩ := C10_symlink_records_target env s s' l t lk tk r ha ht h
  obtain ⟨_, _, _, d, d', _, _, _, _, hs'⟩ := C10_symlink_post_state env s s' l t lk tk r ha ht h
  have ha' : absM env l s' = (.ok lk, s') := absM_congr (by rw [hs']) ha
  have hfile : e.file = !e.dir := by rw [he]; rfl
  refine ⟨e, hlook, ?_, hfile, ?_, ?_⟩
  · rw [he]
    cases hx : alLookup tk s.entries with
    | none => simp [linkEntry, hx]
    | some x => simp [linkEntry, hx]
  · exact (C10_link_exclusion env s' l lk e ha' hlook hl).2.2.2.1
  · rw [← hfile]; exact (C10_link_exclusion env s' l lk e ha' hlook hl).2.2.2.2

/-! ### 2. readlink is the navigation from the link's directory to the target -/

/-- pure core: for well-formed keys the stored string `relative(target, dir(link))`, joined onto
    the link's directory and cleaned, is the target; it is a relative path unless the target IS
    the link's directory, in which case it is the absolute path of that directory -/
theorem C10_rel_navigates (lk tk : FsPath) (hl : ∀ n ∈ lk, WfName n) (ht : ∀ n ∈ tk, WfName n) :
    goClean (push (renderP lk.dropLast) (relative (renderP tk) (renderP lk.dropLast))) = renderP tk ∧
    (isRooted (relative (renderP tk) (renderP lk.dropLast)) = false ↔ tk ≠ lk.dropLast) ∧
    (tk = lk.dropLast → relative (renderP tk) (renderP lk.dropLast) = renderP tk) := by
  have hd : ∀ n ∈ lk.dropLast, Wf n := wf_dropLast hl
  refine ⟨relative_renderP_navigates ht hd, ?_, ?_⟩
  · rw [relative_renderP_isRooted ht hd]; simp
  · intro h; rw [h]; exact relative_renderP_self _

/-- keys produced by `_abs` consist of well-formed names as soon as the working directory does
    (so `KeysWf` is all that item 2 needs), and rendering the key gives back the string `abs`
    computed -/
theorem C10_resolved_keys_wf (env : Env) (s s' : State) (p : Str) (k : FsPath) (hk : KeysWf s)
    (h : absM env p s = (.ok k, s')) :
    (∀ n ∈ k, WfName n) ∧ absWith env (renderP s.cwd) p = .ok (renderP k) :=
  absM_wf hk.2 h

/-- `readlink(link)` after `symlink(link, target)`: the returned string `e.rel` is
    `relative(readlink_abs, dir(link))`; cleaning `dir(link)/readlink(link)` gives
    `readlink_abs(link)`; and it is relative iff the target is not the link's own directory -/
theorem C10_readlink_navigates (env : Env) (s s' : State) (l t : Str) (lk tk r : FsPath)
    (hk : KeysWf s)
    (ha : absM env l s = (.ok lk, s)) (ht : absM env (targetStr lk t) s = (.ok tk, s))
    (h : step env s (.symlink l t) = (.ok (.path r), s')) :
    ∃ e, alLookup lk s'.entries = some e ∧
      step env s' (.readlink l) = (.ok (.str e.rel), s') ∧
      step env s' (.readlinkAbs l) = (.ok (.path tk), s') ∧
      e.rel = relative (renderP tk) (renderP lk.dropLast) ∧
      goClean (push (renderP lk.dropLast) e.rel) = renderP tk ∧
      (isRooted e.rel = false ↔ tk ≠ lk.dropLast) := by
  obtain ⟨_, e, hlook, _, _, _, _, _, hrel, hra, hrl⟩ :=
    C10_symlink_records_target env s s' l t lk tk r ha ht h
  obtain ⟨h1, h2, _⟩ := C10_rel_navigates lk tk (absM_wf hk.2 ha).1 (absM_wf hk.2 ht).1
  exact ⟨e, hlook, hrl, hra, hrel, by rw [hrel]; exact h1, by rw [hrel]; exact h2⟩

/-- Full statement "readlink always returns a relative path" — false, see the witness -/
def C10_readlink_is_relative_full : Prop :=
  ∀ (lk tk : FsPath), (∀ n ∈ lk, WfName n) → (∀ n ∈ tk, WfName n) → lk ≠ [] →
    isRooted (relative (renderP tk) (renderP lk.dropLast)) = false

/-- finding: a link whose target is its own directory has an ABSOLUTE readlink
    (link `/a/l` → `/a` stores rel `"/a"`); pure piece and the whole model on the smallest state -/
theorem C10_finding_link_to_own_dir :
    relative (renderP ["a".toList]) (renderP (["a".toList, "l".toList] : FsPath).dropLast) = "/a".toList ∧
    (let env : Env := fun _ => none
     let s1 := (step env Memfs.init (.mkdirP "/a".toList)).2
     let s2 := (step env s1 (.symlink "/a/l".toList "/a".toList)).2
     (step env s2 (.readlink "/a/l".toList)).1 = .ok (.str "/a".toList) ∧
     (step env s2 (.readlinkAbs "/a/l".toList)).1 = .ok (.path ["a".toList])) := by
  decide +kernel

theorem C10_readlink_is_relative_full_is_false : ¬ C10_readlink_is_relative_full := by
  intro h
  have := h ["a".toList, "l".toList] ["a".toList] (by unfold WfName; decide) (by unfold WfName; decide)
    (by decide)
  revert this
  decide

/-! ### 4. remove acts on the link -/

/-- removing a link (state satisfying the invariant) succeeds, deletes the entry at the link key,
    filters the name out of the parent's child list and changes nothing else: every other entry
    — in particular the target's — and the whole data map are untouched -/
theorem C10_remove_acts_on_link (env : Env) (s : State) (l : Str) (lk : FsPath) (e : Entry)
    (hinv : Spec.Inv s) (ha : absM env l s = (.ok lk, s)) (he : alLookup lk s.entries = some e)
    (hl : e.link = true) :
    ∃ s' pe fs, step env s (.remove l) = (.ok .unit, s') ∧
      alLookup lk s'.entries = none ∧
      alLookup lk.dropLast s.entries = some pe ∧ pe.files = some fs ∧
      alLookup lk.dropLast s'.entries = some { pe with files := some (fs.filter (· ≠ baseName lk)) } ∧
      (∀ k, k ≠ lk → k ≠ lk.dropLast → alLookup k s'.entries = alLookup k s.entries) ∧
      s'.files = s.files ∧ s'.cwd = s.cwd ∧ s'.root = s.root ∧ s'.handles = s.handles := by
  obtain ⟨pe, fs, hnil, hp, hpf, hrm⟩ := removeM_link env s l lk e hinv ha he hl
  have hne := dropLast_ne_self hnil
  refine ⟨{ s with entries := (alErase lk
      (alInsert lk.dropLast { pe with files := some (fs.filter (· ≠ baseName lk)) } s.entries)) },
    pe, fs, by simp only [step, mapVal_apply, hrm], ?_, hp, hpf, ?_, ?_, rfl, rfl, rfl, rfl⟩
  · exact alLookup_alErase_self (nodup_alInsert (inv_facts hinv).nodup)
  · simp only
    rw [alLookup_alErase_ne hne.symm, alLookup_alInsert_self]
  · intro k h1 h2
    simp only
    rw [alLookup_alErase_ne h1.symm, alLookup_alInsert_ne h2.symm]

/-- corollary: the target of the removed link (any other key than the link itself and the link's
    parent directory, whose child list shrinks) keeps its entry and its bytes -/
theorem C10_remove_keeps_target (env : Env) (s : State) (l : Str) (lk tk : FsPath) (e : Entry)
    (hinv : Spec.Inv s) (ha : absM env l s = (.ok lk, s)) (he : alLookup lk s.entries = some e)
    (hl : e.link = true) (_halt : e.alt = some tk) (hne : tk ≠ lk.dropLast) (hself : tk ≠ lk) :
    alLookup tk (step env s (.remove l)).2.entries = alLookup tk s.entries ∧
    alLookup tk (step env s (.remove l)).2.files = alLookup tk s.files := by
  obtain ⟨s', pe, fs, hs, _, _, _, _, hoth, hfiles, _⟩ := C10_remove_acts_on_link env s l lk e hinv ha he hl
  rw [hs]
  exact ⟨hoth tk hself hne, by rw [hfiles]⟩

/-! ### 5. chown / chmod without follow -/

/-- `chown` (builder, `follow = false`, recursive or not) started at a link: the traversal of a
    root that is a link yields just the root entry, so uid/gid of the entry AT THE LINK KEY are
    set and nothing else in the state changes — in particular not the target -/
theorem C10_chown_nofollow_acts_on_link (env : Env) (s : State) (l : Str) (c : ChownOpts)
    (lk : FsPath) (e : Entry) (hinv : Spec.Inv s) (ha : absM env l s = (.ok lk, s))
    (he : alLookup lk s.entries = some e) (hl : e.link = true) (hc : c.follow = false) :
    step env s (.chownB l c) =
      (.ok .unit, { s with entries := alInsert lk (e.setOwner c.uid c.gid) s.entries }) ∧
    (∀ k, k ≠ lk → alLookup k (step env s (.chownB l c)).2.entries = alLookup k s.entries) ∧
    alLookup lk (step env s (.chownB l c)).2.entries =
      some { e with uid := c.uid.getD e.uid, gid := c.gid.getD e.gid } := by
  obtain ⟨snap, hsnap⟩ := cloneEntries_ok_of_inv hinv (k := lk) (by rw [he]; rfl)
  have hp : e.path = lk := (inv_facts hinv).path lk e (alLookup_mem he)
  have hrun := chownM_link env s l c lk e snap ha he hl hp hc hsnap
  have hstep : step env s (.chownB l c) =
      (.ok .unit, { s with entries := alInsert lk (e.setOwner c.uid c.gid) s.entries }) := by
    simp only [step, mapVal_apply, hrun]
  refine ⟨hstep, ?_, ?_⟩
  · intro k hk; rw [hstep]; exact alLookup_alInsert_ne hk.symm _ _
  · rw [hstep]; exact alLookup_alInsert_self _ _ _

/-- the plain `chown(path, uid, gid)` call is the builder with `follow = false` -/
theorem C10_chown_acts_on_link (env : Env) (s : State) (l : Str) (uid gid : Nat)
    (lk : FsPath) (e : Entry) (hinv : Spec.Inv s) (ha : absM env l s = (.ok lk, s))
    (he : alLookup lk s.entries = some e) (hl : e.link = true) :
    step env s (.chown l uid gid) =
      (.ok .unit, { s with entries := alInsert lk { e with uid := uid, gid := gid } s.entries }) := by
  have := (C10_chown_nofollow_acts_on_link env s l { uid := some uid, gid := some gid } lk e hinv ha he hl rfl).1
  exact this

/-- `chmod` without follow started at a link changes NOTHING (links are skipped by
    `!src.link ∨ follow`): not the link and in particular not the target. No invariant needed;
    the outcome is `Ok` or whatever error the mode expression produces. -/
theorem C10_chmod_nofollow_changes_nothing (env : Env) (s : State) (l : Str) (c : ChmodOpts)
    (lk : FsPath) (e : Entry) (ha : absM env l s = (.ok lk, s))
    (he : alLookup lk s.entries = some e) (hl : e.link = true) (hc : c.follow = false) :
    (step env s (.chmodB l c)).2 = s := by
  have := chmodM_link env s l c lk e ha he hl hc
  simp only [step, mapVal_apply]
  revert this
  rcases chmodM env l c s with ⟨r, s2⟩
  intro h; simp only at h; subst h
  cases r <;> rfl

/-- the plain `chmod(path, mode)` call (octal, no symbolic expression) on a link: `Ok`, no change -/
theorem C10_chmod_on_link_is_noop (env : Env) (s : State) (l : Str) (m : Nat)
    (lk : FsPath) (e : Entry) (hinv : Spec.Inv s) (ha : absM env l s = (.ok lk, s))
    (he : alLookup lk s.entries = some e) (hl : e.link = true) :
    step env s (.chmod l m) = (.ok .unit, s) := by
  obtain ⟨snap, hsnap⟩ := cloneEntries_ok_of_inv hinv (k := lk) (by rw [he]; rfl)
  simp only [step, mapVal_apply,
    chmodM_link_octal env s l { dirs := m, files := m } lk e snap ha he hl rfl rfl hsnap]

/-- both halves together, as the property states them -/
theorem C10_chmod_chown_nofollow_never_touch_target (env : Env) (s : State) (l : Str)
    (cm : ChmodOpts) (co : ChownOpts) (lk tk : FsPath) (e : Entry) (hinv : Spec.Inv s)
    (ha : absM env l s = (.ok lk, s)) (he : alLookup lk s.entries = some e) (hl : e.link = true)
    (hne : tk ≠ lk) (hcm : cm.follow = false) (hco : co.follow = false) :
    alLookup tk (step env s (.chmodB l cm)).2.entries = alLookup tk s.entries ∧
    alLookup tk (step env s (.chownB l co)).2.entries = alLookup tk s.entries ∧
    (step env s (.chmodB l cm)).2.files = s.files ∧ (step env s (.chownB l co)).2.files = s.files := by
  have h1 := C10_chmod_nofollow_changes_nothing env s l cm lk e ha he hl hcm
  have h2 := C10_chown_nofollow_acts_on_link env s l co lk e hinv ha he hl hco
  refine ⟨by rw [h1], h2.2.1 tk hne, by rw [h1], by rw [h2.1]⟩


/-! ### 9. `move_p` keeps links consistent (after the repair of `moved_link_rel_stale`)

  `LinkRelOk s` : every stored link entry `(k, e)` has `e.rel = relative(e.alt, dir k)` — the `link`
  clause of `RefineA.EntriesOk`, in the form of the consistency monitor `moved_link_rel_stale` of
  `Spec.classOf`.  Before the repair `move_p` stored `{ e with path := dst }` (old `rel`) at the new
  key and broke the clause; now it stores `movedEntry e dst` (`rel` recomputed against `dir dst`). -/

/-- (labelled: restates the definition of the repaired loop body) the entry the loop of `move_p`
    stores at the new key `dst` satisfies the link clause there, whatever `rel` it carried before;
    it differs from the old entry in `path` and `rel` only -/
theorem C10_moved_entry_consistent (e : Entry) (dst : FsPath) :
    LinkRelAt dst (movedEntry e dst) ∧
    movedEntry e dst = { e with path := dst, rel := movedRel e dst } ∧
    (e.link = false → movedEntry e dst = { e with path := dst }) ∧
    (e.link = true → (movedEntry e dst).rel = relative (renderP (e.alt.getD [])) (renderP dst.dropLast)) := by
  refine ⟨MoveLinkRel.linkRelAt_moved e dst, rfl, ?_, ?_⟩
  · intro hl; simp [movedEntry, movedRel, hl]
  · intro hl; simp [movedEntry, movedRel, hl]

/-- **`move_p` preserves the link-consistency clause** — for every state (no invariant needed),
    every pair of path arguments and every outcome (`Ok`, any error — a failing call keeps what it
    mutated —, even fuel exhaustion): if all link entries were consistent before the call, all link
    entries (moved or not) are consistent after it -/
theorem C10_move_preserves_link_rel (env : Env) (s : State) (a b : Str) (h : LinkRelOk s) :
    LinkRelOk (step env s (.moveP a b)).2 :=
  MoveLinkRel.step_moveP_linkRelOk env a b s h

/-- the same for the whole per-entry invariant `RefineA.EntriesOk` of C01 (flags, type bits of the
    mode, link clause with an existing target): `move_p` now preserves it, like every group-A op -/
theorem C10_move_preserves_entriesOk (env : Env) (s : State) (a b : Str)
    (h : Lemmas.RefineA.EntriesOk s) : Lemmas.RefineA.EntriesOk (step env s (.moveP a b)).2 :=
  MoveLinkRel.step_moveP_entriesOk env a b s h

/-- `EntriesOk` (which holds in `Memfs.init` and is preserved by the group-A operations, C01A)
    implies `LinkRelOk`, and on a `LinkRelOk` state the monitor `moved_link_rel_stale` is silent -/
theorem C10_link_rel_monitor_silent (env : Env) (s : State) (p : Str) :
    (Lemmas.RefineA.EntriesOk s → LinkRelOk s) ∧
    (LinkRelOk s → classOf s env (.readlink p) = "-") :=
  ⟨MoveLinkRel.linkRelOk_of_entriesOk, fun h => MoveLinkRel.classOf_readlink_silent h env p⟩

/-- after ANY `move_p` call from a consistent state, for EVERY link `p` of the new state:
    `readlink(p)` is `relative(readlink_abs(p), dir(p))`; and when the names involved are ordinary
    components, `dir(p)/readlink(p)` cleans to `readlink_abs(p)` -/
theorem C10_readlink_consistent_after_move (env : Env) (s : State) (a b p : Str) (k tk : FsPath)
    (e : Entry) (h : LinkRelOk s)
    (ha : absM env p (step env s (.moveP a b)).2 = (.ok k, (step env s (.moveP a b)).2))
    (he : alLookup k (step env s (.moveP a b)).2.entries = some e) (hl : e.link = true)
    (halt : e.alt = some tk) :
    step env (step env s (.moveP a b)).2 (.readlinkAbs p) = (.ok (.path tk), (step env s (.moveP a b)).2) ∧
    step env (step env s (.moveP a b)).2 (.readlink p) =
      (.ok (.str (relative (renderP tk) (renderP k.dropLast))), (step env s (.moveP a b)).2) ∧
    ((∀ n ∈ k, WfName n) → (∀ n ∈ tk, WfName n) →
      goClean (push (renderP k.dropLast) (relative (renderP tk) (renderP k.dropLast))) = renderP tk) := by
  have hok := C10_move_preserves_link_rel env s a b h
  generalize (step env s (.moveP a b)).2 = s' at ha he hok
  have hrel : e.rel = relative (renderP tk) (renderP k.dropLast) := by
    have := MoveLinkRel.linkRelOk_lookup hok he hl
    rw [halt] at this
    exact this
  refine ⟨?_, ?_, fun hk ht => (C10_rel_navigates k tk hk ht).1⟩
  · rw [step_readlinkAbs_eq ha, he]; simp [hl, halt]
  · rw [step_readlink_eq ha, he]; simp [hl, hrel]

/-- positive example (replaces the former counterexample of the finding): `mkdir -p /a /b/c`,
    `symlink /a/l -> ../x` (dangling), `move_p /a/l /b/c`.  Before the call `readlink` is `../x`;
    after it `readlink /b/c/l` is `../../x` and `readlink_abs` is still `/x`; the state is
    consistent and the monitor is silent.  (The unrepaired loop left `../x`, which from `/b/c`
    names `/b/x`.) -/
theorem C10_move_link_example :
    (let env : Env := fun _ => none
     let s1 := (step env Memfs.init (.mkdirP "/a".toList)).2
     let s2 := (step env s1 (.mkdirP "/b/c".toList)).2
     let s3 := (step env s2 (.symlink "/a/l".toList "../x".toList)).2
     let s4 := (step env s3 (.moveP "/a/l".toList "/b/c".toList)).2
     (step env s3 (.readlink "/a/l".toList)).1 = .ok (.str "../x".toList) ∧
     (step env s3 (.moveP "/a/l".toList "/b/c".toList)).1 = .ok .unit ∧
     (step env s4 (.readlink "/b/c/l".toList)).1 = .ok (.str "../../x".toList) ∧
     (step env s4 (.readlinkAbs "/b/c/l".toList)).1 = .ok (.path ["x".toList]) ∧
     (step env s4 (Op.exists "/a/l".toList)).1 = .ok (.bool false) ∧
     LinkRelOk s3 ∧ LinkRelOk s4 ∧ Spec.Inv s4 ∧
     classOf s4 env (.readlink "/b/c/l".toList) = "-") := by
  decide +kernel

/-- regression witness: the entry the UNREPAIRED loop stored (`{ e with path := dst }`, `rel`
    untouched) violates the clause for the link of the example — so the preservation theorems
    above do distinguish the repaired model from the old one -/
theorem C10_old_move_entry_stale :
    (let e : Entry := { mkFileEntry ["a".toList, "l".toList] with
        link := true, mode := 0o120777, alt := some ["x".toList], rel := "../x".toList }
     let dst : FsPath := ["b".toList, "c".toList, "l".toList]
     LinkRelAt ["a".toList, "l".toList] e ∧ ¬ LinkRelAt dst { e with path := dst } ∧
     LinkRelAt dst (movedEntry e dst) ∧ (movedEntry e dst).rel = "../../x".toList) := by
  decide +kernel

-- non-vacuity / sanity (tests, labelled as such): the hypotheses of the theorems above are
-- satisfiable — smallest state with a directory `/a`, link `/a/l` with the relative, dangling
-- target `../x`
private def env0 : Env := fun _ => none
private def sA : State := (step env0 Memfs.init (.mkdirP "/a".toList)).2
private def kl : FsPath := ["a".toList, "l".toList]
private def sB : State := (step env0 sA (.symlink "/a/l".toList "../x".toList)).2

example : Spec.Inv sA ∧ Spec.Inv sB := by decide +kernel
example : KeysWf sA := by unfold KeysWf WfName; decide +kernel
example : absM env0 "/a/l".toList sA = (.ok kl, sA) ∧
    absM env0 (targetStr kl "../x".toList) sA = (.ok ["x".toList], sA) ∧
    (step env0 sA (.symlink "/a/l".toList "../x".toList)).1 = .ok (.path kl) := by decide +kernel
example : absM env0 "/a/l".toList sB = (.ok kl, sB) ∧
    (alLookup kl sB.entries).map (·.link) = some true ∧
    (step env0 sB (.readlink "/a/l".toList)).1 = .ok (.str "../x".toList) := by decide +kernel

end Rivia.Props
