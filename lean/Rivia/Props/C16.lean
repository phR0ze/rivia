/-
  C16 — relative(path, base) is the navigation from base to path.
  Property theorems ONLY (helper lemmas live in Rivia/Lemmas/*).
-/
import Rivia.Model.Path
import Rivia.Spec.GoClean
import Rivia.Lemmas.Relative

namespace Rivia.Props
open Rivia Rivia.Spec Rivia.Str Rivia.Lemmas

/-- a well-formed component name: non-empty, no separator, not `.` or `..` -/
def WfName (n : Str) : Prop := n ≠ [] ∧ '/' ∉ n ∧ n ≠ ['.'] ∧ n ≠ ['.', '.']

/-- the clean absolute path with the given normal components (`/` for none) -/
def absPath (ns : List Str) : Str := render (.root :: ns.map Comp.normal)

/-- length of the common prefix -/
def commonLen : List Str → List Str → Nat
  | a :: as, b :: bs => if a = b then commonLen as bs + 1 else 0
  | _, _ => 0

/-- bridges to the lemma-level copies of the definitions above -/
theorem absPath_eq {ns : List Str} (h : ∀ n ∈ ns, WfName n) : absPath ns = bufOf true ns :=
  render_root_normals h

theorem commonLen_eq (ps bs : List Str) : commonLen ps bs = cLen ps bs := by
  induction ps generalizing bs with
  | nil => rfl
  | cons a as ih =>
    cases bs with
    | nil => rfl
    | cons b bs => rw [commonLen, cLen, ih]

/-- every clean absolute path is an `absPath` (so the theorems below cover all of them):
    a string is in normal form and rooted iff it is `absPath ns` for well-formed names -/
theorem C16_absPath_clean (ns : List Str) (h : ∀ n ∈ ns, WfName n) :
    goClean (absPath ns) = absPath ns ∧ isRooted (absPath ns) = true ∧
    components (absPath ns) = .root :: ns.map Comp.normal := by
  rw [absPath_eq h]
  exact ⟨goClean_of_normalForm (normalForm_abs h), isRooted_abs ns, components_abs h⟩

/-- shape: zero or more `..` — as many as `b` has components below the common prefix —
    followed only by the normal components of `p` below the common prefix -/
theorem C16_relative_shape (ps bs : List Str) (hp : ∀ n ∈ ps, WfName n) (hb : ∀ n ∈ bs, WfName n)
    (hne : ps ≠ bs) :
    relative (absPath ps) (absPath bs) =
      render (List.replicate (bs.length - commonLen ps bs) Comp.parent ++
              (ps.drop (commonLen ps bs)).map Comp.normal) := by
  rw [absPath_eq hp, absPath_eq hb, relative_abs hp hb hne, commonLen_eq,
    render_shape _ (fun n hn => hp n (List.mem_of_mem_drop hn))]

/-- the result is a relative path -/
theorem C16_relative_is_relative (ps bs : List Str) (hp : ∀ n ∈ ps, WfName n) (hb : ∀ n ∈ bs, WfName n)
    (hne : ps ≠ bs) : isRooted (relative (absPath ps) (absPath bs)) = false := by
  rw [absPath_eq hp, absPath_eq hb, relative_abs hp hb hne]
  exact isRooted_bufOf (bodyPiece_shape (fun n hn => hp n (List.mem_of_mem_drop hn)))

/-- navigation: cleaning `b` joined with the result yields `p` -/
theorem C16_relative_navigates (ps bs : List Str) (hp : ∀ n ∈ ps, WfName n) (hb : ∀ n ∈ bs, WfName n)
    (hne : ps ≠ bs) :
    goClean (push (absPath bs) (relative (absPath ps) (absPath bs))) = absPath ps := by
  rw [absPath_eq hp, absPath_eq hb, relative_abs hp hb hne,
    push_abs_rel (fun q hq => Wf.bodyPiece (hb q hq))
      (bodyPiece_shape (fun n hn => hp n (List.mem_of_mem_drop hn))) (shape_ne_nil hne)]
  exact goClean_navigate hp hb hne

/-- for `p = b` the result is `p` itself and joining it onto `b` still yields `p` -/
theorem C16_relative_self (ps : List Str) (hp : ∀ n ∈ ps, WfName n) :
    relative (absPath ps) (absPath ps) = absPath ps ∧
    goClean (push (absPath ps) (relative (absPath ps) (absPath ps))) = absPath ps := by
  have hrel : relative (absPath ps) (absPath ps) = absPath ps := by simp [relative]
  have hpush : push (absPath ps) (absPath ps) = absPath ps := by
    simp [push, (C16_absPath_clean ps hp).2.1]
  rw [hrel, hpush]
  exact ⟨rfl, (C16_absPath_clean ps hp).1⟩

-- non-vacuity / sanity (tests, labelled as such)
example : relative "/a/b/c".toList "/a/x".toList = "../b/c".toList := by decide +kernel
example : absPath ["a".toList, "b".toList] = "/a/b".toList := by decide +kernel
example : WfName "a".toList := by unfold WfName; decide

end Rivia.Props
