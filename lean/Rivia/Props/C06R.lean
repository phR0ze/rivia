/-
  C06R — the tree-content theorems of Props/C06T on REACHABLE states, without the `KeysWf` hypothesis.

  Props/C06T carries the decidable hypothesis `KeysWf s` (no name of a key or of the cwd is empty, `.`,
  `..` or contains `/`) because `C03_Strong` does not exclude `..`.  Props/C01R proves that every state
  reached from `Memfs.init` by a history of `GoodOp`s (everything but `copy_b(..).follow(true)`), each
  call returning, has it (`C01R_good_run`: `RInv = C03_Strong ∧ EntriesOk ∧ KeysW`, and `KeysW` IS
  `Lemmas.KeysWf`).  Here the two are put together: the only hypotheses about the state left are
  "`s` is reached from `Memfs.init` by GoodOp calls that return" (`Reached s`, inductive; the history
  form is `C06R_reached_of_history`) and, for copy, the depth bound
  `DepthOk s` or the physical size bound `s.entries.length < 2^64 - 1`.

  (Props/C06T and Props/C01R can be imported together: checked, no clash.)
  `GoodOp` cannot be dropped: `C01R_copy_follow_breaks_keysW` reaches a state with a key `/d/..` by a
  `copy_b(..).follow(true)`.
-/
import Rivia.Props.C06T
import Rivia.Props.C01R

namespace Rivia.Props
open Rivia Rivia.Memfs Rivia.Spec Rivia.Lemmas Rivia.Lemmas.CT
open Rivia.Lemmas.Snap (DepthOk)

/-- `s` is reached from the fresh filesystem by `GoodOp` calls that return (the environment may change
    from call to call) -/
inductive Reached : State → Prop
  | init : Reached Memfs.init
  | step {s : State} (env : Env) (op : Op) : Reached s → GoodOp op → (step env s op).1 ≠ .hang →
      Reached (step env s op).2

theorem C06R_reached_run (env : Env) : ∀ (ops : List Op) (s : State), Reached s → (∀ o ∈ ops, GoodOp o) →
    InvAll.NoHangRun env s ops → Reached (run env s ops) := by
  intro ops
  induction ops with
  | nil => intro s h _ _; exact h
  | cons op ops ih =>
    intro s h hg hh
    exact ih _ (.step env op h (hg op List.mem_cons_self) hh.1)
      (fun o ho => hg o (List.mem_cons_of_mem _ ho)) hh.2

/-- the state after a history of `GoodOp`s from the fresh filesystem, every call returning, is reached -/
theorem C06R_reached_of_history (env₀ : Env) (ops : List Op) (hg : ∀ o ∈ ops, GoodOp o)
    (hh : Returns env₀ Memfs.init ops) : Reached (run env₀ Memfs.init ops) :=
  C06R_reached_run env₀ ops _ .init hg ((InvAll.noHangRun_iff env₀ _ ops).2 hh)

theorem C06R_reached_rinv {s : State} (h : Reached s) : RInv s := by
  induction h with
  | init => exact C01R_init
  | step env op _ hg hh ih => exact C01R_good_step env _ op hg ih hh

/-- **the standing hypotheses of C06T hold on every reached state** -/
theorem C06R_reached_inv {s : State} (h : Reached s) : C03_Strong s ∧ KeysWf s :=
  have := C06R_reached_rinv h
  ⟨this.1, this.2.2⟩

/-- the depth bound of the copy theorems follows from the physical size bound -/
theorem C06R_depthOk_of_small {s : State} (h : Reached s) (hsmall : s.entries.length < 2 ^ 64 - 1) :
    DepthOk s := by
  intro kv hkv
  have := Reach.depthOk_of_small (C06R_reached_inv h).1.1 hsmall kv hkv
  omega

/-! ### (b) tree copy on reached states -/

/-- `C06_copy_tree_content` with no state hypothesis but `Reached` and `DepthOk` -/
theorem C06R_copy_tree_content {env : Env} {a b : Str} {c : CopyOpts} {s s' : State} {sk dk : FsPath}
    {v : Val} (h : Reached s) (hd : DepthOk s) (hfollow : c.follow = false)
    (ha : absM env a s = (.ok sk, s)) (hb : absM env b s = (.ok dk, s))
    (h1 : ¬ sk <+: copyDst s sk dk) (h2 : ¬ copyDst s sk dk <+: sk)
    (hc : step env s (.copyB a b c) = (.ok v, s')) :
    (∀ r e, alLookup (sk ++ r) s.entries = some e → e.file = true → e.link = false →
      content s' (copyDst s sk dk ++ r) = content s (sk ++ r)) ∧
    (∀ r, content s' (sk ++ r) = content s (sk ++ r)) ∧
    (∀ q, (∀ r e, alLookup (sk ++ r) s.entries = some e → e.dir = false → e.link = false →
        q ≠ copyDst s sk dk ++ r) → content s' q = content s q) ∧
    (∀ q, (∀ r, q ≠ copyDst s sk dk ++ r) → content s' q = content s q) :=
  have hi := C06R_reached_inv h
  C06_copy_tree_content hi.1 hi.2 hd hfollow ha hb h1 h2 hc

/-- the same with the size bound in place of `DepthOk` -/
theorem C06R_copy_tree_content_small {env : Env} {a b : Str} {c : CopyOpts} {s s' : State}
    {sk dk : FsPath} {v : Val} (h : Reached s) (hsmall : s.entries.length < 2 ^ 64 - 1)
    (hfollow : c.follow = false)
    (ha : absM env a s = (.ok sk, s)) (hb : absM env b s = (.ok dk, s))
    (h1 : ¬ sk <+: copyDst s sk dk) (h2 : ¬ copyDst s sk dk <+: sk)
    (hc : step env s (.copyB a b c) = (.ok v, s')) :
    (∀ r e, alLookup (sk ++ r) s.entries = some e → e.file = true → e.link = false →
      content s' (copyDst s sk dk ++ r) = content s (sk ++ r)) ∧
    (∀ r, content s' (sk ++ r) = content s (sk ++ r)) ∧
    (∀ q, (∀ r e, alLookup (sk ++ r) s.entries = some e → e.dir = false → e.link = false →
        q ≠ copyDst s sk dk ++ r) → content s' q = content s q) ∧
    (∀ q, (∀ r, q ≠ copyDst s sk dk ++ r) → content s' q = content s q) :=
  C06R_copy_tree_content h (C06R_depthOk_of_small h hsmall) hfollow ha hb h1 h2 hc

/-- the operation `copy(src, dst)` (default options) -/
theorem C06R_copy_tree_content_copy {env : Env} {a b : Str} {s s' : State} {sk dk : FsPath}
    {v : Val} (h : Reached s) (hd : DepthOk s)
    (ha : absM env a s = (.ok sk, s)) (hb : absM env b s = (.ok dk, s))
    (h1 : ¬ sk <+: copyDst s sk dk) (h2 : ¬ copyDst s sk dk <+: sk)
    (hc : step env s (.copy a b) = (.ok v, s')) :
    (∀ r e, alLookup (sk ++ r) s.entries = some e → e.file = true → e.link = false →
      content s' (copyDst s sk dk ++ r) = content s (sk ++ r)) ∧
    (∀ r, content s' (sk ++ r) = content s (sk ++ r)) ∧
    (∀ q, (∀ r e, alLookup (sk ++ r) s.entries = some e → e.dir = false → e.link = false →
        q ≠ copyDst s sk dk ++ r) → content s' q = content s q) ∧
    (∀ q, (∀ r, q ≠ copyDst s sk dk ++ r) → content s' q = content s q) :=
  have hi := C06R_reached_inv h
  C06_copy_tree_content_copy hi.1 hi.2 hd ha hb h1 h2 hc

/-- copy INTO an existing real directory -/
theorem C06R_copy_tree_into_dir {env : Env} {a b : Str} {c : CopyOpts} {s s' : State} {sk dk : FsPath}
    {v : Val} (h : Reached s) (hd : DepthOk s) (hfollow : c.follow = false)
    (ha : absM env a s = (.ok sk, s)) (hb : absM env b s = (.ok dk, s))
    (hinto : isDirP s dk = true)
    (h1 : ¬ sk <+: dk ++ [baseName sk]) (h2 : ¬ dk ++ [baseName sk] <+: sk)
    (hc : step env s (.copyB a b c) = (.ok v, s')) :
    ∀ r e, alLookup (sk ++ r) s.entries = some e → e.file = true → e.link = false →
      content s' (dk ++ [baseName sk] ++ r) = content s (sk ++ r) :=
  have hi := C06R_reached_inv h
  C06_copy_tree_into_dir hi.1 hi.2 hd hfollow ha hb hinto h1 h2 hc

/-- the single-file case -/
theorem C06R_copy_does_not_alias {env : Env} {a b : Str} {c : CopyOpts} {s s' : State}
    {sk dk : FsPath} {e : Entry} {v : Val}
    (h : Reached s) (hd : DepthOk s) (hfollow : c.follow = false)
    (ha : absM env a s = (.ok sk, s)) (hb : absM env b s = (.ok dk, s))
    (he : alLookup sk s.entries = some e) (hf : e.file = true) (hl : e.link = false)
    (h1 : ¬ sk <+: copyDst s sk dk) (h2 : ¬ copyDst s sk dk <+: sk)
    (hc : step env s (.copyB a b c) = (.ok v, s')) :
    (∃ bytes, content s sk = some bytes ∧ content s' (copyDst s sk dk) = some bytes) ∧
    content s' sk = content s sk ∧
    (∀ q, q ≠ copyDst s sk dk → content s' q = content s q) :=
  have hi := C06R_reached_inv h
  C06_copy_does_not_alias_wf hi.1 hi.2 hd hfollow ha hb he hf hl h1 h2 hc

/-- **copies are independent** (the two-step history of C06T (c)) from every reached state -/
theorem C06R_copy_tree_does_not_alias {env env2 : Env} {a b : Str} {c : CopyOpts} {s s' : State}
    {sk dk : FsPath} {v : Val} (h : Reached s) (hd : DepthOk s) (hfollow : c.follow = false)
    (ha : absM env a s = (.ok sk, s)) (hb : absM env b s = (.ok dk, s))
    (h1 : ¬ sk <+: copyDst s sk dk) (h2 : ¬ copyDst s sk dk <+: sk)
    (hc : step env s (.copyB a b c) = (.ok v, s'))
    (p2 : Str) (d2 : File.Bytes) (k2 : FsPath) (hk2 : absM env2 p2 s' = (.ok k2, s')) :
    ((∃ t, k2 = copyDst s sk dk ++ t) → ∀ r,
      content (step env2 s' (.writeAll p2 d2)).2 (sk ++ r) = content s (sk ++ r) ∧
      content (step env2 s' (.appendAll p2 d2)).2 (sk ++ r) = content s (sk ++ r)) ∧
    ((∃ t, k2 = sk ++ t) → ∀ r e, alLookup (sk ++ r) s.entries = some e → e.file = true →
      e.link = false →
      content (step env2 s' (.writeAll p2 d2)).2 (copyDst s sk dk ++ r) = content s (sk ++ r) ∧
      content (step env2 s' (.appendAll p2 d2)).2 (copyDst s sk dk ++ r) = content s (sk ++ r)) :=
  have hi := C06R_reached_inv h
  C06_copy_tree_does_not_alias hi.1 hi.2 hd hfollow ha hb h1 h2 hc p2 d2 k2 hk2

/-! ### (d) tree move on reached states -/

/-- `C06_move_tree_content` with no state hypothesis but `Reached` -/
theorem C06R_move_tree_content {env : Env} {a b : Str} {s s' : State} {sk dk : FsPath} {v : Val}
    (h : Reached s)
    (ha : absM env a s = (.ok sk, s)) (hb : absM env b s = (.ok dk, s))
    (hm : step env s (.moveP a b) = (.ok v, s')) :
    (sk ≠ [] → moveDst s sk dk = if isDirP s dk = true then dk ++ [baseName sk] else dk) ∧
    ((moveDst s sk dk = sk ∧ s' = s) ∨
     ((∀ r, content s' (moveDst s sk dk ++ r) = content s (sk ++ r)) ∧
      (∀ r, content s' (sk ++ r) = none) ∧
      (∀ k, (∀ r, k ≠ sk ++ r) → (∀ r, k ≠ moveDst s sk dk ++ r) → content s' k = content s k))) :=
  have hi := C06R_reached_inv h
  C06_move_tree_content hi.1 hi.2 ha hb hm

theorem C06R_move_does_not_alias {env : Env} {a b : Str} {s s' : State} {sk dk : FsPath} {v : Val}
    {bytes : File.Bytes} (h : Reached s)
    (ha : absM env a s = (.ok sk, s)) (hb : absM env b s = (.ok dk, s))
    (hne : moveDst s sk dk ≠ sk) (hbytes : content s sk = some bytes)
    (hm : step env s (.moveP a b) = (.ok v, s')) :
    content s' (moveDst s sk dk) = some bytes ∧ content s' sk = none ∧
    (∀ k, (∀ r, k ≠ sk ++ r) → (∀ r, k ≠ moveDst s sk dk ++ r) → content s' k = content s k) :=
  have hi := C06R_reached_inv h
  C06_move_does_not_alias_wf hi.1 hi.2 ha hb hne hbytes hm

/-- resolved keys are well formed on reached states (C06T (a) without hypothesis) -/
theorem C06R_abs_key_wf {env : Env} {p : Str} {s : State} {k : FsPath} (h : Reached s)
    (hp : absM env p s = (.ok k, s)) : ∀ n ∈ k, Wf n :=
  C06_abs_key_wf_of_keysWf (C06R_reached_inv h).2 hp

/-! ### the history forms (the `_reachable` theorems of C06T without `KeysWf`) -/

theorem C06R_copy_tree_content_reachable (env₀ : Env) (ops : List Op)
    (hg : ∀ o ∈ ops, GoodOp o) (hh : Returns env₀ Memfs.init ops)
    {env : Env} {a b : Str} {c : CopyOpts} {s' : State} {sk dk : FsPath} {v : Val}
    (hsmall : (run env₀ Memfs.init ops).entries.length < 2 ^ 64 - 1)
    (hfollow : c.follow = false)
    (ha : absM env a (run env₀ Memfs.init ops) = (.ok sk, run env₀ Memfs.init ops))
    (hb : absM env b (run env₀ Memfs.init ops) = (.ok dk, run env₀ Memfs.init ops))
    (h1 : ¬ sk <+: copyDst (run env₀ Memfs.init ops) sk dk)
    (h2 : ¬ copyDst (run env₀ Memfs.init ops) sk dk <+: sk)
    (hc : step env (run env₀ Memfs.init ops) (.copyB a b c) = (.ok v, s')) :
    (∀ r e, alLookup (sk ++ r) (run env₀ Memfs.init ops).entries = some e → e.file = true →
      e.link = false →
      content s' (copyDst (run env₀ Memfs.init ops) sk dk ++ r) =
        content (run env₀ Memfs.init ops) (sk ++ r)) ∧
    (∀ r, content s' (sk ++ r) = content (run env₀ Memfs.init ops) (sk ++ r)) ∧
    (∀ q, (∀ r, q ≠ copyDst (run env₀ Memfs.init ops) sk dk ++ r) →
      content s' q = content (run env₀ Memfs.init ops) q) := by
  obtain ⟨c1, c2, _, c4⟩ :=
    C06R_copy_tree_content_small (C06R_reached_of_history env₀ ops hg hh) hsmall hfollow ha hb h1 h2 hc
  exact ⟨c1, c2, c4⟩

theorem C06R_move_tree_content_reachable (env₀ : Env) (ops : List Op)
    (hg : ∀ o ∈ ops, GoodOp o) (hh : Returns env₀ Memfs.init ops)
    {env : Env} {a b : Str} {s' : State} {sk dk : FsPath} {v : Val}
    (ha : absM env a (run env₀ Memfs.init ops) = (.ok sk, run env₀ Memfs.init ops))
    (hb : absM env b (run env₀ Memfs.init ops) = (.ok dk, run env₀ Memfs.init ops))
    (hm : step env (run env₀ Memfs.init ops) (.moveP a b) = (.ok v, s')) :
    (moveDst (run env₀ Memfs.init ops) sk dk = sk ∧ s' = run env₀ Memfs.init ops) ∨
     ((∀ r, content s' (moveDst (run env₀ Memfs.init ops) sk dk ++ r) =
        content (run env₀ Memfs.init ops) (sk ++ r)) ∧
      (∀ r, content s' (sk ++ r) = none) ∧
      (∀ k, (∀ r, k ≠ sk ++ r) → (∀ r, k ≠ moveDst (run env₀ Memfs.init ops) sk dk ++ r) →
        content s' k = content (run env₀ Memfs.init ops) k)) :=
  (C06R_move_tree_content (C06R_reached_of_history env₀ ops hg hh) ha hb hm).2

/-! ### non-vacuity (tests, labelled as such) -/

namespace C06RWitness
open C01RWitness (S)
/-- `/a/b/f = "hi"`, `/d` an existing directory -/
def h3 : List Op := [.mkdirP (S "/a/b"), .writeAll (S "/a/b/f") [104, 105], .mkdirP (S "/d")]
end C06RWitness
open C06RWitness C01RWitness

theorem C06R_h3_reached : Reached (run env0 Memfs.init h3) :=
  C06R_reached_run env0 h3 _ .init (by decide) (noHangRun_of_chk _ _ _ (by decide +kernel))

/-- every hypothesis of `C06R_copy_tree_content_reachable` holds for `copy("/a", "/d")` after `h3`
    (the copy goes INTO `/d`), and the call succeeds -/
theorem C06R_h3_hyps :
    (run env0 Memfs.init h3).entries.length < 2 ^ 64 - 1 ∧
    (absM env0 (S "/a") (run env0 Memfs.init h3)).1 = .ok [S "a"] ∧
    (absM env0 (S "/d") (run env0 Memfs.init h3)).1 = .ok [S "d"] ∧
    copyDst (run env0 Memfs.init h3) [S "a"] [S "d"] = [S "d", S "a"] ∧
    (step env0 (run env0 Memfs.init h3) (.copyB (S "/a") (S "/d") {})).1 = .ok .unit ∧
    (alLookup [S "a", S "b", S "f"] (run env0 Memfs.init h3).entries).map
      (fun e => (e.file, e.link)) = some (true, false) ∧
    content (run env0 Memfs.init h3) [S "a", S "b", S "f"] = some [104, 105] := by
  decide +kernel

theorem C06R_pair_eq {α β : Type} (p : α × β) (a : α) (h : p.1 = a) : p = (a, p.2) := by
  cases p; cases h; rfl

/-- the conclusion, instantiated: after `h3`, `copy("/a", "/d")` puts the bytes of `/a/b/f` at
    `/d/a/b/f` and leaves them at `/a/b/f` — no state hypothesis was supplied -/
example : ∃ s', step env0 (run env0 Memfs.init h3) (.copyB (S "/a") (S "/d") {}) = (.ok .unit, s') ∧
    content s' [S "d", S "a", S "b", S "f"] = some [104, 105] ∧
    content s' [S "a", S "b", S "f"] = some [104, 105] := by
  obtain ⟨w1, w2, w3, w4, w5, w6, w7⟩ := C06R_h3_hyps
  have hs : step env0 (run env0 Memfs.init h3) (.copyB (S "/a") (S "/d") {}) =
      (.ok .unit, (step env0 (run env0 Memfs.init h3) (.copyB (S "/a") (S "/d") {})).2) :=
    C06R_pair_eq _ _ w5
  have ha : absM env0 (S "/a") (run env0 Memfs.init h3) = (.ok [S "a"], run env0 Memfs.init h3) :=
    (C06R_pair_eq _ _ w2).trans (by rw [absM_state])
  have hb : absM env0 (S "/d") (run env0 Memfs.init h3) = (.ok [S "d"], run env0 Memfs.init h3) :=
    (C06R_pair_eq _ _ w3).trans (by rw [absM_state])
  obtain ⟨e, he, hfl⟩ : ∃ e, alLookup [S "a", S "b", S "f"] (run env0 Memfs.init h3).entries = some e ∧
      (e.file, e.link) = (true, false) := by
    cases hl : alLookup [S "a", S "b", S "f"] (run env0 Memfs.init h3).entries with
    | none => rw [hl] at w6; cases w6
    | some e => rw [hl] at w6; exact ⟨e, rfl, Option.some.inj w6⟩
  have h := C06R_copy_tree_content_small (c := {}) C06R_h3_reached w1 rfl ha hb
    (by rw [w4]; decide) (by rw [w4]; decide) hs
  refine ⟨_, hs, ?_, ?_⟩
  · have := h.1 [S "b", S "f"] e he (congrArg Prod.fst hfl) (congrArg Prod.snd hfl)
    rw [w4] at this
    exact this.trans w7
  · exact (h.2.1 [S "b", S "f"]).trans w7

/-
  -- OPEN (not proved):
  -- * `Reached` quantifies over histories of `GoodOp`s: after a `copy_b(..).follow(true)` the state may
  --   hold a key with a `..` name (`C01R_copy_follow_breaks_keysW`), `KeysWf` fails there and the
  --   theorems of Props/C06T apply only with `KeysWf` as an explicit (decidable) hypothesis.
  -- * `DepthOk` (copy only; no key 2^64 names deep) is not an invariant of the model; it is either a
  --   decidable side condition or replaced by the size bound `entries.length < 2^64 - 1`
  --   (`C06R_depthOk_of_small`).
  -- * the other OPEN items of Props/C06T (`follow = true` copies, overlapping source / destination,
  --   `write_lines` / handles as the second step) are unchanged.
-/

end Rivia.Props
