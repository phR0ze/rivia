/-
  C15 — path helpers obey their inverse and containment laws on all UTF-8 input.
  Property theorems ONLY (helper lemmas live in Rivia/Lemmas/*).
-/
import Rivia.Model.Path
import Rivia.Spec.PathLaws
import Rivia.Lemmas.PathLaws

namespace Rivia.Props
open Rivia Rivia.Spec Rivia.Str

/-! ### mash -/

/-- the components of `mash d p` are those of `d` followed by those of `p` with every leading
    separator removed -/
theorem C15_mash_components (d p : Str) : components (mash d p) = mashComps d p :=
  Lemmas.mash_components d p

/-- so the result always stays lexically under `d` -/
theorem C15_mash_stays_under (d p : Str) (hd : d ≠ []) : components d <+: components (mash d p) := by
  rw [Lemmas.mash_components, mashComps, if_neg hd]
  exact List.prefix_append _ _

/-- and is the canonical rendering (no trailing / repeated separator): re-collecting its
    components gives the string back -/
theorem C15_mash_canonical (d p : Str) : render (components (mash d p)) = mash d p :=
  Lemmas.mash_canonical d p

/-! ### trim_prefix / trim_suffix (the byte-slicing code as written, `none` = panic) -/

theorem C15_trim_prefix_eq_spec (p s : Str) : trimPrefixO p s = some (trimPrefixSpec p s) :=
  Lemmas.trimPrefixO_eq_spec p s
theorem C15_trim_prefix_inverse (s p : Str) : trimPrefixO (s ++ p) s = some p :=
  Lemmas.trimPrefixO_append s p
theorem C15_trim_prefix_unchanged (p s : Str) (h : ¬ s <+: p) : trimPrefixO p s = some p := by
  rw [C15_trim_prefix_eq_spec, trimPrefixSpec, if_neg (mt List.isPrefixOf_iff_prefix.1 h)]
theorem C15_trim_suffix_eq_spec (p s : Str) : trimSuffixO p s = some (trimSuffixSpec p s) :=
  Lemmas.trimSuffixO_eq_spec p s
theorem C15_trim_suffix_inverse (p s : Str) : trimSuffixO (p ++ s) s = some p :=
  Lemmas.trimSuffixO_append p s
theorem C15_trim_suffix_unchanged (p s : Str) (h : ¬ s <:+ p) : trimSuffixO p s = some p := by
  rw [C15_trim_suffix_eq_spec, trimSuffixSpec, if_neg (mt List.isSuffixOf_iff_suffix.1 h)]

/-! ### ext / trim_ext / name -/

/-- domain of the two laws below: the string ends with its last component (no trailing
    separator or `/.`); outside it: known finding `trim_ext_trailing_sep` -/
def EndsWithFileName (p : Str) : Prop := ∃ n, fileName p = some n ∧ n <:+ p

def C15_trim_ext_ext_full : Prop :=
  ∀ p e, ext p = .ok e → ∃ t, trimExt p = .ok t ∧ components (t ++ '.' :: e) = components p

theorem C15_trim_ext_ext_partial (p e : Str) (h : ext p = .ok e) (hd : EndsWithFileName p) :
    ∃ t, trimExt p = .ok t ∧ t ++ '.' :: e = p := by
  obtain ⟨n, hn, hsuf⟩ := hd
  obtain ⟨X, stem, hp, _, _, ht⟩ := Lemmas.trimExt_of_extension (Lemmas.ext_ok h) hn hsuf
  exact ⟨X ++ stem, ht, hp.symm⟩

/-- without an extension `trim_ext` is the identity -/
theorem C15_trim_ext_no_ext (p : Str) (h : extension p = none) : trimExt p = .ok p := by
  unfold trimExt; rw [h]

def C15_name_full : Prop := ∀ p, name p = nameSpec p

/-- `name` is the last component without its extension; outside the domain: known findings
    `trim_ext_trailing_sep` and `name_stem_is_dot` -/
theorem C15_name_partial (p : Str) (hd : extension p = none ∨ EndsWithFileName p)
    (hs : nameSpec p ≠ .ok ['.'] ∨ (components p).length < 2) : name p = nameSpec p := by
  cases he : extension p with
  | none => exact Lemmas.name_of_no_ext he
  | some e =>
    rcases hd with hd | ⟨n, hn, hsuf⟩
    · rw [he] at hd; cases hd
    · exact Lemmas.name_of_ext he hn hsuf hs

theorem C15_finding_trim_ext_trailing_sep :
    ext "a.b/".toList = .ok "b".toList ∧ trimExt "a.b/".toList = .ok "a.b/".toList ∧
    name "a.b/".toList = .ok "a.b".toList ∧ nameSpec "a.b/".toList = .ok "a".toList := by
  decide +kernel

theorem C15_finding_name_stem_is_dot :
    name "/..a".toList = .ok "/".toList ∧ nameSpec "/..a".toList = .ok ".".toList := by
  decide +kernel

theorem C15_trim_ext_ext_full_is_false : ¬ C15_trim_ext_ext_full := by
  intro h
  obtain ⟨hext, htrim, _⟩ := C15_finding_trim_ext_trailing_sep
  obtain ⟨t, ht, hc⟩ := h _ _ hext
  obtain rfl := Outcome.ok.inj (htrim.symm.trans ht)
  revert hc
  decide +kernel

theorem C15_name_full_is_false : ¬ C15_name_full := by
  intro h
  obtain ⟨_, _, hname, hspec⟩ := C15_finding_trim_ext_trailing_sep
  have := hname.symm.trans ((h _).trans hspec)
  revert this
  decide +kernel

/-! ### dir/base, first/trim_first, last/trim_last split off exactly one component -/

theorem C15_dir_splits_last (p d : Str) (h : dir p = .ok d) :
    components d = (components p).dropLast ∧
    ∃ c, (components p).getLast? = some c ∧ c ≠ .root ∧ base p = .ok c.str := by
  have hspec := Lemmas.parentStr_spec p
  unfold dir at h
  cases hp : parentStr p with
  | none => rw [hp] at h; cases h
  | some d' =>
    rw [hp] at h hspec
    obtain rfl := Outcome.ok.inj h
    obtain ⟨c, hc, hne⟩ := hspec
    refine ⟨by rw [hc, List.dropLast_concat], c, by rw [hc, List.getLast?_concat], hne, ?_⟩
    unfold base
    rw [hc, List.getLast?_concat]

theorem C15_dir_error_iff (p : Str) :
    (∃ k, dir p = .err k) ↔ (components p = [] ∨ components p = [.root]) := by
  have hspec := Lemmas.parentStr_spec p
  unfold dir
  cases hp : parentStr p with
  | none =>
    rw [hp] at hspec
    exact ⟨fun _ => hspec, fun _ => ⟨_, rfl⟩⟩
  | some d =>
    rw [hp] at hspec
    obtain ⟨c, hc, hne⟩ := hspec
    constructor
    · rintro ⟨k, hk⟩; cases hk
    · rintro (h | h)
      · rw [h] at hc; simp at hc
      · have := congrArg List.getLast? hc
        rw [h, List.getLast?_concat] at this
        exact absurd (Option.some.inj this).symm hne

theorem C15_base_is_last (p : Str) :
    base p = Outcome.ofOption .iterItemNotFound ((components p).getLast?.map Comp.str) := by
  unfold base; cases (components p).getLast? <;> rfl

theorem C15_first_is_head (p : Str) :
    first p = Outcome.ofOption .iterItemNotFound ((components p).head?.map Comp.str) := by
  unfold first; cases (components p).head? <;> rfl

theorem C15_trim_first_is_tail (p : Str) : components (trimFirst p) = (components p).tail :=
  Lemmas.trimFirst_is_tail p

theorem C15_trim_last_is_init (p : Str) : components (trimLast p) = (components p).dropLast := by
  have hspec := Lemmas.parentStr_spec p
  unfold trimLast
  cases hp : parentStr p with
  | none =>
    rw [hp] at hspec
    rcases hspec with h | h <;> rw [h] <;> rfl
  | some d =>
    rw [hp] at hspec
    obtain ⟨c, hc, _⟩ := hspec
    rw [hc, List.dropLast_concat]
    rfl

theorem C15_last_eq_base (p : Str) : last p = base p := rfl

/-! ### has / has_prefix / has_suffix agree with string containment -/

theorem C15_has_iff (p v : Str) : has p v = true ↔ IsInfix v p := Lemmas.contains_iff p v
theorem C15_has_prefix_iff (p v : Str) : hasPrefix p v = true ↔ ∃ b, p = v ++ b :=
  Lemmas.hasPrefix_iff p v
theorem C15_has_suffix_iff (p v : Str) : hasSuffix p v = true ↔ ∃ a, p = a ++ v := by
  simp only [hasSuffix, List.isSuffixOf_iff_suffix]
  exact ⟨fun ⟨t, h⟩ => ⟨t, h.symm⟩, fun ⟨t, h⟩ => ⟨t, h.symm⟩⟩

/-! ### trim_protocol, concat, parse_paths -/

theorem C15_trim_protocol (p : Str) : trimProtocol p = trimProtocolSpec p :=
  Lemmas.trimProtocol_eq_spec p

theorem C15_concat (p s : Str) : concat p s = p ++ s := rfl

theorem C15_parse_paths (s : Str) : parsePaths s = (splitOn ':' s).filter (fun x => x ≠ []) := rfl

/-- the pieces really are the `:`-separated segments: joining them back gives the input, and no
    returned path is empty or contains `:` -/
theorem C15_parse_paths_segments (s : Str) :
    joinWith ':' (splitOn ':' s) = s ∧ ∀ x ∈ parsePaths s, x ≠ [] ∧ ':' ∉ x := by
  refine ⟨Lemmas.joinWith_splitOn ':' s, fun x hx => ?_⟩
  obtain ⟨h1, h2⟩ := List.mem_filter.1 hx
  exact ⟨of_decide_eq_true h2, Lemmas.not_mem_of_mem_splitOn ':' s x h1⟩

-- non-vacuity / sanity (tests, labelled as such)
example : mash "/foo".toList "//bar".toList = "/foo/bar".toList := by decide +kernel
example : EndsWithFileName "x/a.b".toList := ⟨"a.b".toList, by decide +kernel, by decide +kernel⟩
example : trimProtocol "HTTPS://x//y".toList = "x//y".toList := by decide +kernel

end Rivia.Props
