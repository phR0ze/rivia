/-
  C20 — "The assert_vfs_* macros are sound and complete test oracles".
  Property theorems ONLY (helper lemmas: Rivia/Lemmas/Macros.lean, MacrosAct.lean, MacrosCopy.lean,
  MacrosWit.lean).

  Model: `Macros.runMacro` (Rivia/Model/Macros.lean, transcription of src/testing/assert.rs).
  Spec : `MacroSpec.macroSpec` = (documented predicate / postcondition, expected post-state).

  Domain predicates (all decidable):
  * `ArgsStable env s m` — every path argument the macro hands BACK to the vfs resolves to a key that
    `abs` maps to itself. The macros call `abs(path)` and then `op(&target)`, which resolves again;
    `abs` is not idempotent in general (C05 finding: `$X → "$Y"`, a HOME containing `~`), so without this
    hypothesis every statement below is false (`C20_double_resolution_cex`, finding A5).
    `C20_stable_of_noSpecial`: it holds whenever the resolved path contains no `~` / `$`.
  * `StateOk s` — every entry has exactly one of `dir`/`file`, regular files have stored bytes, links
    have a target (implied by the C03 invariant + the per-entry facts of C01: `C20_stateOk_of_inv`).
  * `PostOk env s m` — `StateOk` of the specified post-state (only asked for `mkfile`, `write_all`).

  Findings of the first round and their status (model = the repaired tree):
    A1  `write_all` on an existing file passed without writing            — REPAIRED (2f59893); it now
        always writes (`C20_write_all_existing_example`). `symlink` / `mkfile` on an existing link / file
        pass without acting: DOCUMENTED ("If the .. exists no change is made"), now part of `macroSpec`.
    A2  `readlink_abs` compared with `has_suffix`                         — REPAIRED (777ae76): sound and
        complete now (`C20_checking_sound_complete`, `C20_readlink_abs_example`).
    A3  one branch of `is_symlink` printed the name `assert_vfs_is_link!`  — REPAIRED (d5c137e):
        `C20_message_names_macro_checking` holds without exception.
    A4  `no_dir` / `no_file` decide "does not exist", not "isn't a directory / file" — STANDS.
    A5  double resolution of path arguments (see `ArgsStable`)            — STANDS.
    A6  `copyfile` compared `read_all` TEXTS: a correct copy of a file that is not valid UTF-8 made the
        macro panic with "failed reading src file"                          — REPAIRED: the macro reads
        both files as BYTES (`read` + `read_to_end`) and compares the byte vectors. `C20_copyfile_full`
        is a theorem now, `C20_copyfile` has no UTF-8 condition left, and the former witness (a file
        holding 0xFF) passes (`C20_copyfile_nonutf8_example`).
-/
import Rivia.Lemmas.Macros
import Rivia.Lemmas.MacrosAct
import Rivia.Lemmas.MacrosCopy
import Rivia.Lemmas.MacrosWit

namespace Rivia.Props
open Rivia Rivia.Memfs Rivia.File Rivia.Spec Rivia.Macros Rivia.Spec.MacroSpec Rivia.MacroLemmas

/-! ## 1. checking macros -/

/-- no checking macro ever changes the filesystem (full strength, no hypotheses) -/
theorem C20_checking_state_unchanged (env : Env) (s : State) (m : MacroCall) (hm : isChecking m = true) :
    (runMacro env s m).2 = s :=
  (runMacro_body m).state hm

/-- the full statement: every checking macro passes exactly when its documented predicate holds -/
def C20_checking_sound_complete_full : Prop :=
  ∀ (env : Env) (s : State) (m : MacroCall), isChecking m = true → StateOk s → ArgsStable env s m →
    (((runMacro env s m).1 = .pass ↔ (macroSpec env s m).1 = true) ∧
      (runMacro env s m).2 = (macroSpec env s m).2)

/-- it is false: `assert_vfs_no_dir!(vfs, "/f")` panics on a regular file `/f` (A4) -/
theorem C20_checking_sound_complete_full_false : ¬ C20_checking_sound_complete_full := by
  intro h
  have env : Env := fun _ => none
  have h1 := (h env sFile (.noDir pF) rfl stateOk_sFile (stableArg_pF env sFile)).1
  rw [macroSpec_checking env sFile _ rfl, wit_noDir_run env] at h1
  exact absurd (h1.2 (wit_noDir_spec env)) (by simp [pm])

/-- **sound and complete** — `exists`, `no_exists`, `is_dir`, `is_file`, `is_symlink`, `no_symlink`,
    `read_all`, `readlink`, `readlink_abs` (all checking macros except `no_dir` / `no_file`):
    pass ⇔ documented predicate, state unchanged -/
theorem C20_checking_sound_complete (env : Env) (s : State) (m : MacroCall) (hm : faithfulCheck m = true)
    (hok : StateOk s) (hst : ArgsStable env s m) :
    ((runMacro env s m).1 = .pass ↔ (macroSpec env s m).1 = true) ∧
      (runMacro env s m).2 = (macroSpec env s m).2 := by
  have hc : isChecking m = true := by cases m <;> first | rfl | cases hm
  rw [macroSpec_checking env s m hc]
  exact ⟨checking_iff m hm hok hst, (runMacro_body m).state hc⟩

-- non-vacuity: the hypotheses hold for a non-trivial state and call, and the macro passes
example (env : Env) : faithfulCheck (.isFile pF) = true ∧ StateOk sFile ∧ ArgsStable env sFile (.isFile pF) ∧
    (macroSpec env sFile (.isFile pF)).1 = true :=
  ⟨rfl, stateOk_sFile, stableArg_pF env sFile, by
    rw [macroSpec_checking env sFile _ rfl]; exact sFile_isFile env⟩

/-! ### A4: `no_dir`, `no_file` -/

/-- documented: "Assert that the given path isn't a directory" -/
def C20_no_dir_full : Prop :=
  ∀ (env : Env) (s : State) (p : Str), StateOk s → StableArg env s p →
    ((runMacro env s (.noDir p)).1 = .pass ↔ checkSpec env s (.noDir p) = true)

/-- witness: `/f` is a regular file — it isn't a directory — and the macro panics with
    "exists and is not a directory" -/
theorem C20_no_dir_cex (env : Env) :
    runMacro env sFile (.noDir pF) = (.panic "assert_vfs_no_dir!" (some "exists and is not a directory"), sFile) ∧
    checkSpec env sFile (.noDir pF) = true :=
  ⟨wit_noDir_run env, wit_noDir_spec env⟩

theorem C20_no_dir_full_false : ¬ C20_no_dir_full := by
  intro h
  have env : Env := fun _ => none
  have h1 := h env sFile pF stateOk_sFile (stableArg_pF env sFile)
  rw [wit_noDir_run env] at h1
  exact absurd (h1.2 (wit_noDir_spec env)) (by simp [pm])

/-- what `no_dir` really decides: the path resolves and does not exist at all -/
theorem C20_no_dir_actual (env : Env) (s : State) (p : Str) (hst : StableArg env s p) :
    (runMacro env s (.noDir p)).1 = .pass ↔ checkSpec env s (.noExists p) = true :=
  run_noDir_iff hst

/-- partial: right on paths that do not exist or are directories -/
theorem C20_no_dir_partial (env : Env) (s : State) (p : Str) (hst : StableArg env s p)
    (hdom : pExists env s p = false ∨ pIsDir env s p = true) :
    (runMacro env s (.noDir p)).1 = .pass ↔ checkSpec env s (.noDir p) = true :=
  noDir_partial hst hdom

/-- documented: "Assert that the given path isn't a file" -/
def C20_no_file_full : Prop :=
  ∀ (env : Env) (s : State) (p : Str), StateOk s → StableArg env s p →
    ((runMacro env s (.noFile p)).1 = .pass ↔ checkSpec env s (.noFile p) = true)

/-- witness: `/` isn't a file and the macro panics with "exists and is not a file" -/
theorem C20_no_file_cex (env : Env) :
    runMacro env Memfs.init (.noFile pRoot) =
      (.panic "assert_vfs_no_file!" (some "exists and is not a file"), Memfs.init) ∧
    checkSpec env Memfs.init (.noFile pRoot) = true :=
  ⟨wit_noFile_run env, wit_noFile_spec env⟩

theorem C20_no_file_full_false : ¬ C20_no_file_full := by
  intro h
  have env : Env := fun _ => none
  have h1 := h env Memfs.init pRoot stateOk_init (stableArg_of (key_root env _) (stable_root env _))
  rw [wit_noFile_run env] at h1
  exact absurd (h1.2 (wit_noFile_spec env)) (by simp [pm])

theorem C20_no_file_actual (env : Env) (s : State) (p : Str) (hst : StableArg env s p) :
    (runMacro env s (.noFile p)).1 = .pass ↔ checkSpec env s (.noExists p) = true :=
  run_noFile_iff hst

theorem C20_no_file_partial (env : Env) (s : State) (p : Str) (hst : StableArg env s p)
    (hdom : pExists env s p = false ∨ pIsFile env s p = true) :
    (runMacro env s (.noFile p)).1 = .pass ↔ checkSpec env s (.noFile p) = true :=
  noFile_partial hst hdom

-- non-vacuity of the partial domains
example (env : Env) : StableArg env Memfs.init pF ∧ pExists env Memfs.init pF = false :=
  ⟨stableArg_pF env _, init_absent_pF env⟩

/-! ### A2 (repaired): `readlink_abs` is covered by `C20_checking_sound_complete` -/

/-- `/l → /c`: asserting the target `/c` passes, asserting `/a/b/c` (which merely ends in it) fails -/
theorem C20_readlink_abs_example (env : Env) :
    (runMacro env sLink (.readlinkAbs pL pC)).1 = .pass ∧
    (runMacro env sLink (.readlinkAbs pL pABC)).1 ≠ .pass := by
  have h : ∀ t, (runMacro env sLink (.readlinkAbs pL t)).1 = .pass ↔
      checkSpec env sLink (.readlinkAbs pL t) = true := fun t => by
    have := (C20_checking_sound_complete env sLink (.readlinkAbs pL t) rfl stateOk_sLink
      (stableArg_pL env sLink)).1
    rwa [macroSpec_checking env sLink (.readlinkAbs pL t) rfl] at this
  refine ⟨(h pC).2 (wit_readlinkAbs_spec_ok env), fun hp => ?_⟩
  have := (h pABC).1 hp
  rw [wit_readlinkAbs_spec env] at this
  cases this

/-! ### A5: the path argument is resolved twice -/

/-- with `HOME=/h~x` and a file `/h~x`: `vfs.exists("~")` holds, yet `assert_vfs_exists!(vfs, "~")`
    panics with "doesn't exist" — the macro asks for `abs(abs("~"))`, which does not resolve -/
theorem C20_double_resolution_cex :
    runMacro Lemmas.envTildeHome sTilde (.exists ['~']) =
      (.panic "assert_vfs_exists!" (some "doesn't exist"), sTilde) ∧
    checkSpec Lemmas.envTildeHome sTilde (.exists ['~']) = true ∧
    StateOk sTilde ∧ ¬ ArgsStable Lemmas.envTildeHome sTilde (.exists ['~']) :=
  ⟨wit_double_run, wit_double_spec, stateOk_sTilde, wit_double_unstable⟩

/-- the stability hypothesis holds for every path whose resolution contains no `~` / `$`
    (current directory made of well-formed names) -/
theorem C20_stable_of_noSpecial (env : Env) (s : State) (p : Str) (a : FsPath)
    (hc : ∀ n ∈ s.cwd, Lemmas.Wf n) (hk : keyOf env s p = some a) (hs : Lemmas.NoSpecial (renderP a)) :
    StableArg env s p :=
  stableArg_of hk (stable_of_noSpecial hc hk hs)

theorem C20_stateOk_of_inv (s : State) (hI : Spec.Inv s) (hE : Lemmas.RefineA.EntriesOk s) : StateOk s :=
  stateOk_of_inv hI hE

/-! ## 2. the name in the panic message (A3, repaired) -/

/-- checking macros: every panic names the macro itself -/
theorem C20_message_names_macro_checking (env : Env) (s : State) (m : MacroCall) (n : String)
    (msg : Option String) (hm : isChecking m = true) (h : (runMacro env s m).1 = .panic n msg) :
    n = nameOf m := by
  rcases (runMacro_body m).name n msg h with h1 | h1
  · exact h1
  · rw [hm] at h1; cases h1.1

/-- all macros: additionally an acting macro can end in a panic / hang of the vfs call itself, which
    carries no macro message (`msg = none`) -/
theorem C20_message_names_macro (env : Env) (s : State) (m : MacroCall) (n : String)
    (msg : Option String) (h : (runMacro env s m).1 = .panic n msg) :
    n = nameOf m ∨ (isChecking m = false ∧ (n = vfsPanic ∨ n = vfsHang) ∧ msg = none) :=
  (runMacro_body m).name n msg h

/-- the formerly mislabelled branch: `assert_vfs_is_symlink!(vfs, "/")` names itself -/
theorem C20_is_symlink_name_example (env : Env) :
    runMacro env Memfs.init (.isSymlink pRoot) =
      (.panic "assert_vfs_is_symlink!" (some "exists but is not a symlink"), Memfs.init) :=
  wit_isSymlink_run env

/-! ## 3. acting macros -/

/-- **`mkdir_p`, `mkdir_m`, `mkfile`, `write_all`, `symlink`, `remove`, `remove_all`**, every pre-state:
    the macro passes exactly when `macroSpec` says so (the operation succeeded and its postcondition
    holds afterwards — or nothing had to be done: existing link / file, absent path to remove), and
    whenever it passes the filesystem is in the specified post-state -/
theorem C20_acting (env : Env) (s : State) (m : MacroCall) (hm : actingSimple m = true) (hok : StateOk s)
    (hst : ArgsStable env s m) (hpost : PostOk env s m) :
    ((runMacro env s m).1 = .pass ↔ (macroSpec env s m).1 = true) ∧
      ((runMacro env s m).1 = .pass → (runMacro env s m).2 = (macroSpec env s m).2) :=
  acting_agree m hm hok hst hpost

/-- for all of them except `write_all` the state is the specified one even when the macro panics
    (`write_all` onto an existing directory / link panics BEFORE writing, as it should) -/
theorem C20_acting_state (env : Env) (s : State) (m : MacroCall) (hm : stateAlways m = true)
    (hok : StateOk s) (hst : ArgsStable env s m) (hpost : PostOk env s m) :
    (runMacro env s m).2 = (macroSpec env s m).2 :=
  (acting_state m hm hok hst hpost).1

-- non-vacuity: `write_all("/f", "new")` on the empty filesystem satisfies the hypotheses
example (env : Env) : actingSimple (.writeAll pF bytesNew) = true ∧ StateOk Memfs.init ∧
    ArgsStable env Memfs.init (.writeAll pF bytesNew) ∧ PostOk env Memfs.init (.writeAll pF bytesNew) :=
  ⟨rfl, stateOk_init, stableArg_pF env _, postOk_writeAll_init env⟩

/-- (A1, repaired) `/f` holds "old": `assert_vfs_write_all!(vfs, "/f", "new")` passes and `/f` then
    holds "new", as specified -/
theorem C20_write_all_existing_example (env : Env) :
    runMacro env sFile (.writeAll pF bytesNew) = (.pass, sWritten) ∧
    macroSpec env sFile (.writeAll pF bytesNew) = (true, sWritten) ∧
    pHasBytes env sFile pF bytesOld = true ∧ pHasBytes env sWritten pF bytesNew = true :=
  ⟨wit_writeAll_run env, macroSpec_writeAll_sFile env, wit_writeAll_content_old env, sWritten_content env⟩

/-- documented no-op: `/l → /c`, `assert_vfs_symlink!(vfs, "/l", "/f")` passes, nothing changes, and
    that is what `macroSpec` asks for -/
theorem C20_symlink_existing_example (env : Env) :
    runMacro env sLink (.symlink pL pF) = (.pass, sLink) ∧
    macroSpec env sLink (.symlink pL pF) = (true, sLink) ∧ pLinksTo env sLink pL kC = true :=
  ⟨wit_symlink_run env, macroSpec_symlink_sLink env, (wit_symlink_target env).1⟩

/-- documented no-op: `assert_vfs_mkfile!` on an existing file -/
theorem C20_mkfile_existing_example (env : Env) :
    runMacro env sFile (.mkfile pF) = (.pass, sFile) ∧ macroSpec env sFile (.mkfile pF) = (true, sFile) :=
  ⟨wit_mkfile_run env, macroSpec_mkfile_sFile env⟩

/-- `copyfile`, for a source that is an existing regular file: `copy` is performed; the macro passes
    iff the copy succeeded and afterwards both paths read back (`read` + `read_to_end`) as the same
    BYTES and the destination is a regular file -/
theorem C20_copyfile_behaviour (env : Env) (s : State) (src dst : Str) (a b : FsPath)
    (hk1 : keyOf env s src = some a) (hs1 : Stable env s a) (hk2 : keyOf env s dst = some b)
    (hs2 : Stable env s b) (hsrc : eAt s a (fun e => e.file && !e.link) = true) :
    (runMacro env s (.copyfile src dst)).2 = (step env s (.copy src dst)).2 ∧
    ((runMacro env s (.copyfile src dst)).1 = .pass ↔
      ((step env s (.copy src dst)).1.isOk = true ∧
       (∃ x, bytesOf env (step env s (.copy src dst)).2 src = some x ∧
             bytesOf env (step env s (.copy src dst)).2 dst = some x) ∧
       eAt (step env s (.copy src dst)).2 b (fun e => e.file && !e.link) = true)) :=
  run_copyfile hk1 hs1 hk2 hs2 hsrc

/-- `copy` never changes the current directory (any outcome) -/
theorem C20_copy_keeps_cwd (env : Env) (s : State) (a b : Str) : (step env s (.copy a b)).2.cwd = s.cwd :=
  step_copy_cwd env s a b

/-- `copy` never changes the kind of an existing entry (any outcome) -/
theorem C20_copy_keeps_kinds (env : Env) (s : State) (a b : Str) : KeepsKinds s (step env s (.copy a b)).2 :=
  step_copy_keepsKinds env s a b

/-- **`copyfile`, full strength** (was `C20_copyfile_partial` with a "source is valid UTF-8" domain
    before the repair of A6) — for ANY content of the source, on a well-formed post-state: the macro
    passes exactly when the copy succeeded and dst is a regular file with the bytes of src; when it
    passes the filesystem is the state after `copy`. A source that is not an existing regular file
    makes the macro panic before acting — and the specification is false too. -/
theorem C20_copyfile (env : Env) (s : State) (src dst : Str)
    (hst : ArgsStable env s (.copyfile src dst))
    (hpost : StateOk (step env s (.copy src dst)).2) :
    ((runMacro env s (.copyfile src dst)).1 = .pass ↔ (macroSpec env s (.copyfile src dst)).1 = true) ∧
      ((runMacro env s (.copyfile src dst)).1 = .pass →
        (runMacro env s (.copyfile src dst)).2 = (macroSpec env s (.copyfile src dst)).2) :=
  copyfile_agree hst hpost

/-- the full statement for `copyfile`: pass ⇔ "the copy succeeded and dst is a regular file with the
    bytes of src" — refuted before the repair of A6 by the non-UTF-8 witness, a theorem now -/
def C20_copyfile_full : Prop :=
  ∀ (env : Env) (s : State) (src dst : Str), StateOk s → ArgsStable env s (.copyfile src dst) →
    StateOk (macroSpec env s (.copyfile src dst)).2 →
    ((runMacro env s (.copyfile src dst)).1 = .pass ↔ (macroSpec env s (.copyfile src dst)).1 = true)

theorem C20_copyfile_full_holds : C20_copyfile_full := by
  intro env s src dst _ hst hpost
  rw [macroSpec_copyfile_state] at hpost
  exact (C20_copyfile env s src dst hst hpost).1

/-- (A6, repaired) `/f` holds the byte 0xFF — not valid UTF-8: `assert_vfs_copyfile!(vfs, "/f", "/g")`
    copies it (`/g` is a regular file with the same byte) and PASSES, as specified; `read_all` of the
    same file still fails with `InvalidData`, which is what made the macro panic before the repair -/
theorem C20_copyfile_nonutf8_example (env : Env) :
    runMacro env sBin (.copyfile pF pG) = (.pass, sTwo bytesBin) ∧
    macroSpec env sBin (.copyfile pF pG) = (true, sTwo bytesBin) ∧
    pHasBytes env (sTwo bytesBin) pG bytesBin = true ∧
    step env (sTwo bytesBin) (.readAll pF) = (.err .ioInvalidData, sTwo bytesBin) :=
  ⟨wit_copyfile_bin_run env, macroSpec_copyfile_sBin env, sTwo_bin_content env, readAll_bin_err env⟩

-- non-vacuity: copying `/f` ("old") to `/g` and copying `/f` (0xFF) to `/g` are both in the domain,
-- and the assertion holds
example (env : Env) : ArgsStable env sFile (.copyfile pF pG) ∧
    StateOk (step env sFile (.copy pF pG)).2 ∧
    macroSpec env sFile (.copyfile pF pG) = (true, sTwo bytesOld) :=
  ⟨⟨stableArg_pF env sFile, stableArg_pG env sFile⟩, by rw [step_copy_sFile]; exact stateOk_sTwo_old,
    macroSpec_copyfile_sFile env⟩

example (env : Env) : StateOk sBin ∧ ArgsStable env sBin (.copyfile pF pG) ∧
    StateOk (macroSpec env sBin (.copyfile pF pG)).2 :=
  ⟨stateOk_sBin, ⟨stableArg_pF env sBin, stableArg_pG env sBin⟩,
    by rw [macroSpec_copyfile_sBin]; exact stateOk_sTwo_bin⟩

/-- **all eight acting macros**: under `StateOk`, `ArgsStable` and the side conditions `ActOk` on the
    specified post-state (well-formedness for `mkfile` / `write_all` / `copyfile`; nothing for the
    others) the macro passes exactly when `macroSpec` says so, and when
    it passes the filesystem is in the specified state -/
theorem C20_acting_all (env : Env) (s : State) (m : MacroCall) (hm : isChecking m = false) (hok : StateOk s)
    (hst : ArgsStable env s m) (hact : ActOk env s m) :
    ((runMacro env s m).1 = .pass ↔ (macroSpec env s m).1 = true) ∧
      ((runMacro env s m).1 = .pass → (runMacro env s m).2 = (macroSpec env s m).2) :=
  acting_all m hm hok hst hact

end Rivia.Props
