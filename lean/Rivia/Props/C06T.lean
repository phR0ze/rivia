/-
  C06T — C06 for whole trees: file contents are isolated values under `copy` / `move_p` of a
  directory tree, and resolved keys are well formed (the two OPEN items of Props/C06.lean).
  Property theorems ONLY; proofs in Rivia/Lemmas/ContentTree.lean (copy, write/append frame) and
  Rivia/Lemmas/ContentMove.lean (move_p).

  Why a second file: Props/C06.lean lives on Lemmas/Content.lean, which cannot be imported together
  with the copy/move/traversal development (Lemmas/CopyMove.lean … SnapshotCopy.lean: both sides
  declare `Rivia.Lemmas.bind_ok`, `copyM_file`, …).  This file lives on the
  copy/move side; `content` is re-declared (`Lemmas.CT.content s k = alLookup k s.files`, the same
  definition as `Lemmas.content` of C06) and the independence of `write_all` / `append_all`
  (C06_independence) is re-proved here for the two operations needed (`C06_write_append_frame`).

  Standing hypotheses on the pre-state (all decidable):
    `C03_Strong s`  the global invariant of C03 (every reachable state has it),
    `KeysWf s`      every name in every key and in cwd is non-empty, slash-free, not `.` / `..`
                    (`C03_Strong` only excludes `.`; see the OPEN block),
    `DepthOk s`     no key is 2^64 names deep (copy only: the traversal's default `max_depth`).
  Nothing is assumed about the traversal: the snapshot theorems of C08S are used.
-/
import Rivia.Props.C08S
import Rivia.Lemmas.ContentTree
import Rivia.Lemmas.ContentMove

namespace Rivia.Props
open Rivia Rivia.Memfs Rivia.Spec Rivia.Lemmas Rivia.Lemmas.CT
open Rivia.Lemmas.Snap (DepthOk)

/-- (restates the definition) the byte-vector view of the data map, as in C06 -/
theorem C06T_content_def (s : State) (k : FsPath) : content s k = alLookup k s.files := rfl

/-! ### (a) resolved keys are well formed -/

/-- every key `abs` returns is well formed (each name non-empty, slash-free, not `.` / `..`),
    provided the names of the working directory are -/
theorem C06_abs_key_wf {env : Env} {p : Str} {s : State} {k : FsPath}
    (hcwd : ∀ n ∈ s.cwd, Wf n) (h : absM env p s = (.ok k, s)) : ∀ n ∈ k, Wf n :=
  absM_wf hcwd h

theorem C06_abs_key_wf_of_keysWf {env : Env} {p : Str} {s : State} {k : FsPath}
    (hk : KeysWf s) (h : absM env p s = (.ok k, s)) : ∀ n ∈ k, Wf n :=
  absM_wf hk.2 h

/-- hence the side condition `dstOf dk sk sk = dk` of `C06_copy_does_not_alias` /
    `C06_move_does_not_alias` (Props/C06.lean) holds for every pair of resolved keys -/
theorem C06_dstOf_self_of_abs {env : Env} {a b : Str} {s : State} {sk dk : FsPath}
    (hcwd : ∀ n ∈ s.cwd, Wf n) (_ha : absM env a s = (.ok sk, s)) (hb : absM env b s = (.ok dk, s)) :
    dstOf dk sk sk = dk :=
  dstOf_self (absM_wf hcwd hb)

/-- the destination `_copy` / `move_p` compute on strings (`dst_root.mash(path.trim_prefix(prefix))`)
    for the entry `sk ++ r` is `copyDst s sk dk ++ r`, where `copyDst s sk dk` is `dk/<name of sk>`
    when `dk` is an existing real directory (copy INTO it) and `dk` otherwise -/
theorem C06_copy_tree_dst {s : State} {sk dk r pre : FsPath} (hdk : WfKey dk) (hsk : WfKey sk)
    (hr : WfKey r)
    (hpre : if isDirP s dk = true then sk ≠ [] ∧ pre = sk.dropLast else pre = sk) :
    dstOf dk (sk ++ r) pre = copyDst s sk dk ++ r :=
  dstOf_eq_copyDst hdk hsk hr hpre

theorem C06_copyDst_def (s : State) (sk dk : FsPath) :
    copyDst s sk dk = if isDirP s dk = true then dk ++ [baseName sk] else dk := rfl

/-! ### (b) tree copy -/

theorem C06T_kindWf_of_strong {s : State} (h : C03_Strong s) : KindWf s := by
  intro kv hkv
  have := h.2.2.2 kv hkv
  cases hd : kv.2.dir <;> cases hf : kv.2.file <;> simp_all

theorem C06T_not_dir {s : State} (h : C03_Strong s) {k : FsPath} {e : Entry}
    (he : alLookup k s.entries = some e) (hf : e.file = true) : e.dir = false := by
  have := (C06T_kindWf_of_strong h).at he
  rw [hf, Bool.and_true] at this
  exact this

theorem C06T_cctx {env : Env} {b : Str} {c : CopyOpts} {s : State} {sk dk : FsPath}
    (h : C03_Strong s) (hk : KeysWf s) (hfollow : c.follow = false)
    (hb : absM env b s = (.ok dk, s))
    (h1 : ¬ sk <+: copyDst s sk dk) (h2 : ¬ copyDst s sk dk <+: sk) : CCtx s sk dk c :=
  ⟨invF_of_inv h.1, hk, absM_wf hk.2 hb, hfollow, h1, h2⟩

/-- **content after a successful no-follow `copy` / `copy_b`** of a file or a whole directory tree
    (links inside the tree allowed; the destination may be free, an existing file, or an existing
    directory — then the copy goes INTO it; any mode options).  `D = copyDst s sk dk` is the
    destination root; it must be neither at/below the source nor above it (`h1`, `h2`, decidable).
    * every regular file `sk ++ r` of the source subtree has its bytes at `D ++ r`;
    * every source key keeps its bytes;
    * frame: every key that is not the image `D ++ r` of a regular source file keeps its bytes —
      in particular everything outside the destination subtree. -/
theorem C06_copy_tree_content {env : Env} {a b : Str} {c : CopyOpts} {s s' : State} {sk dk : FsPath}
    {v : Val} (h : C03_Strong s) (hk : KeysWf s) (hd : DepthOk s) (hfollow : c.follow = false)
    (ha : absM env a s = (.ok sk, s)) (hb : absM env b s = (.ok dk, s))
    (h1 : ¬ sk <+: copyDst s sk dk) (h2 : ¬ copyDst s sk dk <+: sk)
    (hc : step env s (.copyB a b c) = (.ok v, s')) :
    (∀ r e, alLookup (sk ++ r) s.entries = some e → e.file = true → e.link = false →
      content s' (copyDst s sk dk ++ r) = content s (sk ++ r)) ∧
    (∀ r, content s' (sk ++ r) = content s (sk ++ r)) ∧
    (∀ q, (∀ r e, alLookup (sk ++ r) s.entries = some e → e.dir = false → e.link = false →
        q ≠ copyDst s sk dk ++ r) → content s' q = content s q) ∧
    (∀ q, (∀ r, q ≠ copyDst s sk dk ++ r) → content s' q = content s q) := by
  have ctx := C06T_cctx (c := c) h hk hfollow hb h1 h2
  obtain ⟨_, hrun, _⟩ := mapVal_ok (m := copyM env a b c) hc
  obtain ⟨hdone, hother⟩ := copyM_content h.1 h.2.2.1 hd ctx ha hb hrun
  refine ⟨?_, ?_, hother, ?_⟩
  · intro r e he hf hl
    exact hdone r e he (C06T_not_dir h he hf) hl
  · intro r
    exact hother _ (fun r' _ _ _ _ => ctx.ne r r')
  · intro q hq
    exact hother q (fun r _ _ _ _ => hq r)

/-- the same for the operation `copy(src, dst)` (default options) -/
theorem C06_copy_tree_content_copy {env : Env} {a b : Str} {s s' : State} {sk dk : FsPath}
    {v : Val} (h : C03_Strong s) (hk : KeysWf s) (hd : DepthOk s)
    (ha : absM env a s = (.ok sk, s)) (hb : absM env b s = (.ok dk, s))
    (h1 : ¬ sk <+: copyDst s sk dk) (h2 : ¬ copyDst s sk dk <+: sk)
    (hc : step env s (.copy a b) = (.ok v, s')) :
    (∀ r e, alLookup (sk ++ r) s.entries = some e → e.file = true → e.link = false →
      content s' (copyDst s sk dk ++ r) = content s (sk ++ r)) ∧
    (∀ r, content s' (sk ++ r) = content s (sk ++ r)) ∧
    (∀ q, (∀ r e, alLookup (sk ++ r) s.entries = some e → e.dir = false → e.link = false →
        q ≠ copyDst s sk dk ++ r) → content s' q = content s q) ∧
    (∀ q, (∀ r, q ≠ copyDst s sk dk ++ r) → content s' q = content s q) :=
  C06_copy_tree_content (c := {}) h hk hd rfl ha hb h1 h2 hc

/-- copy INTO an existing real directory `dk`: the file `sk ++ r` is found at `dk/<name of sk>/r` -/
theorem C06_copy_tree_into_dir {env : Env} {a b : Str} {c : CopyOpts} {s s' : State} {sk dk : FsPath}
    {v : Val} (h : C03_Strong s) (hk : KeysWf s) (hd : DepthOk s) (hfollow : c.follow = false)
    (ha : absM env a s = (.ok sk, s)) (hb : absM env b s = (.ok dk, s))
    (hinto : isDirP s dk = true)
    (h1 : ¬ sk <+: dk ++ [baseName sk]) (h2 : ¬ dk ++ [baseName sk] <+: sk)
    (hc : step env s (.copyB a b c) = (.ok v, s')) :
    ∀ r e, alLookup (sk ++ r) s.entries = some e → e.file = true → e.link = false →
      content s' (dk ++ [baseName sk] ++ r) = content s (sk ++ r) := by
  have hD : copyDst s sk dk = dk ++ [baseName sk] := by unfold copyDst; rw [if_pos hinto]
  have := (C06_copy_tree_content h hk hd hfollow ha hb (hD ▸ h1) (hD ▸ h2) hc).1
  rw [hD] at this
  exact this

/-- a regular file of a state satisfying the invariant HAS content (so the equations above are
    between `some` values) -/
theorem C06_regular_file_has_content {s : State} (h : C03_Strong s) {k : FsPath} {e : Entry}
    (he : alLookup k s.entries = some e) (hf : e.file = true) (hl : e.link = false) :
    ∃ b, content s k = some b := by
  have := (invF_of_inv h.1).data k e he
  rw [hf, hl] at this
  cases hb : alLookup k s.files with
  | none => rw [hb] at this; simp at this
  | some b => exact ⟨b, hb⟩

/-- the single-file case without the `dstOf dk sk sk = dk` hypothesis of `C06_copy_does_not_alias`:
    the destination holds the source bytes, the source and every third key keep theirs -/
theorem C06_copy_does_not_alias_wf {env : Env} {a b : Str} {c : CopyOpts} {s s' : State}
    {sk dk : FsPath} {e : Entry} {v : Val}
    (h : C03_Strong s) (hk : KeysWf s) (hd : DepthOk s) (hfollow : c.follow = false)
    (ha : absM env a s = (.ok sk, s)) (hb : absM env b s = (.ok dk, s))
    (he : alLookup sk s.entries = some e) (hf : e.file = true) (hl : e.link = false)
    (h1 : ¬ sk <+: copyDst s sk dk) (h2 : ¬ copyDst s sk dk <+: sk)
    (hc : step env s (.copyB a b c) = (.ok v, s')) :
    (∃ bytes, content s sk = some bytes ∧ content s' (copyDst s sk dk) = some bytes) ∧
    content s' sk = content s sk ∧
    (∀ q, q ≠ copyDst s sk dk → content s' q = content s q) := by
  obtain ⟨c1, c2, c3, _⟩ := C06_copy_tree_content h hk hd hfollow ha hb h1 h2 hc
  have hi := invF_of_inv h.1
  have hdir : e.dir = false := C06T_not_dir h he hf
  obtain ⟨bytes, hbytes⟩ := C06_regular_file_has_content h he hf hl
  refine ⟨⟨bytes, hbytes, ?_⟩, ?_, ?_⟩
  · have := c1 [] e (by rw [List.append_nil]; exact he) hf hl
    rw [List.append_nil, List.append_nil] at this
    rw [this]; exact hbytes
  · have := c2 []; rw [List.append_nil] at this; exact this
  · intro q hq
    apply c3 q
    intro r e' he' _ _
    by_cases hr : r = []
    · subst hr; rw [List.append_nil]; exact hq
    · rw [nothing_below hi (Or.inr ⟨e, he, hdir⟩) hr] at he'; cases he'

/-! ### (c) independence after a tree copy: a two-step history -/

/-- `write_all` / `append_all` change the bytes of the ONE key their path resolves to (whatever the
    outcome; no hypothesis on the state).  This is `C06_independence` for these two operations,
    re-proved on this side of the import split. -/
theorem C06_write_append_frame (env : Env) (s : State) (p : Str) (d : File.Bytes) (q : FsPath)
    (hq : ∀ k, absM env p s = (.ok k, s) → q ≠ k) :
    content (step env s (.writeAll p d)).2 q = content s q ∧
    content (step env s (.appendAll p d)).2 q = content s q :=
  step_write_files env s p d q hq

/-- **copies are independent**: after a successful tree copy `s → s'`, a `write_all` / `append_all`
    (any environment, any outcome) whose path resolves to a key under the DESTINATION leaves every
    source key with the bytes it had before the copy; one whose path resolves to a key under the
    SOURCE leaves every copied file with the bytes its original had when it was copied -/
theorem C06_copy_tree_does_not_alias {env env2 : Env} {a b : Str} {c : CopyOpts} {s s' : State}
    {sk dk : FsPath} {v : Val} (h : C03_Strong s) (hk : KeysWf s) (hd : DepthOk s)
    (hfollow : c.follow = false)
    (ha : absM env a s = (.ok sk, s)) (hb : absM env b s = (.ok dk, s))
    (h1 : ¬ sk <+: copyDst s sk dk) (h2 : ¬ copyDst s sk dk <+: sk)
    (hc : step env s (.copyB a b c) = (.ok v, s'))
    (p2 : Str) (d2 : File.Bytes) (k2 : FsPath) (hk2 : absM env2 p2 s' = (.ok k2, s')) :
    ((∃ t, k2 = copyDst s sk dk ++ t) → ∀ r,
      content (step env2 s' (.writeAll p2 d2)).2 (sk ++ r) = content s (sk ++ r) ∧
      content (step env2 s' (.appendAll p2 d2)).2 (sk ++ r) = content s (sk ++ r)) ∧
    ((∃ t, k2 = sk ++ t) → ∀ r e, alLookup (sk ++ r) s.entries = some e → e.file = true →
      e.link = false →
      content (step env2 s' (.writeAll p2 d2)).2 (copyDst s sk dk ++ r) = content s (sk ++ r) ∧
      content (step env2 s' (.appendAll p2 d2)).2 (copyDst s sk dk ++ r) = content s (sk ++ r)) := by
  have ctx := C06T_cctx (c := c) h hk hfollow hb h1 h2
  obtain ⟨c1, c2, _, _⟩ := C06_copy_tree_content h hk hd hfollow ha hb h1 h2 hc
  constructor
  · rintro ⟨t, rfl⟩ r
    have hq : ∀ k, absM env2 p2 s' = (.ok k, s') → sk ++ r ≠ k := by
      intro k hk'
      rw [hk2] at hk'
      cases hk'
      exact ctx.ne r t
    obtain ⟨w, ap⟩ := C06_write_append_frame env2 s' p2 d2 (sk ++ r) hq
    exact ⟨w.trans (c2 r), ap.trans (c2 r)⟩
  · rintro ⟨t, rfl⟩ r e he hf hl
    have hq : ∀ k, absM env2 p2 s' = (.ok k, s') → copyDst s sk dk ++ r ≠ k := by
      intro k hk'
      rw [hk2] at hk'
      cases hk'
      exact (ctx.ne t r).symm
    obtain ⟨w, ap⟩ := C06_write_append_frame env2 s' p2 d2 (copyDst s sk dk ++ r) hq
    exact ⟨w.trans (c1 r e he hf hl), ap.trans (c1 r e he hf hl)⟩

/-! ### (d) tree move -/

/-- **content after a successful `move_p`** of a file or a whole directory tree.  `D = moveDst s sk dk`
    is the final destination (`dk/<name of sk>` when `dk` is an existing real directory, else `dk`).
    Either `D = sk` and nothing changed, or: the bytes of every `sk ++ r` are now at `D ++ r`
    (`none` stays `none`), no key at or below `sk` has bytes any more, every other key keeps its
    bytes. -/
theorem C06_move_tree_content {env : Env} {a b : Str} {s s' : State} {sk dk : FsPath} {v : Val}
    (h : C03_Strong s) (hk : KeysWf s)
    (ha : absM env a s = (.ok sk, s)) (hb : absM env b s = (.ok dk, s))
    (hm : step env s (.moveP a b) = (.ok v, s')) :
    (sk ≠ [] → moveDst s sk dk = if isDirP s dk = true then dk ++ [baseName sk] else dk) ∧
    ((moveDst s sk dk = sk ∧ s' = s) ∨
     ((∀ r, content s' (moveDst s sk dk ++ r) = content s (sk ++ r)) ∧
      (∀ r, content s' (sk ++ r) = none) ∧
      (∀ k, (∀ r, k ≠ sk ++ r) → (∀ r, k ≠ moveDst s sk dk ++ r) → content s' k = content s k))) := by
  obtain ⟨_, hrun, _⟩ := mapVal_ok (m := moveM env a b) hm
  refine ⟨fun hne => C09_moveDst_eq (absM_wf hk.2 ha) hne (absM_wf hk.2 hb), ?_⟩
  obtain ⟨sk', dk', srcE, ha', hb', _, hcase⟩ := moveM_content h.1 hk (C06T_kindWf_of_strong h) hrun
  rw [ha] at ha'
  rw [hb] at hb'
  cases ha'
  cases hb'
  rcases hcase with hsame | ⟨_, m1, m2, m3⟩
  · exact Or.inl hsame
  · exact Or.inr ⟨m2, m1, m3⟩

/-- the single-entry case without the `dstOf dk sk sk = dk` hypothesis of `C06_move_does_not_alias`
    (and for any source, not only an entry without children) -/
theorem C06_move_does_not_alias_wf {env : Env} {a b : Str} {s s' : State} {sk dk : FsPath} {v : Val}
    {bytes : File.Bytes}
    (h : C03_Strong s) (hk : KeysWf s)
    (ha : absM env a s = (.ok sk, s)) (hb : absM env b s = (.ok dk, s))
    (hne : moveDst s sk dk ≠ sk) (hbytes : content s sk = some bytes)
    (hm : step env s (.moveP a b) = (.ok v, s')) :
    content s' (moveDst s sk dk) = some bytes ∧ content s' sk = none ∧
    (∀ k, (∀ r, k ≠ sk ++ r) → (∀ r, k ≠ moveDst s sk dk ++ r) → content s' k = content s k) := by
  rcases (C06_move_tree_content h hk ha hb hm).2 with ⟨hsame, _⟩ | ⟨m1, m2, m3⟩
  · exact absurd hsame hne
  · refine ⟨?_, ?_, m3⟩
    · have := m1 []; rw [List.append_nil, List.append_nil] at this; rw [this]; exact hbytes
    · have := m2 []; rw [List.append_nil] at this; exact this

/-! ### reachable states -/

/-- (b) on every state reachable from the fresh filesystem (`KeysWf` / `DepthOk` remain decidable
    side conditions on that state, see the OPEN block) -/
theorem C06_copy_tree_content_reachable (env₀ : Env) (ops : List Op)
    (hh : ∀ pre op post, ops = pre ++ op :: post → (step env₀ (run env₀ Memfs.init pre) op).1 ≠ .hang)
    {env : Env} {a b : Str} {c : CopyOpts} {s' : State} {sk dk : FsPath} {v : Val}
    (hk : KeysWf (run env₀ Memfs.init ops)) (hd : DepthOk (run env₀ Memfs.init ops))
    (hfollow : c.follow = false)
    (ha : absM env a (run env₀ Memfs.init ops) = (.ok sk, run env₀ Memfs.init ops))
    (hb : absM env b (run env₀ Memfs.init ops) = (.ok dk, run env₀ Memfs.init ops))
    (h1 : ¬ sk <+: copyDst (run env₀ Memfs.init ops) sk dk)
    (h2 : ¬ copyDst (run env₀ Memfs.init ops) sk dk <+: sk)
    (hc : step env (run env₀ Memfs.init ops) (.copyB a b c) = (.ok v, s')) :
    (∀ r e, alLookup (sk ++ r) (run env₀ Memfs.init ops).entries = some e → e.file = true →
      e.link = false →
      content s' (copyDst (run env₀ Memfs.init ops) sk dk ++ r) =
        content (run env₀ Memfs.init ops) (sk ++ r)) ∧
    (∀ r, content s' (sk ++ r) = content (run env₀ Memfs.init ops) (sk ++ r)) ∧
    (∀ q, (∀ r, q ≠ copyDst (run env₀ Memfs.init ops) sk dk ++ r) →
      content s' q = content (run env₀ Memfs.init ops) q) := by
  obtain ⟨c1, c2, _, c4⟩ :=
    C06_copy_tree_content (C03_strong_reachable env₀ ops hh) hk hd hfollow ha hb h1 h2 hc
  exact ⟨c1, c2, c4⟩

/-- (d) on every reachable state -/
theorem C06_move_tree_content_reachable (env₀ : Env) (ops : List Op)
    (hh : ∀ pre op post, ops = pre ++ op :: post → (step env₀ (run env₀ Memfs.init pre) op).1 ≠ .hang)
    {env : Env} {a b : Str} {s' : State} {sk dk : FsPath} {v : Val}
    (hk : KeysWf (run env₀ Memfs.init ops))
    (ha : absM env a (run env₀ Memfs.init ops) = (.ok sk, run env₀ Memfs.init ops))
    (hb : absM env b (run env₀ Memfs.init ops) = (.ok dk, run env₀ Memfs.init ops))
    (hm : step env (run env₀ Memfs.init ops) (.moveP a b) = (.ok v, s')) :
    (moveDst (run env₀ Memfs.init ops) sk dk = sk ∧ s' = run env₀ Memfs.init ops) ∨
     ((∀ r, content s' (moveDst (run env₀ Memfs.init ops) sk dk ++ r) =
        content (run env₀ Memfs.init ops) (sk ++ r)) ∧
      (∀ r, content s' (sk ++ r) = none) ∧
      (∀ k, (∀ r, k ≠ sk ++ r) → (∀ r, k ≠ moveDst (run env₀ Memfs.init ops) sk dk ++ r) →
        content s' k = content (run env₀ Memfs.init ops) k)) :=
  (C06_move_tree_content (C03_strong_reachable env₀ ops hh) hk ha hb hm).2

/-! ### non-vacuity (tests, labelled as such) -/

/-- the hypotheses of `C06_copy_tree_content` hold of `copy("/a", "/d")` on `smallState`
    (`/a/f = [1,2,3]`, `/d` an existing directory: the copy goes INTO `/d`): the copied file holds
    the bytes, the source still does -/
example : ∃ s', step (fun _ => none) smallState (.copyB ['/', 'a'] ['/', 'd'] {}) = (.ok .unit, s') ∧
    content s' [['d'], ['a'], ['f']] = some [1, 2, 3] ∧ content s' [['a'], ['f']] = some [1, 2, 3] := by
  obtain ⟨s', hs, _⟩ := C09_copy_tree_strong (env := fun _ => none) (a := ['/', 'a']) (b := ['/', 'd'])
    (c := {}) (rootE := eA) (by decide) (by decide) treeCtx_small (by decide) (by decide) (by decide)
    (by decide)
  have h := C06_copy_tree_content (c := {}) (sk := [['a']]) (dk := [['d']]) (by decide) (by decide)
    (by decide) rfl (by decide) (by decide) (by decide) (by decide) hs
  have hD : copyDst smallState [['a']] [['d']] = [['d'], ['a']] := by decide
  refine ⟨s', hs, ?_, ?_⟩
  · have := h.1 [['f']] eF (by decide) rfl rfl
    rw [hD] at this
    exact this
  · exact h.2.1 [['f']]

/-- … and a later `write_all("/d/a/f", …)` leaves the original alone (hypotheses of
    `C06_copy_tree_does_not_alias`, first clause; `absM` of the second step taken as a hypothesis) -/
example (s' : State) (hs : step (fun _ => none) smallState (.copyB ['/', 'a'] ['/', 'd'] {}) = (.ok .unit, s'))
    (hk2 : absM (fun _ => none) ['/', 'd', '/', 'a', '/', 'f'] s' = (.ok [['d'], ['a'], ['f']], s')) :
    content (step (fun _ => none) s' (.writeAll ['/', 'd', '/', 'a', '/', 'f'] [9])).2 [['a'], ['f']] =
      some [1, 2, 3] :=
  ((C06_copy_tree_does_not_alias (c := {}) (sk := [['a']]) (dk := [['d']]) (by decide) (by decide)
    (by decide) rfl (by decide) (by decide) (by decide) (by decide) hs _ [9] _ hk2).1
      ⟨[['f']], by decide⟩ [['f']]).1

/-- the hypotheses of `C06_move_tree_content` hold of `move_p("/a", "/d")` on `smallState`: the
    bytes are at `/d/a/f`, nothing is left at `/a/f` -/
example : ∃ s', step (fun _ => none) smallState (.moveP ['/', 'a'] ['/', 'd']) = (.ok .unit, s') ∧
    content s' [['d'], ['a'], ['f']] = some [1, 2, 3] ∧ content s' [['a'], ['f']] = none := by
  have hm : step (fun _ => none) smallState (.moveP ['/', 'a'] ['/', 'd']) =
      (.ok .unit, (step (fun _ => none) smallState (.moveP ['/', 'a'] ['/', 'd'])).2) :=
    Prod.ext (by decide) rfl
  have h := C06_move_tree_content (sk := [['a']]) (dk := [['d']]) (by decide) (by decide) (by decide)
    (by decide) hm
  have hD : moveDst smallState [['a']] [['d']] = [['d'], ['a']] := by decide
  rcases h.2 with ⟨hsame, _⟩ | ⟨m1, m2, _⟩
  · rw [hD] at hsame; exact absurd hsame (by decide)
  · refine ⟨_, hm, ?_, m2 [['f']]⟩
    have := m1 [['f']]
    rw [hD] at this
    exact this

/-
  -- OPEN (not proved):
  -- * `KeysWf s` (no name of a key or of cwd is empty, `.`, `..` or contains `/`) on REACHABLE states.
  --   `C03_Strong` (proved for every reachable state) gives all of it except "not `..`"; the `Wf`
  --   version would need the same 53-operation induction as C03 (`abs` never returns `..`:
  --   `C06_abs_key_wf`, so only the bookkeeping is missing).  It stays a decidable hypothesis of every
  --   theorem here, also of the `_reachable` forms.
  -- * `copy` with `follow = true`, and copies whose destination root is at/below or above the source
  --   (`h1`, `h2`; the overlapping case is C13).  `DepthOk` (copy only) is a decidable side condition.
  -- * `write_lines` / `append_lines` / handles as the second step of `C06_copy_tree_does_not_alias`:
  --   only `write_all` / `append_all` are re-proved on this side of the import split
  --   (`C06_write_append_frame`); `C06_independence` (Props/C06.lean) covers all content operations
  --   from ANY state, so the statement is true for them as well, it just cannot be cited here.
-/

end Rivia.Props
