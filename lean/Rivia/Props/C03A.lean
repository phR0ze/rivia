/-
  C03 (group A) — the tree invariant `Rivia.Spec.Inv` is preserved by every call of group A:
  all read-only operations, mkfile / mkfile_m, mkdir_p / mkdir_m, write_all / append_all /
  write_lines / append_lines / append_line, the write / append handles (open, put, flush, drop),
  set_cwd, chmod / chmod_b, chown / chown_b — for all environments, all states satisfying the
  invariant and all arguments, at every exit (ok, error, panic, and also hang).
  Property theorems ONLY (proofs in Rivia/Lemmas/InvA.lean).
-/
import Rivia.Lemmas.InvA

namespace Rivia.Props
open Rivia Rivia.Memfs Rivia.Spec Rivia.Lemmas.InvA

/-- (restates `inv_iff`) the decidable invariant evaluated by the judge is the conjunction of the
    eleven ∀-clauses of `InvP` -/
theorem C03_inv_iff_clauses (s : State) : Spec.Inv s ↔ InvP s := inv_iff s

/-- group A preserves the invariant, whether the call succeeds or fails -/
theorem C03_inv_step_groupA (env : Env) (s : State) (op : Op) (hc : CoveredA op) (h : Spec.Inv s)
    (hh : (step env s op).1 ≠ .hang) : Spec.Inv (step env s op).2 :=
  inv_step_A env s op hc h hh

/-- the same without the no-hang hypothesis: in group A even a call that exhausts its fuel
    (traversal of `chmod` / `chown`) leaves a well-formed tree -/
theorem C03_inv_step_groupA_any_outcome (env : Env) (s : State) (op : Op) (hc : CoveredA op)
    (h : Spec.Inv s) : Spec.Inv (step env s op).2 :=
  inv_step_A' env s op hc h

/-- queries, reads, listings and traversals return the state unchanged (any state, any outcome) -/
theorem C03_readonly_ops_do_not_change_state (env : Env) (s : State) (op : Op) (hr : ReadOnlyOp op) :
    (step env s op).2 = s :=
  step_readonly env s op hr

/-- every read-only operation is in group A -/
theorem C03_readonly_ops_are_covered (op : Op) (hr : ReadOnlyOp op) : CoveredA op := by
  cases op <;> first | exact hr | cases hr

/-- a history of group-A calls from a well-formed state ends in a well-formed state -/
theorem C03_inv_run_groupA (env : Env) (s : State) (ops : List Op) (hc : ∀ op ∈ ops, CoveredA op)
    (h : Spec.Inv s) : Spec.Inv (run env s ops) :=
  run_pres (fun s op => inv_step_A' env s op) s ops hc h

/-! ### the two auxiliary invariants of the combined induction (`InvPlus = Inv ∧ KeysWf ∧ SortedKids`) -/

/-- group A keeps `KeysWf` at every exit. The ONE extra hypothesis `AbsWf env s` says that `_abs`
    in the pre-state returns keys whose names are non-empty, not `.` and `/`-free; it follows from
    `KeysWf s` by the path-cleaning lemmas (group B proves that implication), it is kept separate
    here. No `Inv` hypothesis is needed. -/
theorem C03_keysWf_step_groupA (env : Env) (s : State) (op : Op) (hc : CoveredA op)
    (ha : AbsWf env s) (h : KeysWf s) : KeysWf (step env s op).2 :=
  keysWf_step_A env s op hc ha h

/-- group A keeps child lists sorted at every exit (`insertName` keeps a sorted list sorted;
    no `Inv` hypothesis is needed) -/
theorem C03_sortedKids_step_groupA (env : Env) (s : State) (op : Op) (hc : CoveredA op)
    (h : SortedKids s) : SortedKids (step env s op).2 :=
  sortedKids_step_A env s op hc h

/-- any invariant satisfying the seven closure conditions of `StepAInv` is kept by group A
    (the three theorems above are instances) -/
theorem C03_groupA_generic {I : State → Prop} {Q : FsPath → Prop} (hI : StepAInv I Q) (env : Env)
    (s : State) (op : Op) (hc : CoveredA op) (hq : StepAInv.AbsQ Q env s) (h : I s) :
    I (step env s op).2 :=
  hI.step env s op hc hq h

/-! non-vacuity: the initial state satisfies the invariant, group A has mutating members, the
    uncovered operations are exactly remove / remove_all / symlink / copy / copy_b / move_p -/
example : Spec.Inv Memfs.init := by decide
example : KeysWf Memfs.init ∧ SortedKids Memfs.init := by
  refine ⟨⟨?_, ?_⟩, ?_⟩
  · intro kv hkv n hn
    simp only [Memfs.init, List.mem_singleton] at hkv
    subst hkv; cases hn
  · intro n hn; cases hn
  · intro kv hkv fs hfs
    simp only [Memfs.init, List.mem_singleton] at hkv
    subst hkv
    cases hfs
    exact List.Pairwise.nil
example : CoveredA (.mkdirM ['a'] 0o700) ∧ CoveredA (.chmodB ['a'] {}) ∧ CoveredA (.hDrop 3) := by decide
example : ¬ CoveredA (.remove []) ∧ ¬ CoveredA (.removeAll []) ∧ ¬ CoveredA (.symlink [] []) ∧
    ¬ CoveredA (.copy [] []) ∧ ¬ CoveredA (.copyB [] [] {}) ∧ ¬ CoveredA (.moveP [] []) := by decide

end Rivia.Props
