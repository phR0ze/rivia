/-
  C03, group C — the `copy` / `copy_b` operations keep the tree invariant.

  "After any sequence of calls with arbitrary arguments, whether they succeed or fail, every existing
  path other than the root has an existing parent that is a real directory and lists it; every name a
  directory lists exists; exactly the regular non-link files have byte content; every entry reports
  the path it is stored under; nothing is orphaned, duplicated or left with dangling data."

  All statements are FULL: no side condition on the environment, the state (beyond `Inv`), the
  arguments or the options (`mode`, `cdirs`, `cfiles`, `follow`), and every outcome is covered
  (`ok`, every `err`, `panic`, `hang`) — a copy failing half-way leaves exactly the state of the
  corresponding cut point, which is the second component of `step`.
-/
import Rivia.Lemmas.InvC
import Rivia.Lemmas.InvCPlus

namespace Rivia.Props
open Rivia Rivia.Memfs Rivia.Spec Rivia.Lemmas.InvC

/-- one `copy`/`copy_b` call keeps the invariant, whatever its outcome -/
theorem C03_inv_step_groupC (env : Env) (s : State) (op : Op) (hc : CoveredC op) (h : Spec.Inv s) :
    Spec.Inv (step env s op).2 :=
  inv_step_C' env s op hc h

/-- the same in the shape shared with the other groups (the non-hang hypothesis is not needed) -/
theorem C03_inv_step_groupC_nohang (env : Env) (s : State) (op : Op) (hc : CoveredC op)
    (h : Spec.Inv s) (hh : (step env s op).1 ≠ .hang) : Spec.Inv (step env s op).2 :=
  inv_step_C env s op hc h hh

/-- `copy_b` spelled out: all sources, destinations and option values -/
theorem C03_inv_copyB (env : Env) (s : State) (src dst : Str) (c : CopyOpts) (h : Spec.Inv s) :
    Spec.Inv (step env s (.copyB src dst c)).2 :=
  inv_step_C' env s _ trivial h

/-- `copy` spelled out -/
theorem C03_inv_copy (env : Env) (s : State) (src dst : Str) (h : Spec.Inv s) :
    Spec.Inv (step env s (.copy src dst)).2 :=
  inv_step_C' env s _ trivial h

/-- any history of group-C calls from an invariant state -/
theorem C03_inv_run_groupC (env : Env) (s : State) (ops : List Op) (hc : ∀ op ∈ ops, CoveredC op)
    (h : Spec.Inv s) : Spec.Inv (run env s ops) :=
  inv_run_C env s ops hc h

/-- the building block behind the cut-point claim: `_add` of a shape-consistent entry keeps the
    invariant at every exit (used for the symlink, directory and file branches of `_copy`) -/
theorem C03_add_keeps_inv (e : Entry) (hok : AddOK e) (s : State) (h : Spec.Inv s) :
    Spec.Inv (add e s).2 :=
  (inv_iff _).2 (Pres.add e hok s ((inv_iff _).1 h))

/-- the traversal lifting: any predicate kept by the consumer at each exit is kept by the loop -/
theorem C03_runIter_keeps {σ : Type} (P : σ → Prop) (snap : Snap) (o : Opts) (rootE : Entry)
    (stepF : Entry → σ → Outcome Unit × σ) (hstep : ∀ e w, P w → P (stepF e w).2)
    (f : Nat) (st : ISt) (w : σ) (h : P w) : P (runIter snap o noPre rootE stepF f st w).2 :=
  Lemmas.InvA.runIter_pres snap o noPre (fun _ _ hw => hw) rootE stepF hstep f st w h

/-! ### the strengthened induction hypothesis `InvPlus = Inv ∧ KeysWf ∧ SortedKids` -/

/-- keys stay lists of well-formed pieces (independent of `Inv`) -/
theorem C03_keysWf_step_groupC (env : Env) (s : State) (op : Op) (hc : CoveredC op) (h : KeysWf s) :
    KeysWf (step env s op).2 :=
  keysWf_step_C env s op hc h

/-- child lists stay sorted (independent of `Inv`) -/
theorem C03_sortedKids_step_groupC (env : Env) (s : State) (op : Op) (hc : CoveredC op)
    (h : SortedKids s) : SortedKids (step env s op).2 :=
  sortedKids_step_C env s op hc h

theorem C03_invPlus_step_groupC (env : Env) (s : State) (op : Op) (hc : CoveredC op) (h : InvPlus s) :
    InvPlus (step env s op).2 :=
  invPlus_step_C env s op hc h

/-- every destination key computed by `_copy` is well formed, for all arguments -/
theorem C03_dstOf_wf (dstRoot path pre : FsPath) : ∀ n ∈ dstOf dstRoot path pre, Lemmas.BodyPiece n :=
  dstOf_wf dstRoot path pre

/-! non-vacuity: the hypotheses are satisfiable by non-trivial values -/
example : InvPlus Memfs.init := invPlus_init
example : CoveredC (.copyB ['a'] ['b'] { follow := true, mode := some 0o600, cfiles := true }) := trivial
example : Spec.Inv Memfs.init := by decide
example (env : Env) : Spec.Inv (step env Memfs.init (.copyB ['a'] ['b'] { follow := true })).2 :=
  C03_inv_step_groupC env _ _ trivial (by decide)

end Rivia.Props
