/-
  C19 — core iterator, string, option (and defer) helpers match their plain definitions.
  Property theorems (their helper lemmas live in Rivia/Lemmas/Core.lean).
-/
import Rivia.Model.Core
import Rivia.Spec.Lists
import Rivia.Lemmas.Core

namespace Rivia.Props
open Rivia Rivia.Spec

/-- `isize` range -/
def InIsize (x : Int) : Prop := Core.isizeMin ≤ x ∧ x ≤ Core.isizeMax

/-! ### drop -/
theorem C19_drop {α} (l : List α) (n : Int) : Core.drop l n = dropSpec l n := by
  unfold Core.drop dropSpec Core.nthFront Core.nthBack
  by_cases h1 : n > 0
  · rw [if_pos h1, if_pos (by omega), Nat.sub_add_cancel (by omega)]
  · by_cases h2 : n < 0
    · rw [if_neg h1, if_pos h2, if_neg (by omega), Nat.sub_add_cancel (by omega)]
    · obtain rfl : n = 0 := by omega
      rfl
theorem C19_drop_pos {α} (l : List α) (n : Int) (h : 0 < n) : Core.drop l n = l.drop n.toNat := by
  rw [C19_drop, dropSpec, if_pos (by omega)]
theorem C19_drop_neg {α} (l : List α) (n : Int) (h : n < 0) : Core.drop l n = l.take (l.length - n.natAbs) := by
  rw [C19_drop, dropSpec, if_neg (by omega)]
theorem C19_drop_zero {α} (l : List α) : Core.drop l 0 = l := rfl

/-! ### slice: for `left ≥ -len` the inclusive index range (all `isize` indices, any length) -/

-- `hr` is not needed: on the right nothing wraps (`unsigned_abs`, guarded subtractions)
set_option linter.unusedVariables false in
theorem C19_slice {α} (l : List α) (left right : Int) (hl : InIsize left) (hr : InIsize right)
    (hlen : (l.length : Int) ≤ Core.isizeMax) (hdom : -(l.length : Int) ≤ left) :
    Core.slice l left right = sliceSpec l left right := by
  have h64 : (2 : Int) ^ 63 - 1 < 2 ^ 64 := by decide
  unfold InIsize Core.isizeMax at hl
  unfold Core.isizeMax at hlen
  obtain ⟨L, hlo, hspec⟩ := Lemmas.sliceSpec_eq l left right hdom
  rw [hspec]
  unfold Core.slice
  simp only []
  rw [Lemmas.trimFront, Lemmas.trimBack, List.length_drop, Lemmas.slice_back]
  have hL : (if left < 0 then Core.asUsize (↑l.length + left) else Core.asUsize left) = L := by
    rw [← Int.toNat_natCast L, ← hlo]
    split <;> exact Lemmas.asUsize_of_nonneg _ (by omega) (by omega)
  have hH : ((if right < 0 then (l.length : Int) + right else min right (l.length - 1)) + 1).toNat
      ≤ l.length := by
    split <;> omega
  rw [hL, Nat.sub_right_comm, Nat.sub_sub_self hH]

/-- the specification really is "the items at the inclusive index range": membership by index -/
theorem C19_sliceSpec_getElem {α} (l : List α) (left right : Int) (hdom : -(l.length : Int) ≤ left) (i : Nat) :
    (sliceSpec l left right)[i]? =
      (let len : Int := l.length
       let lo : Int := if left < 0 then len + left else left
       let hi : Int := if right < 0 then len + right else min right (len - 1)
       if lo + i ≤ hi then l[(lo + i).toNat]? else none) := by
  obtain ⟨L, hlo, hspec⟩ := Lemmas.sliceSpec_eq l left right hdom
  simp only [hspec, hlo, List.getElem?_take, List.getElem?_drop, ← Int.natCast_add, Int.toNat_natCast]
  generalize (if right < 0 then (l.length : Int) + right else min right (↑l.length - 1)) = hi
  have hc : i < (hi + 1).toNat - L ↔ ((L + i : Nat) : Int) ≤ hi := by omega
  simp only [hc]

/-! ### first / first_result / last_result / single / some / consume -/
theorem C19_first {α} (l : List α) : Core.first l = l.head? := rfl
theorem C19_first_result {α} (l : List α) : Core.firstResult l = Outcome.ofOption .iterItemNotFound l.head? := by
  cases l <;> rfl
theorem C19_last_result {α} (l : List α) : Core.lastResult l = Outcome.ofOption .iterItemNotFound l.getLast? := by
  unfold Core.lastResult
  cases l.getLast? <;> rfl
theorem C19_single {α} (l : List α) : Core.single l = singleSpec l := by
  match l with
  | [] => rfl
  | [a] => rfl
  | a :: b :: t => simp [Core.single, singleSpec]
theorem C19_single_iff {α} (l : List α) (a : α) : Core.single l = .ok a ↔ l = [a] := by
  match l with
  | [] => simp [Core.single]
  | [b] => simp [Core.single]
  | b :: c :: t => simp [Core.single]
theorem C19_some {α} (l : List α) : Core.hasSome l = true ↔ l ≠ [] := by
  cases l <;> simp [Core.hasSome]
theorem C19_consume {α} (l : List α) : Core.consume l = [] := rfl

/-! ### strings -/
theorem C19_size (s : Str) : Core.size s = s.length := rfl
theorem C19_to_bool (s : Str) : Core.toBool s = toBoolSpec s := by
  unfold Core.toBool toBoolSpec Str.lower
  simp only []
  congr 1
  rw [Bool.eq_iff_iff]
  have e0 : "0".toList = ['0'] := rfl
  simp only [Bool.or_eq_true, List.isEmpty_iff, List.map_eq_nil_iff, beq_iff_eq, decide_eq_true_eq, e0,
    Lemmas.map_lower_eq_zero]
  exact or_right_comm
theorem C19_to_bool_false_iff (s : Str) :
    Core.toBool s = false ↔ (s = [] ∨ s = ['0'] ∨ s.map Str.lowerChar = "false".toList) := by
  rw [C19_to_bool, toBoolSpec, Bool.not_eq_false']
  simp only [Bool.or_eq_true, decide_eq_true_eq, or_assoc]
theorem C19_trim_suffix_once (s suf : Str) :
    (suf <:+ s → Core.trimSuffix s suf ++ suf = s) ∧ (¬ suf <:+ s → Core.trimSuffix s suf = s) := by
  unfold Core.trimSuffix
  constructor
  · intro h
    rw [if_pos (List.isSuffixOf_iff_suffix.mpr h)]
    obtain ⟨t, rfl⟩ := h
    simp
  · intro h
    rw [if_neg (fun hh => h (List.isSuffixOf_iff_suffix.mp hh))]

/-! ### Option::has, take_while_p -/
theorem C19_has {α} [DecidableEq α] (o : Option α) (x : α) : Core.has o x = true ↔ o = some x := by
  cases o with
  | none => simp [Core.has]
  | some y => simp [Core.has, eq_comm]
theorem C19_take_while_p {α} (p : α → Bool) (l : List α) :
    Core.takeWhileP p l = (l.takeWhile p, l.dropWhile p) := by
  induction l with
  | nil => rfl
  | cons a t ih =>
    unfold Core.takeWhileP
    by_cases h : p a <;> simp [h, ih, List.takeWhile, List.dropWhile]
/-- longest prefix satisfying `p`; the first failing item stays unconsumed -/
theorem C19_take_while_p_longest {α} (p : α → Bool) (l : List α) :
    let (t, r) := Core.takeWhileP p l
    t ++ r = l ∧ (∀ x ∈ t, p x = true) ∧ (∀ x, r.head? = some x → p x = false) := by
  rw [C19_take_while_p]
  refine ⟨List.takeWhile_append_dropWhile, List.all_eq_true.1 List.all_takeWhile, fun x hx => ?_⟩
  have := List.head?_dropWhile_not p l
  rwa [hx] at this

-- non-vacuity / sanity (tests, labelled as such)
example : Core.slice [0, 1, 2, 3] 1 0 = ([] : List Nat) := by decide
example : Core.slice [0, 1] 0 0 = [0] := by decide
example : Core.slice [0, 1, 2, 3] (-3) (-2) = [1, 2] := by decide
example : Core.toBool "FaLsE".toList = false := by decide +kernel

end Rivia.Props
