/-
  C01 (group C) — the per-step refinement to the reference tree filesystem for eleven more operations,

      read_lines  write_lines  append_lines  append_line
      paths  dirs  files  all_paths  all_dirs  all_files
      chmod_b(p).sym(expr)            (symbolic, no octal value, no follow; octal `chmod_b` is group B)

  and the history / trace theorems of Props/C01R and Props/C01S re-run over the wider alphabet
  `Refined' = Refined ∨ GroupC` (43 of the 53 constructors of `Op`; with this file every `(op, options)`
  combination for which `specStep` has a case is refined).

  * line helpers (Lemmas/RefineCLines): `read_lines` is `read_all` + the splitter, and the model's
    `splitLines` IS the reference's `specLines` (`C01C_splitLines_eq_specLines`, all texts); the writers are
    `write_all` / `append_all` of the joined bytes outside the finding class `empty_lines_noop`
    (`classOf … = "-"`);
  * listings (Lemmas/RefineCList): both sides are strictly `pathLt`-increasing lists; Memfs selects by
    entry FLAGS and (since the repair of `listing_includes_links`) skips links in `dirs` / `files` /
    `all_dirs` / `all_files`, the reference selects by node KIND — equal for all six helpers, with no
    hypothesis about links;
  * symbolic `chmod_b` (Lemmas/RefineCChmod): the octal proof of Lemmas/RefineB/Chmod re-run with the
    per-entry target mode `applyExpr (kind) cs e.mode` (`Lemmas.mode_parsed`: what `sys::mode` computes
    for a well-formed expression; malformed = class `sym_malformed`); new fact: clauses only touch the
    low 9 bits, so the type bits survive, the computed mode is never 0 and `set_mode` stores it as is.
  Side condition `DepthDomC` for `all_*` and recursive `chmod_b`: the Memfs walk stops at depth `u64::MAX`,
  the reference does not (implied by "fewer than `usize::MAX` entries", `C01C_depthDom_of_small`).

  What stays outside `Refined'` is listed at the end of the file.
-/
import Rivia.Props.C01S
import Rivia.Lemmas.RefineCLines
import Rivia.Lemmas.RefineCList
import Rivia.Lemmas.RefineCChmod

namespace Rivia.Props
open Rivia Rivia.Memfs Rivia.Spec Rivia.Spec.TreeFs Rivia.Lemmas
open Rivia.Lemmas.Sim (NodupK AncDir)

/-! ### the group -/

def GroupC : Op → Prop
  | .readLines _ | .writeLines _ _ | .appendLines _ _ | .appendLine _ _
  | .paths _ | .dirs _ | .files _ | .allPaths _ | .allDirs _ | .allFiles _ => True
  | .chmodB _ c => c.sym ≠ [] ∧ c.dirs = 0 ∧ c.files = 0 ∧ c.follow = false
  | _ => False

instance : DecidablePred GroupC := fun op => by unfold GroupC; split <;> infer_instance

/-- the recursive listings (and the recursive `chmod_b`) stop descending at depth `u64::MAX`; the
    reference does not -/
def DepthDomC (s : State) : Op → Prop
  | .allPaths _ | .allDirs _ | .allFiles _ => RefineB.DepthOk s
  | .chmodB _ c => c.recursive = true → RefineB.DepthOk s
  | _ => True

instance (s : State) : DecidablePred (DepthDomC s) := fun op => by unfold DepthDomC; split <;> infer_instance

/-- every group-C operation is covered by the reference, is disjoint from groups A and B, and keeps
    the side invariants -/
theorem C01C_groupC_facts (op : Op) (hC : GroupC op) :
    (∀ env t, (specStep env t op).isSome = true) ∧ ¬ Refined op ∧ GoodOp op := by
  cases op with
  | chmodB p c =>
    obtain ⟨h1, h2, h3, h4⟩ := hC
    refine ⟨fun env t => ?_, fun h => h.elim (fun h => Bool.noConfusion h) h1, trivial⟩
    show (if c.follow = true then none else if c.sym = [] then _
      else if c.dirs = 0 ∧ c.files = 0 then some _ else none : Option SR).isSome = true
    rw [h4, if_neg Bool.false_ne_true, if_neg h1, if_pos ⟨h2, h3⟩]
    rfl
  | readLines | writeLines | appendLines | appendLine | paths | dirs | files | allPaths | allDirs | allFiles =>
    exact ⟨fun _ _ => rfl, fun h => h.elim (fun h => Bool.noConfusion h) id, trivial⟩
  | _ => exact False.elim hC

/-- the model's line splitter (from `BufRead::lines`) is the reference's (from the documentation) -/
theorem C01C_splitLines_eq_specLines (s : Str) : splitLines s = specLines s :=
  RefineC.splitLines_eq_specLines s

/-! ### the class hypotheses, unfolded -/

theorem resolve_entryAt {env : Env} {s : State} {p : Str} {a : FsPath} (h : resolve env (absS s) p = .ok a) :
    entryAt s env p = some (a, alLookup a s.entries) := by
  unfold resolve at h
  unfold entryAt
  have hc : (absS s).cwd = s.cwd := rfl
  rw [hc] at h
  cases hw : absWith env (renderP s.cwd) p with
  | ok x => rw [hw] at h; cases h; rfl
  | err k => rw [hw] at h; cases h
  | panic => rw [hw] at h; cases h
  | hang => rw [hw] at h; cases h

theorem class_lines {x : Bool} (h : (if x = true then "empty_lines_noop" else "-") = "-") : x = false := by
  cases x with
  | false => rfl
  | true => exact absurd h (by decide)

/-! ### the step theorem -/

theorem of_simA {m : Outcome Val × State} {x : SR} {r : R Val} {t' : T} (hs : RefineA.Sim m x)
    (h : some x = some (r, t')) : RefineB.ResMatch m.1 r ∧ (r ≠ .unspecified → RefineB.TEquiv (absS m.2) t') := by
  cases h; exact ⟨(resMatch_A_iff_B _ _).1 hs.1, hs.2⟩

/-- **C01, group C**: from an `RInv` state (the invariant of reachable states), outside the
    known-finding classes, each of the eleven calls returns what the reference returns on the
    abstraction and leaves a state whose abstraction is the reference's post-state -/
theorem C01_refines_step_groupC (env : Env) (s : State) (op : Op) (hC : GroupC op) (h : RInv s)
    (hc : classOf s env op = "-") (hd : DepthDomC s op) :
    ∀ r t', specStep env (absS s) op = some (r, t') →
      RefineB.ResMatch (step env s op).1 r ∧ (r ≠ .unspecified → RefineB.TEquiv (absS (step env s op).2) t') := by
  intro r t' hs
  have hI : Spec.Inv s := h.1.1
  have hSo : Snap.Sorted s.entries := h.1.2.2.1
  have hOk : RefineA.EntriesOk s := h.2.1
  have hF := RefineA.inv_facts hI
  cases op with
  | chmodB p c => exact RefineC.chmodB_sym_refines env s p c hI hOk hc hC.1 hd r t' hs
  | readLines p => exact of_simA (RefineC.sim_readLines env s p hF hOk _ hs) rfl
  | writeLines p ls =>
    exact of_simA (RefineC.sim_writeLines env s hF hOk p ls (class_lines hc) _ hs) rfl
  | appendLines p ls =>
    exact of_simA (RefineC.sim_appendLines env s hF hOk p ls (class_lines hc) _ hs) rfl
  | appendLine p l =>
    have hne : l ≠ [] := by
      rintro rfl
      exact absurd (show (if ([] : Str) = [] then "empty_lines_noop" else "-") = "-" from hc) (by decide)
    exact of_simA (RefineC.sim_appendLine env s hF hOk p l hne _ hs) rfl
  | paths p => exact of_simA (RefineC.sim_paths env s p false hI hSo (fun h0 => by cases h0)) hs
  | allPaths p => exact of_simA (RefineC.sim_paths env s p true hI hSo (fun _ => hd)) hs
  | dirs p => exact of_simA (RefineC.sim_dirs env s p false hI hSo (fun h0 => by cases h0)) hs
  | allDirs p => exact of_simA (RefineC.sim_dirs env s p true hI hSo (fun _ => hd)) hs
  | files p => exact of_simA (RefineC.sim_files env s p false hI hSo hOk (fun h0 => by cases h0)) hs
  | allFiles p => exact of_simA (RefineC.sim_files env s p true hI hSo hOk (fun _ => hd)) hs
  | _ => exact False.elim hC

/-- the six listing helpers need no class hypothesis at all (the class `listing_includes_links` is
    repaired; `classOf` is `"-"` for them on every state) -/
theorem C01C_listing_class_trivial (env : Env) (s : State) (p : Str) :
    classOf s env (.paths p) = "-" ∧ classOf s env (.dirs p) = "-" ∧ classOf s env (.files p) = "-" ∧
    classOf s env (.allPaths p) = "-" ∧ classOf s env (.allDirs p) = "-" ∧ classOf s env (.allFiles p) = "-" :=
  ⟨rfl, rfl, rfl, rfl, rfl, rfl⟩

/-- **C01, listings**: from an `RInv` state, `paths` / `dirs` / `files` (and `all_paths` / `all_dirs` /
    `all_files` when no key is `u64::MAX` components deep) return what the reference returns, whatever
    links lie below the directory -/
theorem C01C_listings_refine (env : Env) (s : State) (op : Op) (h : RInv s)
    (hop : match op with
      | .paths _ | .dirs _ | .files _ => True
      | .allPaths _ | .allDirs _ | .allFiles _ => RefineB.DepthOk s
      | _ => False) :
    ∀ r t', specStep env (absS s) op = some (r, t') →
      RefineB.ResMatch (step env s op).1 r ∧ (r ≠ .unspecified → RefineB.TEquiv (absS (step env s op).2) t') := by
  cases op with
  | paths | dirs | files => exact C01_refines_step_groupC env s _ trivial h rfl trivial
  | allPaths | allDirs | allFiles => exact C01_refines_step_groupC env s _ trivial h rfl hop
  | _ => exact False.elim hop

/-! ### the wider alphabet: step, history -/

/-- the operations whose refinement is proved: 25 of group A, 8 of group B, 10 + symbolic `chmod_b` of
    group C -/
def Refined' (op : Op) : Prop := Refined op ∨ GroupC op

instance : DecidablePred Refined' := fun op => by unfold Refined'; infer_instance

/-- the depth side conditions of C01R (recursive `chown` / `chmod`) and of group C (`all_*`, recursive
    symbolic `chmod_b`) -/
def DepthDom' (s : State) (op : Op) : Prop := DepthDom s op ∧ DepthDomC s op

instance (s : State) : DecidablePred (DepthDom' s) := fun op => by unfold DepthDom'; infer_instance

/-- one step from an `RInv` state, 43 operations -/
theorem C01R_refines_step' (env : Env) (s : State) (op : Op) (h : RInv s) (hR : Refined' op)
    (hc : classOf s env op = "-") (hd : DepthDom' s op) (r : R Val) (t' : T)
    (hs : specStep env (absS s) op = some (r, t')) :
    RefineB.ResMatch (step env s op).1 r ∧
      (r ≠ .unspecified → RefineB.TEquiv (absS (step env s op).2) t') := by
  rcases hR with hR | hC
  · exact C01R_refines_step env s op h hR hc hd.1 r t' hs
  · exact C01_refines_step_groupC env s op hC h hc hd.2 r t' hs

/-- **C01 along histories, 43 operations**: after ANY history `pre` of `GoodOp`s (each call returning)
    from the fresh filesystem, a call of one of the 43 refined operations outside the known-finding
    classes returns what the reference returns on the abstraction of the current state and leaves a
    state whose abstraction is the reference's post-state.  No invariant hypothesis. -/
theorem C01_refines_history' (env : Env) (pre : List Op) (op : Op)
    (hg : ∀ o ∈ pre, GoodOp o) (hh : Returns env Memfs.init pre) (hR : Refined' op)
    (hc : classOf (run env Memfs.init pre) env op = "-") (hd : DepthDom' (run env Memfs.init pre) op)
    (r : R Val) (t' : T)
    (hs : specStep env (absS (run env Memfs.init pre)) op = some (r, t')) :
    RefineB.ResMatch (step env (run env Memfs.init pre) op).1 r ∧
      (r ≠ .unspecified → RefineB.TEquiv (absS (step env (run env Memfs.init pre) op).2) t') :=
  C01R_refines_step' env _ op
    (C01R_good_run env _ pre hg C01R_init ((InvAll.noHangRun_iff env _ pre).2 hh)) hR hc hd r t' hs

/-- both depth conditions hold as soon as the tree has fewer than `usize::MAX` entries -/
theorem C01C_depthDom_of_small (s : State) (op : Op) (h : RInv s) (hsmall : s.entries.length < 2 ^ 64 - 1) :
    DepthDom' s op := by
  refine ⟨C01R_depthDom_of_small s op h hsmall, ?_⟩
  have hd := Reach.depthOk_of_small h.1.1 hsmall
  cases op <;> first | exact trivial | exact hd | exact fun _ => hd

/-- `C01_refines_history'` with the physical size bound in place of `DepthDom'` -/
theorem C01_refines_history_small' (env : Env) (pre : List Op) (op : Op)
    (hg : ∀ o ∈ pre, GoodOp o) (hh : Returns env Memfs.init pre) (hR : Refined' op)
    (hc : classOf (run env Memfs.init pre) env op = "-")
    (hsmall : (run env Memfs.init pre).entries.length < 2 ^ 64 - 1) (r : R Val) (t' : T)
    (hs : specStep env (absS (run env Memfs.init pre)) op = some (r, t')) :
    RefineB.ResMatch (step env (run env Memfs.init pre) op).1 r ∧
      (r ≠ .unspecified → RefineB.TEquiv (absS (step env (run env Memfs.init pre) op).2) t') :=
  have hr := C01R_good_run env _ pre hg C01R_init ((InvAll.noHangRun_iff env _ pre).2 hh)
  C01R_refines_step' env _ op hr hR hc (C01C_depthDom_of_small _ op hr hsmall) r t' hs

/-- the same for every position of one history -/
theorem C01_refines_history_all' (env : Env) (ops : List Op)
    (hg : ∀ o ∈ ops, GoodOp o) (hh : Returns env Memfs.init ops) :
    ∀ pre op post, ops = pre ++ op :: post → Refined' op →
      classOf (run env Memfs.init pre) env op = "-" → DepthDom' (run env Memfs.init pre) op →
      ∀ r t', specStep env (absS (run env Memfs.init pre)) op = some (r, t') →
        RefineB.ResMatch (step env (run env Memfs.init pre) op).1 r ∧
          (r ≠ .unspecified → RefineB.TEquiv (absS (step env (run env Memfs.init pre) op).2) t') := by
  intro pre op post he hR hc hd r t' hs
  refine C01_refines_history' env pre op (fun o ho => hg o ?_) ?_ hR hc hd r t' hs
  · rw [he]; exact List.mem_append_left _ ho
  · intro p o q hp
    exact hh p o (q ++ op :: post) (by rw [he, hp]; simp)

/-! ### the wider alphabet: simulation of ONE reference run (Props/C01S re-run) -/

/-- the side conditions of one step -/
def StepDom' (env : Env) (s : State) (op : Op) : Prop :=
  (GoodOp op ∧ Refined' op) ∧ (step env s op).1 ≠ .hang ∧ classOf s env op = "-" ∧ DepthDom' s op

instance (env : Env) (s : State) (op : Op) : Decidable (StepDom' env s op) := by
  unfold StepDom'; infer_instance

/-- **one step of the simulation** (as `C01S_step`, 43 operations): from related states, the Memfs call
    returns what the reference answers FROM ITS OWN STATE `t`, and the post-states are related again -/
theorem C01S_step' (env : Env) (s : State) (t : T) (op : Op) (h : SimInv s t) (hd : StepDom' env s op)
    (r : R Val) (t' : T) (hs : specStep env t op = some (r, t')) :
    RefineB.ResMatch (step env s op).1 r ∧ (r ≠ .unspecified → SimInv (step env s op).2 t') := by
  obtain ⟨hI, hE, hN⟩ := h
  obtain ⟨⟨hg, hR⟩, hh, hc, hdd⟩ := hd
  have hwf := C01S_absS_wf hI.1.1
  obtain ⟨t'', hs', hE'⟩ := C01S_specStep_congr' env hE hwf.1 hN op r t' hs
  have href := C01R_refines_step' env s op hI hR hc hdd r t'' hs'
  refine ⟨href.1, fun hne => ⟨C01R_good_step env s op hg hI hh, Sim.TEquiv.trans (href.2 hne) hE', ?_⟩⟩
  exact C01S_specStep_nodup env hN (Sim.ancDir_congr hE hwf.2) op r t' hs

/-- side conditions along a run, recursively -/
def DomRun' (env : Env) : State → List Op → Prop
  | _, [] => True
  | s, op :: ops => StepDom' env s op ∧ DomRun' env (step env s op).2 ops

theorem C01S_run' (env : Env) : ∀ (ops : List Op) (s : State) (t t₂ : T), SimInv s t → DomRun' env s ops →
    refRun env t ops = some t₂ → SimInv (run env s ops) t₂ := by
  intro ops
  induction ops with
  | nil => intro s t t₂ h _ hr; cases hr; exact h
  | cons op ops ih =>
    intro s t t₂ h hd hr
    obtain ⟨r, t', hs, hne, hr'⟩ := refRun_cons hr
    exact ih _ t' t₂ ((C01S_step' env s t op h hd.1 r t' hs).2 hne) hd.2 hr'

theorem domRun_of' (env : Env) : ∀ (ops : List Op) (s : State),
    (∀ pre op post, ops = pre ++ op :: post → StepDom' env (run env s pre) op) → DomRun' env s ops := by
  intro ops
  induction ops with
  | nil => intro _ _; trivial
  | cons op ops ih =>
    intro s h
    refine ⟨h [] op ops rfl, ih _ fun pre o post he => ?_⟩
    have := h (op :: pre) o post (by rw [he]; rfl)
    exact this

theorem stepDom_of' (env : Env) (ops : List Op)
    (hops : ∀ o ∈ ops, GoodOp o ∧ Refined' o) (hret : Returns env Memfs.init ops)
    (hdom : ∀ pre op post, ops = pre ++ op :: post →
      classOf (run env Memfs.init pre) env op = "-" ∧ DepthDom' (run env Memfs.init pre) op) :
    ∀ pre op post, ops = pre ++ op :: post → StepDom' env (run env Memfs.init pre) op := by
  intro pre op post he
  exact ⟨hops op (by rw [he]; simp), hret pre op post he, hdom pre op post he⟩

/-- **C01 as a simulation of one reference run, 43 operations.**  Let `ops` be a history of `Refined'`
    `GoodOp`s from the fresh filesystem, every call returning, no call in a known-finding class,
    `DepthDom'` at each step.  Run the reference ALONE from `absS Memfs.init`.  Then at every position
    `pre ++ op :: post` up to which the reference has answered (`refRun … pre = some t`):
    `TEquiv (absS sᵢ) tᵢ`, `tᵢ` has no duplicate key, the Memfs call returns what the reference answers
    from `tᵢ`, and unless that answer is `.unspecified` the next states agree again. -/
theorem C01_simulates_history' (env : Env) (ops : List Op)
    (hops : ∀ o ∈ ops, GoodOp o ∧ Refined' o) (hret : Returns env Memfs.init ops)
    (hdom : ∀ pre op post, ops = pre ++ op :: post →
      classOf (run env Memfs.init pre) env op = "-" ∧ DepthDom' (run env Memfs.init pre) op) :
    ∀ pre op post, ops = pre ++ op :: post → ∀ t, refRun env (absS Memfs.init) pre = some t →
      RefineB.TEquiv (absS (run env Memfs.init pre)) t ∧ NodupK t ∧
      ∀ r t', specStep env t op = some (r, t') →
        RefineB.ResMatch (step env (run env Memfs.init pre) op).1 r ∧
        (r ≠ .unspecified → RefineB.TEquiv (absS (step env (run env Memfs.init pre) op).2) t') := by
  intro pre op post he t hr
  have hsd := stepDom_of' env ops hops hret hdom
  have hpre : DomRun' env Memfs.init pre := domRun_of' env pre _ fun p o q hp =>
    hsd p o (q ++ op :: post) (by rw [he, hp]; simp)
  have hinv := C01S_run' env pre _ _ t C01S_simInv_init hpre hr
  refine ⟨hinv.2.1, hinv.2.2, fun r t' hs => ?_⟩
  have := C01S_step' env _ t op hinv (hsd pre op post he) r t' hs
  exact ⟨this.1, fun hne => (this.2 hne).2.1⟩

/-- the end of the run: if the reference answers every step, its final state is the abstraction of the
    final Memfs state -/
theorem C01_simulates_history_final' (env : Env) (ops : List Op)
    (hops : ∀ o ∈ ops, GoodOp o ∧ Refined' o) (hret : Returns env Memfs.init ops)
    (hdom : ∀ pre op post, ops = pre ++ op :: post →
      classOf (run env Memfs.init pre) env op = "-" ∧ DepthDom' (run env Memfs.init pre) op)
    (t : T) (hr : refRun env (absS Memfs.init) ops = some t) :
    RefineB.TEquiv (absS (run env Memfs.init ops)) t ∧ NodupK t :=
  have h := C01S_run' env ops _ _ t C01S_simInv_init
    (domRun_of' env ops _ (stepDom_of' env ops hops hret hdom)) hr
  ⟨h.2.1, h.2.2⟩

/-- with the physical size bound (fewer than `usize::MAX` entries) in place of `DepthDom'` -/
theorem C01_simulates_history_small' (env : Env) (ops : List Op)
    (hops : ∀ o ∈ ops, GoodOp o ∧ Refined' o) (hret : Returns env Memfs.init ops)
    (hdom : ∀ pre op post, ops = pre ++ op :: post →
      classOf (run env Memfs.init pre) env op = "-" ∧ (run env Memfs.init pre).entries.length < 2 ^ 64 - 1) :
    ∀ pre op post, ops = pre ++ op :: post → ∀ t, refRun env (absS Memfs.init) pre = some t →
      RefineB.TEquiv (absS (run env Memfs.init pre)) t ∧ NodupK t ∧
      ∀ r t', specStep env t op = some (r, t') →
        RefineB.ResMatch (step env (run env Memfs.init pre) op).1 r ∧
        (r ≠ .unspecified → RefineB.TEquiv (absS (step env (run env Memfs.init pre) op).2) t') := by
  refine C01_simulates_history' env ops hops hret fun pre op post he => ⟨(hdom pre op post he).1, ?_⟩
  have hr : RInv (run env Memfs.init pre) :=
    C01R_good_run env _ pre (fun o ho => (hops o (by rw [he]; exact List.mem_append_left _ ho)).1) C01R_init
      ((InvAll.noHangRun_iff env _ pre).2 fun p o q hp => hret p o (q ++ op :: post) (by rw [he, hp]; simp))
  exact C01C_depthDom_of_small _ op hr (hdom pre op post he).2

theorem C01S_trace' (env : Env) : ∀ (ops : List Op) (s : State) (t : T) (rs : List (R Val)), SimInv s t →
    DomRun' env s ops → refOuts env t ops = some rs →
    TraceMatch (memOuts env s ops) rs := by
  intro ops
  induction ops with
  | nil => intro s t rs _ _ hr; cases hr; trivial
  | cons op ops ih =>
    intro s t rs h hd hr
    unfold refOuts at hr
    split at hr
    · cases hr
    · rename_i r t' hne heq
      have hne' : r ≠ .unspecified := by rintro rfl; exact hne rfl
      have hst := C01S_step' env s t op h hd.1 r t' heq
      cases hro : refOuts env t' ops with
      | none => rw [hro] at hr; cases hr
      | some rs' =>
        rw [hro] at hr
        cases hr
        exact ⟨hst.1, ih _ t' rs' (hst.2 hne') hd.2 hro⟩
    · cases hr

/-- **trace form, 43 operations**: the list of outcomes of the Memfs run matches, position by position,
    the list of answers of the reference run alone -/
theorem C01_simulates_trace' (env : Env) (ops : List Op)
    (hops : ∀ o ∈ ops, GoodOp o ∧ Refined' o) (hret : Returns env Memfs.init ops)
    (hdom : ∀ pre op post, ops = pre ++ op :: post →
      classOf (run env Memfs.init pre) env op = "-" ∧ DepthDom' (run env Memfs.init pre) op)
    (rs : List (R Val)) (hr : refOuts env (absS Memfs.init) ops = some rs) :
    TraceMatch (memOuts env Memfs.init ops) rs :=
  C01S_trace' env ops _ _ rs C01S_simInv_init (domRun_of' env ops _ (stepDom_of' env ops hops hret hdom)) hr

/-- **`Refined'` is everything the reference covers**: whenever `specStep` has an answer for an operation
    (with its options), that operation is in `Refined'` -/
theorem C01C_covers_reference (env : Env) (t : T) (op : Op) (h : (specStep env t op).isSome = true) :
    Refined' op := by
  cases op with
  | chmodB p c =>
    by_cases hs : c.sym = []
    · exact Or.inl (Or.inr hs)
    · -- a symbolic `chmod_b` is answered only without `follow` and without octal values: group C
      change (if c.follow = true then none else if c.sym = [] then _
        else if c.dirs = 0 ∧ c.files = 0 then some _ else none : Option SR).isSome = true at h
      cases hf : c.follow with
      | true => rw [hf, if_pos rfl] at h; cases h
      | false =>
        rw [hf, if_neg Bool.false_ne_true, if_neg hs] at h
        by_cases hz : c.dirs = 0 ∧ c.files = 0
        · exact Or.inr ⟨hs, hz.1, hz.2, hf⟩
        · rw [if_neg hz] at h; cases h
  | mkfileM | entry | copy | copyB | entries | hWrite | hAppend | hPut | hFlush | hDrop => cases h
  | remove | removeAll | symlink | chmod | chown | chownB | moveP => exact Or.inl (Or.inr trivial)
  | readLines | writeLines | appendLines | appendLine | paths | dirs | files | allPaths | allDirs | allFiles =>
    exact Or.inr trivial
  | _ => exact Or.inl (Or.inl rfl)

/-- the old theorems are the restriction to `Refined` -/
theorem C01C_refined_sub (op : Op) (h : Refined op) : Refined' op := Or.inl h

/-! ### non-vacuity -/

/-- executable check of the side conditions along a run (one evaluation of `step` per call) -/
def domChk' (env : Env) : State → List Op → Bool
  | _, [] => true
  | s, op :: ops =>
    decide (GoodOp op ∧ Refined' op) && decide (classOf s env op = "-") && decide (DepthDom' s op) &&
      match step env s op with
      | (.hang, _) => false
      | (_, s') => domChk' env s' ops

theorem domRun_of_chk' (env : Env) : ∀ (ops : List Op) (s : State), domChk' env s ops = true → DomRun' env s ops := by
  intro ops
  induction ops with
  | nil => intro _ _; trivial
  | cons op ops ih =>
    intro s h
    unfold domChk' at h
    simp only [Bool.and_eq_true, decide_eq_true_eq] at h
    obtain ⟨⟨⟨h1, h2⟩, h3⟩, h4⟩ := h
    rcases hs : step env s op with ⟨o, s'⟩
    rw [hs] at h4
    unfold DomRun' StepDom'
    rw [hs]
    cases o with
    | hang => cases h4
    | ok v => exact ⟨⟨h1, (fun h0 => by cases h0), h2, h3⟩, ih _ h4⟩
    | err k => exact ⟨⟨h1, (fun h0 => by cases h0), h2, h3⟩, ih _ h4⟩
    | panic => exact ⟨⟨h1, (fun h0 => by cases h0), h2, h3⟩, ih _ h4⟩

theorem stepDom_of_domRun' (env : Env) : ∀ (pre : List Op) (s : State) (op : Op) (post : List Op),
    DomRun' env s (pre ++ op :: post) → StepDom' env (run env s pre) op := by
  intro pre
  induction pre with
  | nil => intro s op post h; exact h.1
  | cons o pre ih => intro s op post h; exact ih _ op post h.2

namespace C01CWitness
open C01RWitness (S)
/-- 15 calls: the four line helpers, all six listings (one below a directory tree, `all_paths "/"` with
    a link among the results), a recursive symbolic `chmod_b` with a directory clause and a file clause,
    mixed with operations of groups A and B -/
def hist3 : List Op :=
  [.mkdirP (S "/a/b"), .writeLines (S "/a/f") [S "x", S "y"], .appendLine (S "/a/f") (S "z"),
   .readLines (S "/a/f"), .mkfile (S "/a/b/g"), .paths (S "/a"), .allFiles (S "/a"), .dirs (S "/a"),
   .symlink (S "/l") (S "/a/f"), .allPaths (S "/"), .files (S "/a"), .appendLines (S "/a/b/g") [S "q"],
   .allDirs (S "/a"), .chmodB (S "/a") { sym := S "d:go-rx,f:u+x" }, .mode (S "/a/b/g")]
def isOkPaths (x : List FsPath) : Option (R Val × T) → Bool | some (.ok (.paths y), _) => x == y | _ => false
def isOkStrs (x : List Str) : Option (R Val × T) → Bool | some (.ok (.strs y), _) => x == y | _ => false
def hasFile (k : FsPath) (d : File.Bytes) : Option (R Val × T) → Bool
  | some (.ok .unit, t) => (TreeFs.get t k).map (fun n => (n.kind, n.data)) == some (.file, d)
  | _ => false
end C01CWitness
open C01CWitness C01RWitness

set_option maxRecDepth 100000 in
theorem C01C_hist3_dom : DomRun' env0 Memfs.init hist3 := domRun_of_chk' _ _ _ (by decide +kernel)

/-- every hypothesis of `C01_simulates_history'` / `C01_simulates_trace'` holds of `hist3` … -/
theorem C01C_hist3_hyps :
    (∀ o ∈ hist3, GoodOp o ∧ Refined' o) ∧ Returns env0 Memfs.init hist3 ∧
    (∀ pre op post, hist3 = pre ++ op :: post →
      classOf (run env0 Memfs.init pre) env0 op = "-" ∧ DepthDom' (run env0 Memfs.init pre) op) := by
  refine ⟨fun o ho => ?_, ?_, ?_⟩
  · obtain ⟨pre, post, he⟩ := List.append_of_mem ho
    exact (stepDom_of_domRun' env0 pre _ o post (he ▸ C01C_hist3_dom)).1
  · intro pre op post he
    exact (stepDom_of_domRun' env0 pre _ op post (he ▸ C01C_hist3_dom)).2.1
  · intro pre op post he
    exact (stepDom_of_domRun' env0 pre _ op post (he ▸ C01C_hist3_dom)).2.2

set_option maxRecDepth 100000 in
/-- … the reference, run alone, answers all 15 steps (none `.unspecified`), 11 of them group C … -/
theorem C01C_hist3_outs : ((refOuts env0 (absS Memfs.init) hist3).map List.length) = some 15 ∧
    (hist3.filter (fun o => decide (GroupC o))).length = 11 := by
  decide +kernel

/-- … so the conclusions hold of it: the Memfs outcomes match the reference's answers position by
    position, and the reference's own final state is the abstraction of Memfs's -/
example : ∃ rs, refOuts env0 (absS Memfs.init) hist3 = some rs ∧ TraceMatch (memOuts env0 Memfs.init hist3) rs := by
  cases h : refOuts env0 (absS Memfs.init) hist3 with
  | none => have := C01C_hist3_outs.1; rw [h] at this; cases this
  | some rs =>
    exact ⟨rs, rfl, C01_simulates_trace' env0 hist3 C01C_hist3_hyps.1 C01C_hist3_hyps.2.1 C01C_hist3_hyps.2.2 rs h⟩

set_option maxRecDepth 100000 in
/-- the step theorem instantiated after `hist3`: the reference answers `read_lines "/a/f"` with the three
    lines and `all_paths "/"` with the five keys (the link included) -/
example : isOkStrs [S "x", S "y", S "z"] (specStep env0 (absS (run env0 Memfs.init hist3)) (.readLines (S "/a/f"))) = true ∧
    isOkPaths [[S "a"], [S "a", S "b"], [S "a", S "b", S "g"], [S "a", S "f"], [S "l"]]
      (specStep env0 (absS (run env0 Memfs.init hist3)) (.allPaths (S "/"))) = true := by
  decide +kernel

/-! ### the repaired class, and the class hypotheses that cannot be dropped -/

set_option maxRecDepth 100000 in
/-- `files "/"` after `hist3` (formerly the witness of the class `listing_includes_links`): the link `/l`
    carries the `file` flag of its target; Memfs now skips it, like the reference (node kind `link`).
    `paths "/"` still lists it on both sides.  The call is inside the domain of the step theorem. -/
theorem C01C_listing_links_repaired :
    RInv (run env0 Memfs.init hist3) ∧ DepthDom' (run env0 Memfs.init hist3) (.files (S "/")) ∧
    classOf (run env0 Memfs.init hist3) env0 (.files (S "/")) = "-" ∧
    (step env0 (run env0 Memfs.init hist3) (.files (S "/"))).1 = .ok (.paths []) ∧
    isOkPaths [] (specStep env0 (absS (run env0 Memfs.init hist3)) (.files (S "/"))) = true ∧
    (step env0 (run env0 Memfs.init hist3) (.allFiles (S "/"))).1 =
      .ok (.paths [[S "a", S "b", S "g"], [S "a", S "f"]]) ∧
    isOkPaths [[S "a", S "b", S "g"], [S "a", S "f"]]
      (specStep env0 (absS (run env0 Memfs.init hist3)) (.allFiles (S "/"))) = true ∧
    (step env0 (run env0 Memfs.init hist3) (.paths (S "/"))).1 = .ok (.paths [[S "a"], [S "l"]]) ∧
    isOkPaths [[S "a"], [S "l"]] (specStep env0 (absS (run env0 Memfs.init hist3)) (.paths (S "/"))) = true := by
  refine ⟨C01R_good_run env0 _ hist3 (fun o ho => (C01C_hist3_hyps.1 o ho).1) C01R_init
    ((InvAll.noHangRun_iff env0 _ hist3).2 C01C_hist3_hyps.2.1), ⟨trivial, trivial⟩, rfl, ?_⟩
  decide +kernel

set_option maxRecDepth 100000 in
/-- `write_lines "/n" []` on the fresh filesystem does nothing, the reference creates the empty file —
    the class `empty_lines_noop` -/
theorem C01C_lines_class_needed :
    classOf Memfs.init env0 (.writeLines (S "/n") []) = "empty_lines_noop" ∧
    step env0 Memfs.init (.writeLines (S "/n") []) = (.ok .unit, Memfs.init) ∧
    hasFile [S "n"] [] (specStep env0 (absS Memfs.init) (.writeLines (S "/n") [])) = true ∧
    TreeFs.get (absS Memfs.init) [S "n"] = none := by
  decide +kernel

theorem isOkPaths_elim {x : List FsPath} {o : Option (R Val × T)} (h : isOkPaths x o = true) :
    ∃ t, o = some (.ok (.paths x), t) := by
  unfold isOkPaths at h
  split at h
  · rename_i y t; exact ⟨t, by rw [eq_of_beq h]⟩
  · cases h

theorem hasFile_elim {k : FsPath} {d : File.Bytes} {o : Option (R Val × T)} (h : hasFile k d o = true) :
    ∃ t, o = some (.ok .unit, t) ∧ (TreeFs.get t k).isSome = true := by
  unfold hasFile at h
  split at h
  · rename_i t
    refine ⟨t, rfl, ?_⟩
    cases hg : TreeFs.get t k with
    | none => rw [hg] at h; cases h
    | some n => rfl
  · cases h

set_option maxRecDepth 100000 in
theorem C01C_rinv_init : RInv Memfs.init := by decide +kernel

/-- the step statement without the class hypothesis is false (witness: the class `empty_lines_noop`; the
    former witness `files "/"` with a link below is repaired, see `C01C_listing_links_repaired`) -/
theorem C01C_step_needs_class :
    ¬ (∀ (env : Env) (s : State) (op : Op), GroupC op → RInv s → DepthDomC s op →
        ∀ r t', specStep env (absS s) op = some (r, t') →
          RefineB.ResMatch (step env s op).1 r ∧
            (r ≠ .unspecified → RefineB.TEquiv (absS (step env s op).2) t')) := by
  intro h
  obtain ⟨_, h2, h3, h4⟩ := C01C_lines_class_needed
  obtain ⟨t', hs, hg⟩ := hasFile_elim h3
  have hm := (h env0 Memfs.init (.writeLines (S "/n") []) trivial C01C_rinv_init trivial _ t' hs).2
    (by intro h0; cases h0)
  rw [h2] at hm
  have := hm.2 [S "n"]
  rw [h4] at this
  rw [← this] at hg
  cases hg

-- OUTSIDE `Refined'` (10 constructors of 53), and why:
--   * `mkfile_m`, `entry`, `copy`, `copy_b`, `entries`, `hWrite hAppend hPut hFlush hDrop` (the file-handle
--     protocol): `specStep` has no case (`none`) — the reference does not pin these down, a step theorem
--     would be vacuous and a single reference run (`refRun`) cannot continue over them by construction.
--     All ten are `GoodOp` (except `copy_b(..).follow(true)`), so they may occur in the prefix `pre` of
--     `C01_refines_history'`.
--   * option combinations of covered constructors with `specStep = none` (nothing to prove): `mkdir_m`
--     with mode 0 or above 0o7777, `chmod` / octal `chmod_b` above 0o7777, `chmod_b` / `chown_b` with
--     `follow`, `chmod_b` with BOTH an expression and an octal value.
--   * `DepthDomC` (`all_*`, recursive symbolic `chmod_b`: no key `u64::MAX` components deep) is a per-step
--     side condition like `DepthDom` (no invariant of the model); `C01_refines_history_small'` /
--     `C01_simulates_history_small'` replace it by "fewer than `usize::MAX` entries".  No witness can be
--     evaluated (a key of 2^64 components).

end Rivia.Props
