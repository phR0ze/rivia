/-
  C08S — the snapshot hypotheses of the traversal theorems, discharged.

  `Memfs::_clone_entries` (model `cloneLoop` / `cloneEntries` / `entriesOf`) is run by every traversal
  before the iterator starts. C08 / C08F / C09 take what it produces as explicit hypotheses
  (`SnapWf snap`, `InSnap snap rootE`, `SnapOf s a snap`, for C09 the pre-order listing and the
  traversal yielding it). Here they are proved from the global invariant `C03_Strong s`
  (= `Inv ∧ KeysWf ∧ SortedKids ∧ FlagsOk`, Props/C03.lean), which every reachable state satisfies,
  and the theorems are restated without them, for every state with `C03_Strong` and for every
  reachable state.

  Property theorems ONLY; proofs in Rivia/Lemmas/{Snapshot,SnapshotCopy}.lean.

  Remarks
  * The snapshot contains more than the subtree of `a`: the existing targets of the links it meets
    and the subtrees of those targets go through the same worklist (`C08S_witness_link_target`).
    `SnapOf s a snap` only speaks about keys at or below `a`, and every pair of the snapshot is a
    pair of the state (`C08S_snapshot_sub`), so `SnapOf` as defined is TRUE of these snapshots.
  * Strict sortedness of the child lists (`SnapWf`) comes from `C03_SortedKids` (non-strict order)
    and the absence of duplicate names (`Inv`), through trichotomy of `strLt`.
  * `DepthOk s` (no key `2^64` names deep; decidable) is needed for the copy theorem only: the model
    keeps the implementation's default `max_depth = u64::MAX`.
-/
import Rivia.Props.C03
import Rivia.Props.C08
import Rivia.Props.C08F
import Rivia.Props.C09
import Rivia.Lemmas.SnapshotCopy

namespace Rivia.Props
open Rivia Rivia.Memfs Rivia.Spec Rivia.Spec.TreeFs Rivia.Lemmas
open Rivia.Lemmas.WalkF (fuelNeed)
open Rivia.Lemmas.Snap (DepthOk)
open Rivia.Spec.TreeFs (pathLt)

/-! ### 1. the snapshot is correct -/

/-- **`_clone_entries` is correct**: on every state satisfying the global invariant, for every
    existing key `a`, `entriesOf s a` succeeds (no `DoesNotExist`, no fuel-truncated result) with the
    entry stored at `a` and a snapshot that is well-formed, holds the root entry under its key, and
    agrees with the state on every key at or below `a` -/
theorem snapshot_correct (s : State) (h : C03_Strong s) (a : FsPath) (rootE : Entry)
    (hroot : alLookup a s.entries = some rootE) :
    ∃ snap, entriesOf s a = .ok (rootE, snap) ∧ SnapWf snap ∧ InSnap snap rootE ∧ SnapOf s a snap := by
  obtain ⟨snap, h1, h2, h3, h4, _⟩ := Snap.snapshot_correct_core h.1 h.2.2.1 hroot
  exact ⟨snap, h1, h2, h3, h4⟩

/-- nothing is invented: every pair of the snapshot is a pair of the state, also the link targets
    (and their subtrees) that lie outside the subtree of `a` -/
theorem C08S_snapshot_sub (s : State) (h : C03_Strong s) (a : FsPath) (rootE : Entry) (snap : Snap)
    (hent : entriesOf s a = .ok (rootE, snap)) : ∀ kv ∈ snap, kv ∈ s.entries :=
  (Snap.entriesOf_correct h.1 h.2.2.1 hent).2.2.2.2

/-- the same read from a successful `entriesOf`: whatever it returns satisfies the snapshot
    hypotheses of C08 / C08F -/
theorem C08S_entriesOf_correct (s : State) (h : C03_Strong s) (a : FsPath) (rootE : Entry) (snap : Snap)
    (hent : entriesOf s a = .ok (rootE, snap)) :
    alLookup a s.entries = some rootE ∧ SnapWf snap ∧ InSnap snap rootE ∧ SnapOf s a snap :=
  have ⟨h0, h1, h2, h3, _⟩ := Snap.entriesOf_correct h.1 h.2.2.1 hent
  ⟨h0, h1, h2, h3⟩

/-- `entriesOf` fails exactly when the key does not exist, and then with `DoesNotExist` -/
theorem C08S_entriesOf_outcome (s : State) (h : C03_Strong s) (a : FsPath) :
    (∃ rootE snap, alLookup a s.entries = some rootE ∧ entriesOf s a = .ok (rootE, snap)) ∨
    (alLookup a s.entries = none ∧ entriesOf s a = .err .doesNotExist) := by
  cases hl : alLookup a s.entries with
  | none => exact .inr ⟨rfl, Snap.entriesOf_missing hl⟩
  | some e =>
    obtain ⟨snap, h1, _⟩ := snapshot_correct s h a e hl
    exact .inl ⟨e, snap, rfl, h1⟩

namespace C08Sw
/-- `/`, `/a/`, `/a/l -> /t`, `/t/`, `/t/x` -/
def sK : State :=
  { entries := [([], { mkDirEntry [] none with files := some [['a'], ['t']] }),
                ([['a']], { mkDirEntry [['a']] none with files := some [['l']] }),
                ([['a'], ['l']], C08Fw.mkLink [['a'], ['l']] [['t']]),
                ([['t']], { mkDirEntry [['t']] none with files := some [['x']] }),
                ([['t'], ['x']], mkFileEntry [['t'], ['x']])],
    files := [([['t'], ['x']], [])], cwd := [], root := [], handles := [] }
end C08Sw

/-- witness: the snapshot of `/a` contains the link's target `/t` and its child `/t/x`, which are
    not below `/a`; `SnapWf`, `InSnap`, `SnapOf` hold of it (as `snapshot_correct` says).
    Also non-vacuity of `C03_Strong` on a state with a link. -/
theorem C08S_witness_link_target :
    C03_Strong C08Sw.sK ∧
    ∃ rootE snap, entriesOf C08Sw.sK [['a']] = .ok (rootE, snap) ∧
      snap.map (·.1) = [[['a']], [['a'], ['l']], [['t']], [['t'], ['x']]] ∧
      SnapWf snap ∧ InSnap snap rootE ∧ SnapOf C08Sw.sK [['a']] snap :=
  ⟨by decide +kernel, _, _, rfl, by decide +kernel, by decide +kernel, by decide +kernel, by decide +kernel⟩

/-- `SortedKids` cannot be dropped: on `C03_wUnsorted` (`Inv` holds, `/` lists `b, a, c`; no history
    produces it) the snapshot is not `SnapWf`, so `snapshot_correct` from `Spec.Inv` alone is false -/
def snapshot_correct_inv_only : Prop :=
  ∀ (s : State) (a : FsPath) (rootE : Entry), Spec.Inv s → alLookup a s.entries = some rootE →
    ∃ snap, entriesOf s a = .ok (rootE, snap) ∧ SnapWf snap ∧ InSnap snap rootE ∧ SnapOf s a snap

theorem snapshot_correct_inv_only_false : ¬ snapshot_correct_inv_only := by
  intro h
  have hinv : Spec.Inv C03_wUnsorted := C03_inv_breaks_on_unsorted.1
  obtain ⟨snap, h1, h2, _⟩ := h C03_wUnsorted [] _ hinv rfl
  have h3 : ∃ snap', entriesOf C03_wUnsorted [] = .ok (_, snap') ∧ ¬ SnapWf snap' := ⟨_, rfl, by decide +kernel⟩
  obtain ⟨snap', h4, h5⟩ := h3
  rw [h1] at h4
  cases h4
  exact h5 h2

/-! ### 2. the theorems of C08 / C08F / C09 without snapshot hypotheses -/

/-- C08 a./c. at state level: for every option combination of `ExactDom` the traversal of what
    `entriesOf` returns yields exactly the recursive walk -/
theorem C08_exact_strong (s : State) (h : C03_Strong s) (a : FsPath) (rootE : Entry) (snap : Snap) (o : Opts)
    (hent : entriesOf s a = .ok (rootE, snap)) (hdom : ExactDom o) :
    collectEntries snap o rootE = .ok (entriesSpec snap o rootE) := by
  obtain ⟨_, hwf, hr, _⟩ := C08S_entriesOf_correct s h a rootE snap hent
  exact C08_exact snap o rootE hwf hr hdom

/-- the side condition of the `files().contents_first()` theorems is discharged on every state
    satisfying the strengthened invariant: its fourth conjunct says no entry carries both kind
    flags, and every pair of a snapshot is a pair of the state (`C08S_snapshot_sub`) -/
theorem flagsExcl_of_strong (s : State) (h : C03_Strong s) (a : FsPath) (rootE : Entry) (snap : Snap)
    (hent : entriesOf s a = .ok (rootE, snap)) : Lemmas.WalkCF.FlagsExcl snap := by
  intro kv hkv hd
  have hm := C08S_snapshot_sub s h a rootE snap hent kv hkv
  have hf := h.2.2.2 kv hm
  cases hfile : kv.2.file with
  | false => rfl
  | true => exact absurd ⟨hfile, hd⟩ hf

/-- the same on the wider domain `ExactDom2` (after the repair of `process`: `contents_first` with
    a kind filter, `min_depth = 0`), without any hypothesis on the snapshot -/
theorem C08_exact2_strong (s : State) (h : C03_Strong s) (a : FsPath) (rootE : Entry) (snap : Snap) (o : Opts)
    (hent : entriesOf s a = .ok (rootE, snap)) (hdom : Lemmas.WalkCF.ExactDom2 o) :
    collectEntries snap o rootE = .ok (entriesSpec snap o rootE) := by
  obtain ⟨_, hwf, hr, _⟩ := C08S_entriesOf_correct s h a rootE snap hent
  exact C08_exact2 snap o rootE hwf hr hdom (fun _ _ => flagsExcl_of_strong s h a rootE snap hent)

/-- the final form (both `contents_first` findings repaired): on every state satisfying the
    strengthened invariant, for EVERY option combination with `follow = false`, `OrdOk`, `KindOk`
    (any depth window, kind filter, ordering, `contents_first`, cap) the traversal of what
    `entriesOf` returns yields exactly the recursive walk -/
theorem C08_exact3_strong (s : State) (h : C03_Strong s) (a : FsPath) (rootE : Entry) (snap : Snap) (o : Opts)
    (hent : entriesOf s a = .ok (rootE, snap)) (hdom : Lemmas.WalkCF.ExactDom3 o) :
    collectEntries snap o rootE = .ok (entriesSpec snap o rootE) := by
  obtain ⟨_, hwf, hr, _⟩ := C08S_entriesOf_correct s h a rootE snap hent
  exact C08_exact3 snap o rootE hwf hr hdom

/-- `C08_listing_helpers` without `entriesOf` / `SnapWf` / `SnapOf` hypotheses: `paths`, `dirs`,
    `files` (`maxDepth = some 1`) and `all_*` (`none`) of a real directory `a` succeed and return, in
    lexicographic order and without repetition, exactly the keys strictly below `a` within the depth
    limit whose entry is a real file (`file ∧ ¬link`) / a real directory (`dir ∧ ¬link`) — all keys
    below for `paths` / `all_paths` -/
theorem C08_listing_helpers_strong (env : Env) (path : Str) (maxDepth : Option Nat) (dirs files : Bool)
    (s : State) (a : FsPath)
    (h : C03_Strong s) (habs : absM env path s = (.ok a, s)) (hdir : isDirP s a = true) :
    ∃ ps, listing env path maxDepth dirs files s = (.ok ps, s) ∧
      ps.Pairwise (fun p q => pathLt p q = true) ∧ ps.Nodup ∧ a ∉ ps ∧
      ∀ p, p ∈ ps ↔ ∃ t e, p = a ++ t ∧ t ≠ [] ∧ t.length ≤ depthCap maxDepth ∧
        alLookup p s.entries = some e ∧ (files = true → e.file = true ∧ e.link = false) ∧
        (dirs = true → files = false → e.dir = true ∧ e.link = false) := by
  cases hl : alLookup a s.entries with
  | none => unfold isDirP at hdir; rw [hl] at hdir; cases hdir
  | some rootE =>
    obtain ⟨snap, hent, hwf, _, hso⟩ := snapshot_correct s h a rootE hl
    obtain ⟨ps, h1, _, h3, h4, h5, h6⟩ :=
      C08_listing_helpers env path maxDepth dirs files s a rootE snap h.1 habs hdir hent hwf hso
    exact ⟨ps, h1, h3, h4, h5, h6⟩

/-- the walk-order clause of `C08_listing_helpers`, for the snapshot `entriesOf` returns -/
theorem C08_listing_walk_order_strong (env : Env) (path : Str) (maxDepth : Option Nat) (dirs files : Bool)
    (s : State) (a : FsPath) (rootE : Entry) (snap : Snap)
    (h : C03_Strong s) (habs : absM env path s = (.ok a, s)) (hdir : isDirP s a = true)
    (hent : entriesOf s a = .ok (rootE, snap)) :
    listing env path maxDepth dirs files s =
      (.ok (((entriesSpec snap (listingOpts maxDepth dirs files) rootE).filter
              (fun e => !((dirs || files) && e.link))).map (·.path)), s) := by
  obtain ⟨_, hwf, _, hso⟩ := C08S_entriesOf_correct s h a rootE snap hent
  obtain ⟨ps, h1, h2, _⟩ :=
    C08_listing_helpers env path maxDepth dirs files s a rootE snap h.1 habs hdir hent hwf hso
  rw [h1, h2]

/-- `C08_listing_agrees_with_queries` without snapshot hypotheses (and, since the repair of
    `listing_includes_links`, without any hypothesis about links): the listed paths are exactly the paths
    strictly below `a` within the depth limit that exist and satisfy `is_file` (`files` / `all_files`),
    `is_dir` (`dirs` / `all_dirs`) -/
theorem C08_listing_agrees_with_queries_strong (env : Env) (path : Str) (maxDepth : Option Nat)
    (dirs files : Bool) (s : State) (a : FsPath) (ps : List FsPath)
    (h : C03_Strong s) (habs : absM env path s = (.ok a, s)) (hdir : isDirP s a = true)
    (hl : listing env path maxDepth dirs files s = (.ok ps, s)) :
    ∀ p, p ∈ ps ↔ ∃ t e, p = a ++ t ∧ t ≠ [] ∧ t.length ≤ depthCap maxDepth ∧
      alLookup p s.entries = some e ∧
      (files = true → (e.file && !e.link) = true) ∧ (dirs = true → files = false → isDirP s p = true) := by
  cases hlk : alLookup a s.entries with
  | none => unfold isDirP at hdir; rw [hlk] at hdir; cases hdir
  | some rootE =>
    obtain ⟨snap, hent, hwf, _, hso⟩ := snapshot_correct s h a rootE hlk
    exact C08_listing_agrees_with_queries env path maxDepth dirs files s a rootE snap ps h.1 habs hdir
      hent hwf hso hl

/-- `C08F_entries_op_partial` with `SnapWf` / `InSnap` discharged: the operation `entries(path)` with
    links followed returns the paths of the recursive walk `entriesSpecF` over the snapshot, in
    order, and the walk's error; the state is unchanged. (`hfuel` is about the MODEL's fuel only, see
    C08F: the walk with links followed can be exponentially larger than the snapshot.) -/
theorem C08F_entries_op_strong (env : Env) (p : Str) (r : TravReq) (s : State) (k : FsPath) (rootE : Entry)
    (snap : Snap) (h : C03_Strong s) (habs : absM env p s = (.ok k, s))
    (hent : entriesOf s k = .ok (rootE, snap)) (hdom : ExactDomF r.opts)
    (hfuel : fuelNeed snap r.opts rootE ≤ travFuel snap) :
    step env s (.entries p r) =
      (.ok (.trav ((entriesSpecF snap r.opts rootE).1.map (·.path)) (entriesSpecF snap r.opts rootE).2), s) := by
  obtain ⟨_, hwf, hr, _⟩ := C08S_entriesOf_correct s h k rootE snap hent
  exact C08F_entries_op_partial env p r s k rootE snap habs hent hwf hr hdom hfuel

/-- the same on the wider domain `ExactDomF2` (`contents_first` with a kind filter, repaired) -/
theorem C08F_entries_op2_strong (env : Env) (p : Str) (r : TravReq) (s : State) (k : FsPath) (rootE : Entry)
    (snap : Snap) (h : C03_Strong s) (habs : absM env p s = (.ok k, s))
    (hent : entriesOf s k = .ok (rootE, snap)) (hdom : Lemmas.WalkCF.ExactDomF2 r.opts)
    (hfuel : fuelNeed snap r.opts rootE ≤ travFuel snap) :
    step env s (.entries p r) =
      (.ok (.trav ((entriesSpecF snap r.opts rootE).1.map (·.path)) (entriesSpecF snap r.opts rootE).2), s) := by
  obtain ⟨_, hwf, hr, _⟩ := C08S_entriesOf_correct s h k rootE snap hent
  exact C08F_entries_op2_partial env p r s k rootE snap habs hent hwf hr hdom
    (fun _ _ => flagsExcl_of_strong s h k rootE snap hent) hfuel

/-- the final form with links followed: every option combination of `ExactDomF3` -/
theorem C08F_entries_op3_strong (env : Env) (p : Str) (r : TravReq) (s : State) (k : FsPath) (rootE : Entry)
    (snap : Snap) (h : C03_Strong s) (habs : absM env p s = (.ok k, s))
    (hent : entriesOf s k = .ok (rootE, snap)) (hdom : Lemmas.WalkCF.ExactDomF3 r.opts)
    (hfuel : fuelNeed snap r.opts rootE ≤ travFuel snap) :
    step env s (.entries p r) =
      (.ok (.trav ((entriesSpecF snap r.opts rootE).1.map (·.path)) (entriesSpecF snap r.opts rootE).2), s) := by
  obtain ⟨_, hwf, hr, _⟩ := C08S_entriesOf_correct s h k rootE snap hent
  exact C08F_entries_op3 env p r s k rootE snap habs hent hwf hr hdom hfuel

/-- the same from the existence of the key: `entriesOf` succeeds, and the operation returns the walk -/
theorem C08F_entries_op_strong' (env : Env) (p : Str) (r : TravReq) (s : State) (k : FsPath) (rootE : Entry)
    (h : C03_Strong s) (habs : absM env p s = (.ok k, s))
    (hroot : alLookup k s.entries = some rootE) (hdom : ExactDomF r.opts) :
    ∃ snap, entriesOf s k = .ok (rootE, snap) ∧ SnapOf s k snap ∧
      (fuelNeed snap r.opts rootE ≤ travFuel snap →
        step env s (.entries p r) =
          (.ok (.trav ((entriesSpecF snap r.opts rootE).1.map (·.path)) (entriesSpecF snap r.opts rootE).2), s)) := by
  obtain ⟨snap, hent, _, _, hso⟩ := snapshot_correct s h k rootE hroot
  exact ⟨snap, hent, hso, fun hfuel => C08F_entries_op_strong env p r s k rootE snap h habs hent hdom hfuel⟩

/-- with links followed the traversal of what `entriesOf` returns never hangs (any fuel from
    `fuelNeed` on), for every option combination with `OrdOk` -/
theorem C08F_terminates_strong (s : State) (h : C03_Strong s) (a : FsPath) (rootE : Entry) (snap : Snap)
    (o : Opts) (f : Nat) (hent : entriesOf s a = .ok (rootE, snap)) (hfol : o.follow = true) (hord : OrdOk o)
    (hf : fuelNeed snap o rootE ≤ f) : (modelRun snap o rootE f).2 ≠ .hang := by
  obtain ⟨_, hwf, hr, _⟩ := C08S_entriesOf_correct s h a rootE snap hent
  exact C08F_terminates_all_options snap o rootE f hwf hr hfol hord hf

/-- C09 (f) `C09_copy_tree_partial` with the traversal hypotheses discharged (`entriesOf`, the
    `PreOrder` listing, and "the unsorted no-follow traversal feeds the consumer that listing" for
    every consumer): in the setting `TreeCtx` a no-follow `copy` of a link-free subtree succeeds, the
    reference copy succeeds, and the abstraction of the post-state is the reference's post-state -/
theorem C09_copy_tree_strong {env : Env} {a b : Str} {c : CopyOpts} {s : State} {sk dk : FsPath}
    {rootE : Entry} (h : C03_Strong s) (hd : DepthOk s) (ctx : TreeCtx s sk dk c)
    (ha : absM env a s = (.ok sk, s)) (hb : absM env b s = (.ok dk, s)) (hne : sk ≠ dk)
    (hsrc : alLookup sk s.entries = some rootE) :
    ∃ s', step env s (.copyB a b c) = (.ok .unit, s') ∧
      (copySpec (absS s) sk dk c.mode c.cdirs c.cfiles).1 = .ok () ∧
      TEquiv (absS s') (copySpec (absS s) sk dk c.mode c.cdirs c.cfiles).2 := by
  obtain ⟨s', h1, h2, h3⟩ := Snap.copy_tree_refines_strong h.1 h.2.2.1 hd ctx ha hb hne hsrc
  refine ⟨s', ?_, h2, h3⟩
  show mapVal (fun _ => Val.unit) (copyM env a b c) s = _
  unfold mapVal
  rw [h1]

/-- the two traversal facts behind it, at snapshot level: for ANY consumer (it may fail and stop the
    loop) the parents-first no-follow machine feeds it exactly the recursive walk … -/
theorem C08S_runIter_feeds_walk {σ : Type} (snap : Snap) (o : Opts) (rootE : Entry)
    (hwf : SnapWf snap) (hroot : InSnap snap rootE) (hfol : o.follow = false)
    (hcf : o.contentsFirst = false) (hord : OrdOk o) (hk : KindOk o)
    (step : Entry → σ → Outcome Unit × σ) (w : σ) :
    runIter snap o noPre rootE step (travFuel snap) {} w = runList step (entriesSpec snap o rootE) w :=
  Snap.runIter_walk hwf hfol hcf hord hk hroot step w

/-- … and the walk with the options of `copy` is a pre-order listing of the subtree -/
theorem C08S_copy_walk_preorder (s : State) (h : C03_Strong s) (hd : DepthOk s) (sk : FsPath)
    (rootE : Entry) (snap : Snap) (hent : entriesOf s sk = .ok (rootE, snap)) :
    PreOrder s sk (entriesSpec snap (copyOpts false) rootE) := by
  obtain ⟨hl, hwf, hr, hso⟩ := C08S_entriesOf_correct s h sk rootE snap hent
  exact Snap.preOrder_walk h.1 hd hwf hr hso ((invF_of_inv h.1).path sk rootE hl)

/-! ### 3. every reachable state -/

/-- every state reachable from the fresh filesystem (any environment, any history of calls each of
    which returns) and every existing key: the snapshot is correct -/
theorem snapshot_correct_reachable (env : Env) (ops : List Op)
    (hh : ∀ pre op post, ops = pre ++ op :: post → (step env (run env Memfs.init pre) op).1 ≠ .hang)
    (a : FsPath) (rootE : Entry) (hroot : alLookup a (run env Memfs.init ops).entries = some rootE) :
    ∃ snap, entriesOf (run env Memfs.init ops) a = .ok (rootE, snap) ∧ SnapWf snap ∧ InSnap snap rootE ∧
      SnapOf (run env Memfs.init ops) a snap :=
  snapshot_correct _ (C03_strong_reachable env ops hh) a rootE hroot

theorem C08_listing_helpers_reachable (env₀ : Env) (ops : List Op)
    (hh : ∀ pre op post, ops = pre ++ op :: post → (step env₀ (run env₀ Memfs.init pre) op).1 ≠ .hang)
    (env : Env) (path : Str) (maxDepth : Option Nat) (dirs files : Bool) (a : FsPath)
    (habs : absM env path (run env₀ Memfs.init ops) = (.ok a, run env₀ Memfs.init ops))
    (hdir : isDirP (run env₀ Memfs.init ops) a = true) :
    ∃ ps, listing env path maxDepth dirs files (run env₀ Memfs.init ops) = (.ok ps, run env₀ Memfs.init ops) ∧
      ps.Pairwise (fun p q => pathLt p q = true) ∧ ps.Nodup ∧ a ∉ ps ∧
      ∀ p, p ∈ ps ↔ ∃ t e, p = a ++ t ∧ t ≠ [] ∧ t.length ≤ depthCap maxDepth ∧
        alLookup p (run env₀ Memfs.init ops).entries = some e ∧ (files = true → e.file = true ∧ e.link = false) ∧
        (dirs = true → files = false → e.dir = true ∧ e.link = false) :=
  C08_listing_helpers_strong env path maxDepth dirs files _ a (C03_strong_reachable env₀ ops hh) habs hdir

theorem C08_listing_agrees_with_queries_reachable (env₀ : Env) (ops : List Op)
    (hh : ∀ pre op post, ops = pre ++ op :: post → (step env₀ (run env₀ Memfs.init pre) op).1 ≠ .hang)
    (env : Env) (path : Str) (maxDepth : Option Nat) (dirs files : Bool) (a : FsPath) (ps : List FsPath)
    (habs : absM env path (run env₀ Memfs.init ops) = (.ok a, run env₀ Memfs.init ops))
    (hdir : isDirP (run env₀ Memfs.init ops) a = true)
    (hl : listing env path maxDepth dirs files (run env₀ Memfs.init ops) = (.ok ps, run env₀ Memfs.init ops)) :
    ∀ p, p ∈ ps ↔ ∃ t e, p = a ++ t ∧ t ≠ [] ∧ t.length ≤ depthCap maxDepth ∧
      alLookup p (run env₀ Memfs.init ops).entries = some e ∧
      (files = true → (e.file && !e.link) = true) ∧
      (dirs = true → files = false → isDirP (run env₀ Memfs.init ops) p = true) :=
  C08_listing_agrees_with_queries_strong env path maxDepth dirs files _ a ps
    (C03_strong_reachable env₀ ops hh) habs hdir hl

theorem C08F_entries_op_reachable (env₀ : Env) (ops : List Op)
    (hh : ∀ pre op post, ops = pre ++ op :: post → (step env₀ (run env₀ Memfs.init pre) op).1 ≠ .hang)
    (env : Env) (p : Str) (r : TravReq) (k : FsPath) (rootE : Entry) (snap : Snap)
    (habs : absM env p (run env₀ Memfs.init ops) = (.ok k, run env₀ Memfs.init ops))
    (hent : entriesOf (run env₀ Memfs.init ops) k = .ok (rootE, snap)) (hdom : ExactDomF r.opts)
    (hfuel : fuelNeed snap r.opts rootE ≤ travFuel snap) :
    step env (run env₀ Memfs.init ops) (.entries p r) =
      (.ok (.trav ((entriesSpecF snap r.opts rootE).1.map (·.path)) (entriesSpecF snap r.opts rootE).2),
        run env₀ Memfs.init ops) :=
  C08F_entries_op_strong env p r _ k rootE snap (C03_strong_reachable env₀ ops hh) habs hent hdom hfuel

/-- `C08_exact2_strong` on reachable states: `contents_first` with `dirs()` / `files()`
    (`min_depth = 0`) yields exactly the recursive walk, no snapshot hypothesis left -/
theorem C08_exact2_reachable (env₀ : Env) (ops : List Op)
    (hh : ∀ pre op post, ops = pre ++ op :: post → (step env₀ (run env₀ Memfs.init pre) op).1 ≠ .hang)
    (a : FsPath) (rootE : Entry) (snap : Snap) (o : Opts)
    (hent : entriesOf (run env₀ Memfs.init ops) a = .ok (rootE, snap)) (hdom : Lemmas.WalkCF.ExactDom2 o) :
    collectEntries snap o rootE = .ok (entriesSpec snap o rootE) :=
  C08_exact2_strong _ (C03_strong_reachable env₀ ops hh) a rootE snap o hent hdom

/-- `C08_exact3_strong` on reachable states -/
theorem C08_exact3_reachable (env₀ : Env) (ops : List Op)
    (hh : ∀ pre op post, ops = pre ++ op :: post → (step env₀ (run env₀ Memfs.init pre) op).1 ≠ .hang)
    (a : FsPath) (rootE : Entry) (snap : Snap) (o : Opts)
    (hent : entriesOf (run env₀ Memfs.init ops) a = .ok (rootE, snap)) (hdom : Lemmas.WalkCF.ExactDom3 o) :
    collectEntries snap o rootE = .ok (entriesSpec snap o rootE) :=
  C08_exact3_strong _ (C03_strong_reachable env₀ ops hh) a rootE snap o hent hdom

/-- `C08F_entries_op3_strong` on reachable states -/
theorem C08F_entries_op3_reachable (env₀ : Env) (ops : List Op)
    (hh : ∀ pre op post, ops = pre ++ op :: post → (step env₀ (run env₀ Memfs.init pre) op).1 ≠ .hang)
    (env : Env) (p : Str) (r : TravReq) (k : FsPath) (rootE : Entry) (snap : Snap)
    (habs : absM env p (run env₀ Memfs.init ops) = (.ok k, run env₀ Memfs.init ops))
    (hent : entriesOf (run env₀ Memfs.init ops) k = .ok (rootE, snap)) (hdom : Lemmas.WalkCF.ExactDomF3 r.opts)
    (hfuel : fuelNeed snap r.opts rootE ≤ travFuel snap) :
    step env (run env₀ Memfs.init ops) (.entries p r) =
      (.ok (.trav ((entriesSpecF snap r.opts rootE).1.map (·.path)) (entriesSpecF snap r.opts rootE).2),
        run env₀ Memfs.init ops) :=
  C08F_entries_op3_strong env p r _ k rootE snap (C03_strong_reachable env₀ ops hh) habs hent hdom hfuel

/-- `C08F_entries_op2_strong` on reachable states -/
theorem C08F_entries_op2_reachable (env₀ : Env) (ops : List Op)
    (hh : ∀ pre op post, ops = pre ++ op :: post → (step env₀ (run env₀ Memfs.init pre) op).1 ≠ .hang)
    (env : Env) (p : Str) (r : TravReq) (k : FsPath) (rootE : Entry) (snap : Snap)
    (habs : absM env p (run env₀ Memfs.init ops) = (.ok k, run env₀ Memfs.init ops))
    (hent : entriesOf (run env₀ Memfs.init ops) k = .ok (rootE, snap)) (hdom : Lemmas.WalkCF.ExactDomF2 r.opts)
    (hfuel : fuelNeed snap r.opts rootE ≤ travFuel snap) :
    step env (run env₀ Memfs.init ops) (.entries p r) =
      (.ok (.trav ((entriesSpecF snap r.opts rootE).1.map (·.path)) (entriesSpecF snap r.opts rootE).2),
        run env₀ Memfs.init ops) :=
  C08F_entries_op2_strong env p r _ k rootE snap (C03_strong_reachable env₀ ops hh) habs hent hdom hfuel

theorem C09_copy_tree_reachable (env₀ : Env) (ops : List Op)
    (hh : ∀ pre op post, ops = pre ++ op :: post → (step env₀ (run env₀ Memfs.init pre) op).1 ≠ .hang)
    {env : Env} {a b : Str} {c : CopyOpts} {sk dk : FsPath} {rootE : Entry}
    (hd : DepthOk (run env₀ Memfs.init ops)) (ctx : TreeCtx (run env₀ Memfs.init ops) sk dk c)
    (ha : absM env a (run env₀ Memfs.init ops) = (.ok sk, run env₀ Memfs.init ops))
    (hb : absM env b (run env₀ Memfs.init ops) = (.ok dk, run env₀ Memfs.init ops)) (hne : sk ≠ dk)
    (hsrc : alLookup sk (run env₀ Memfs.init ops).entries = some rootE) :
    ∃ s', step env (run env₀ Memfs.init ops) (.copyB a b c) = (.ok .unit, s') ∧
      (copySpec (absS (run env₀ Memfs.init ops)) sk dk c.mode c.cdirs c.cfiles).1 = .ok () ∧
      TEquiv (absS s') (copySpec (absS (run env₀ Memfs.init ops)) sk dk c.mode c.cdirs c.cfiles).2 :=
  C09_copy_tree_strong (C03_strong_reachable env₀ ops hh) hd ctx ha hb hne hsrc

/-! ### non-vacuity -/

/-- the hypotheses of `C09_copy_tree_strong` hold of `copy("/a", "/d")` on `smallState` (C09's
    witness): the theorem applies without any traversal hypothesis -/
example : ∃ s', step (fun _ => none) smallState (.copyB ['/', 'a'] ['/', 'd'] {}) = (.ok .unit, s') ∧
    (copySpec (absS smallState) [['a']] [['d']] none false false).1 = .ok () ∧
    TEquiv (absS s') (copySpec (absS smallState) [['a']] [['d']] none false false).2 :=
  C09_copy_tree_strong (c := {}) (rootE := eA) (by decide) (by decide) treeCtx_small (by decide) (by decide)
    (by decide) (by decide)

/-- the remaining hypotheses of `C08F_entries_op_strong` (all but `absM`, the string pipeline of C05)
    hold on the state with a link `C08Sw.sK`, walking `/a` with links followed -/
example : ∃ rootE snap, C03_Strong C08Sw.sK ∧ entriesOf C08Sw.sK [['a']] = .ok (rootE, snap) ∧
    ExactDomF ({ follow := true } : TravReq).opts ∧
    fuelNeed snap ({ follow := true } : TravReq).opts rootE ≤ travFuel snap ∧
    ((entriesSpecF snap ({ follow := true } : TravReq).opts rootE).1.map (·.path),
      (entriesSpecF snap ({ follow := true } : TravReq).opts rootE).2) =
      ([[['a']], [['t']], [['t'], ['x']]], none) :=
  ⟨_, _, by decide +kernel, rfl, by decide +kernel, by decide +kernel, by decide +kernel⟩

/-- the reachable-state theorems apply to a concrete history (hypothesis `hh` satisfiable, for every
    environment): the snapshot of `/` is correct there -/
example (env : Env) : ∃ rootE snap,
    entriesOf (run env Memfs.init [Op.exists ['a'], Op.isDir ['/'], Op.cwd]) [] = .ok (rootE, snap) ∧
    SnapWf snap ∧ SnapOf (run env Memfs.init [Op.exists ['a'], Op.isDir ['/'], Op.cwd]) [] snap := by
  have hh := (InvAll.noHangRun_iff env Memfs.init [Op.exists ['a'], Op.isDir ['/'], Op.cwd]).1
    (InvAll.noHangRun_simpleQueries env _ _ (by simp [InvAll.simpleQuery]))
  obtain ⟨rootE, hroot, _⟩ := (invF_of_inv (C03_inv_reachable env _ hh)).root
  obtain ⟨snap, h1, h2, _, h4⟩ := snapshot_correct_reachable env _ hh [] rootE hroot
  exact ⟨rootE, snap, h1, h2, h4⟩

/-
  -- OPEN / limits:
  -- * `hfuel : fuelNeed snap r.opts rootE ≤ travFuel snap` of the follow=true theorems is about the
  --   model's traversal fuel, not about the snapshot; it is not dischargeable (C08F: the walk with
  --   links followed can be exponentially larger than the snapshot, diamond chains).
  -- * `DepthOk` is not an invariant of `C03_Strong` (nothing bounds the depth of a key); it is a
  --   decidable side condition of the copy theorem only.
  -- * C09 with `follow = true`, and the copy of subtrees containing links: outside `TreeCtx` (C09).
-/

end Rivia.Props
