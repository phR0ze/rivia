/-
  C18 — XDG directory lookup honours the environment with the right precedence.
  Decision logic stated outright. Property theorems ONLY.
-/
import Rivia.Model.User
import Rivia.Lemmas.User

namespace Rivia.Props
open Rivia Rivia.User

def var (s : String) : Str := s.toList

/-! ### config_dir / cache_dir / data_dir / state_dir: the XDG_*_HOME value when set, else the
    specification's default under $HOME; error iff both are unset -/
theorem C18_config_dir_set (env : Env) (x : Str) (h : env (var "XDG_CONFIG_HOME") = some x) : configDir env = .ok x :=
  Lemmas.homeOr_set _ h
theorem C18_cache_dir_set (env : Env) (x : Str) (h : env (var "XDG_CACHE_HOME") = some x) : cacheDir env = .ok x :=
  Lemmas.homeOr_set _ h
theorem C18_data_dir_set (env : Env) (x : Str) (h : env (var "XDG_DATA_HOME") = some x) : dataDir env = .ok x :=
  Lemmas.homeOr_set _ h
theorem C18_state_dir_set (env : Env) (x : Str) (h : env (var "XDG_STATE_HOME") = some x) : stateDir env = .ok x :=
  Lemmas.homeOr_set _ h

/-- defaults: `$HOME/.config`, `$HOME/.cache`, `$HOME/.local/share`, `$HOME/.local/state`
    (as paths: the components of $HOME followed by the default's components) -/
theorem C18_home_defaults (env : Env) (h : Str) (hh : env (var "HOME") = some h) (hne : h ≠ []) :
    (env (var "XDG_CONFIG_HOME") = none → ∃ r, configDir env = .ok r ∧
        components r = components h ++ [.normal (var ".config")]) ∧
    (env (var "XDG_CACHE_HOME") = none → ∃ r, cacheDir env = .ok r ∧
        components r = components h ++ [.normal (var ".cache")]) ∧
    (env (var "XDG_DATA_HOME") = none → ∃ r, dataDir env = .ok r ∧
        components r = components h ++ [.normal (var ".local"), .normal (var "share")]) ∧
    (env (var "XDG_STATE_HOME") = none → ∃ r, stateDir env = .ok r ∧
        components r = components h ++ [.normal (var ".local"), .normal (var "state")]) := by
  have w1 : Lemmas.Wf (var ".config") := by unfold Lemmas.Wf var; decide +kernel
  have w2 : Lemmas.Wf (var ".cache") := by unfold Lemmas.Wf var; decide +kernel
  have w3 : Lemmas.Wf (var ".local") := by unfold Lemmas.Wf var; decide +kernel
  have w4 : Lemmas.Wf (var "share") := by unfold Lemmas.Wf var; decide +kernel
  have w5 : Lemmas.Wf (var "state") := by unfold Lemmas.Wf var; decide +kernel
  have hl := Lemmas.mash_wf_ne_nil hne w3
  refine ⟨fun hx => ⟨_, Lemmas.homeOr_unset _ hx hh, ?_⟩, fun hx => ⟨_, Lemmas.homeOr_unset _ hx hh, ?_⟩,
    fun hx => ⟨_, Lemmas.homeOr_unset _ hx hh, ?_⟩, fun hx => ⟨_, Lemmas.homeOr_unset _ hx hh, ?_⟩⟩
  · exact Lemmas.components_mash_wf hne w1
  · exact Lemmas.components_mash_wf hne w2
  · show components (mash (mash h (var ".local")) (var "share")) = _
    rw [Lemmas.components_mash_wf hl w4, Lemmas.components_mash_wf hne w3, List.append_assoc]
    rfl
  · show components (mash (mash h (var ".local")) (var "state")) = _
    rw [Lemmas.components_mash_wf hl w5, Lemmas.components_mash_wf hne w3, List.append_assoc]
    rfl

theorem C18_home_dirs_error_iff (env : Env) :
    ((∃ k, configDir env = .err k) ↔ (env (var "XDG_CONFIG_HOME") = none ∧ env (var "HOME") = none)) ∧
    ((∃ k, cacheDir env = .err k) ↔ (env (var "XDG_CACHE_HOME") = none ∧ env (var "HOME") = none)) ∧
    ((∃ k, dataDir env = .err k) ↔ (env (var "XDG_DATA_HOME") = none ∧ env (var "HOME") = none)) ∧
    ((∃ k, stateDir env = .err k) ↔ (env (var "XDG_STATE_HOME") = none ∧ env (var "HOME") = none)) :=
  ⟨Lemmas.homeOr_err_iff env _ _, Lemmas.homeOr_err_iff env _ _, Lemmas.homeOr_err_iff env _ _,
    Lemmas.homeOr_err_iff env _ _⟩

theorem C18_runtime_dir (env : Env) :
    runtimeDir env = (env (var "XDG_RUNTIME_DIR")).getD (var "/tmp") := by
  unfold runtimeDir
  show (match env (var "XDG_RUNTIME_DIR") with | some x => x | none => var "/tmp") = _
  cases env (var "XDG_RUNTIME_DIR") <;> rfl

/-! ### list variables: the listed directories in order without empty segments, or the defaults
    when unset or (all-)empty -/
def segments (x : Str) : List Str := (Str.splitOn ':' x).filter (fun s => s ≠ [])

theorem C18_sys_data_dirs (env : Env) :
    sysDataDirs env = match env (var "XDG_DATA_DIRS") with
      | some x => if segments x = [] then [var "/usr/local/share", var "/usr/share"] else segments x
      | none => [var "/usr/local/share", var "/usr/share"] :=
  Lemmas.listOr_eq env _ _

theorem C18_sys_config_dirs (env : Env) :
    sysConfigDirs env = match env (var "XDG_CONFIG_DIRS") with
      | some x => if segments x = [] then [var "/etc/xdg"] else segments x
      | none => [var "/etc/xdg"] :=
  Lemmas.listOr_eq env _ _

theorem C18_path_dirs (env : Env) :
    pathDirs env = match env (var "PATH") with
      | some x => .ok (segments x)
      | none => .err .var := by
  unfold pathDirs
  show (match env (var "PATH") with | some x => Outcome.ok (parsePaths x) | none => .err .var) = _
  cases env (var "PATH") <;> rfl

theorem C18_list_dirs_never_empty_segment (env : Env) :
    (∀ d ∈ sysDataDirs env, d ≠ []) ∧ (∀ d ∈ sysConfigDirs env, d ≠ []) := by
  -- the defaults are non-empty string literals
  have hv : ∀ s : String, s ≠ "" → v s ≠ [] := fun s h => mt String.toList_eq_nil_iff.1 h
  refine ⟨Lemmas.listOr_ne_nil env _ _ ?_, Lemmas.listOr_ne_nil env _ _ ?_⟩
  · exact List.forall_mem_cons.2 ⟨hv _ (by decide), List.forall_mem_singleton.2 (hv _ (by decide))⟩
  · exact List.forall_mem_singleton.2 (hv _ (by decide))

/-! ### vfs.config_dir(name): first hit in the order XDG_CONFIG_HOME (or its default), XDG_CONFIG_DIRS
    (repaired code: holds for EVERY environment) -/

/-- the lookup order, read off the environment: `$XDG_CONFIG_HOME` when set, else `$HOME/.config`
    when `$HOME` is set, else no user directory; then the `XDG_CONFIG_DIRS` list
    (`C18_sys_config_dirs`: its non-empty segments, default `/etc/xdg`) -/
def configSearchOrder (env : Env) : List Str :=
  (match env (var "XDG_CONFIG_HOME") with
    | some x => [x]
    | none => match env (var "HOME") with
      | some h => [mash h (var ".config")]
      | none => []) ++ sysConfigDirs env

/-- the user entry of the order is exactly `config_dir()` when that succeeds, and absent otherwise -/
theorem C18_config_search_order_user (env : Env) :
    configSearchOrder env = (match configDir env with | .ok c => [c] | _ => []) ++ sysConfigDirs env := by
  have h := Lemmas.homeOr_eq env "XDG_CONFIG_HOME" (fun h => mash h (v ".config"))
  unfold configSearchOrder configDir var
  rw [h]
  cases env "XDG_CONFIG_HOME".toList with
  | some x => rfl
  | none => cases env "HOME".toList <;> rfl

/-- full strength, every environment: the result is the first directory of the order containing `name` -/
theorem C18_config_dir_first_hit (env : Env) (ex : Str → Bool) (name : Str) :
    vfsConfigDir env ex name = (configSearchOrder env).find? (fun d => ex (mash d name)) := by
  rw [C18_config_search_order_user]
  exact Lemmas.vfsConfigDir_eq env ex name

/-- characterisation of the first hit -/
theorem C18_config_dir_some_iff (env : Env) (ex : Str → Bool) (name d : Str) :
    vfsConfigDir env ex name = some d ↔
      ∃ pre post, configSearchOrder env = pre ++ d :: post ∧ ex (mash d name) = true ∧
        ∀ d' ∈ pre, ex (mash d' name) = false := by
  rw [C18_config_dir_first_hit, List.find?_eq_some_iff_append]
  simp only [Bool.not_eq_true']
  exact ⟨fun ⟨h1, pre, post, h2, h3⟩ => ⟨pre, post, h2, h1, h3⟩,
    fun ⟨pre, post, h2, h1, h3⟩ => ⟨h1, pre, post, h2, h3⟩⟩

/-- `None` iff no directory of the order contains `name` -/
theorem C18_config_dir_none_iff (env : Env) (ex : Str → Bool) (name : Str) :
    vfsConfigDir env ex name = none ↔ ∀ d ∈ configSearchOrder env, ex (mash d name) = false := by
  rw [C18_config_dir_first_hit, List.find?_eq_none]
  simp only [Bool.not_eq_true]

/-- the system directories are consulted whatever the environment: a hit there is never hidden -/
theorem C18_config_dir_system_dirs_always_searched (env : Env) (ex : Str → Bool) (name d : Str)
    (hd : d ∈ sysConfigDirs env) (hex : ex (mash d name) = true) :
    ∃ r, vfsConfigDir env ex name = some r := by
  cases h : vfsConfigDir env ex name with
  | some r => exact ⟨r, rfl⟩
  | none =>
    have h' := (C18_config_dir_none_iff env ex name).1 h d
      (by unfold configSearchOrder; exact List.mem_append_right _ hd)
    rw [hex] at h'
    cases h'

/-- positive example on the witness environment of the former finding `no_home_hides_system_dirs`
    (HOME and XDG_CONFIG_HOME both unset): the default system directory is found -/
theorem C18_example_no_home_finds_system_dir :
    configDir (fun _ => none) = .err .var ∧
    vfsConfigDir (fun _ => none) (fun _ => true) (var "app.toml") = some (var "/etc/xdg") := by
  constructor <;> rfl

-- non-vacuity / sanity (tests, labelled as such): user directory first, then the list in order
example : configSearchOrder (fun k => if k = var "HOME" then some (var "/home/u") else
      if k = var "XDG_CONFIG_DIRS" then some (var "/a::/b") else none) =
    [var "/home/u/.config", var "/a", var "/b"] := by decide +kernel
example : vfsConfigDir (fun k => if k = var "XDG_CONFIG_DIRS" then some (var "/a:/b") else none)
    (fun p => p == var "/b/app") (var "app") = some (var "/b") := by decide +kernel

/-! ### getrids -/
/-- `parse::<u32>()`: optional `+`, then one or more ASCII digits, value below 2^32 -/
def IsU32Text (s : Str) (n : Nat) : Prop :=
  ∃ ds : Str, (s = ds ∨ s = '+' :: ds) ∧ ds ≠ [] ∧ (∀ c ∈ ds, c.isDigit = true) ∧
    ds.foldl (fun acc c => acc * 10 + (c.toNat - 48)) 0 = n ∧ n < 2 ^ 32

theorem C18_parse_u32 (s : Str) (n : Nat) : parseU32 s = some n ↔ IsU32Text s n :=
  Lemmas.parseU32_iff s n

theorem C18_getrids (env : Env) (uid gid : Nat) :
    getrids env uid gid =
      if uid = 0 then
        match (env (var "SUDO_UID")).bind parseU32, (env (var "SUDO_GID")).bind parseU32 with
        | some u, some g => (u, g)
        | _, _ => (uid, gid)
      else (uid, gid) := by
  unfold getrids
  rw [show v = var from rfl]
  split
  · cases env (var "SUDO_UID") with
    | none => cases env (var "SUDO_GID") <;> rfl
    | some a =>
      cases env (var "SUDO_GID") with
      | none => rw [Option.bind_some]; cases parseU32 a <;> rfl
      | some b => rfl
  · rfl

-- non-vacuity / sanity (tests, labelled as such)
example : parseU32 "+42".toList = some 42 := by decide +kernel
example : parseU32 "4294967296".toList = none := by decide +kernel

end Rivia.Props
