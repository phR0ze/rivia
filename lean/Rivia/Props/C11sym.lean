/-
  C11 (symbolic-mode part) — the `[dfa]:[ugoa][-+=][rwx]` state machine of `sys::mode`
  against the documented comma-repeatable grammar.   Property theorems ONLY.

  State of the code: `sys::mode` after the repair of finding `sym_kind_specific_clauses`
  (a clause for another kind of entry is skipped up to the next comma instead of ending the call).
  The finding `sym_malformed` (malformed text that is accepted) is still open; it has one new
  member: a clause that is skipped is not read, so garbage in it goes unnoticed.
-/
import Rivia.Model.Chmod
import Rivia.Spec.ChmodGrammar
import Rivia.Lemmas.Chmod

namespace Rivia.Props
open Rivia Rivia.Chmod Rivia.Spec

-- `IsMode cur` and `sym ≠ []` belong to the property as stated; not every proof below needs them
set_option linter.unusedVariables false

/-- a `u32` mode value -/
def IsMode (m : Nat) : Prop := m < 2 ^ 32

/-! ### well-formed expressions -/

/-- FULL: every well-formed expression means what the grammar says — every clause whose target
    letters all admit the entry kind is applied, in order, the others are skipped; for every
    entry kind, all 2^32 mode values, any number of clauses of any kind mix. -/
theorem C11_symbolic_full (k : EKind) (cur : Nat) (sym : List Char) (cs : List Clause)
    (hcur : IsMode cur) (hne : sym ≠ []) (hp : parseExpr sym = some cs) :
    Chmod.mode k cur 0 sym = .ok (applyExpr k cs cur) :=
  Lemmas.mode_parsed k cur sym cs hp

/-- the same, against the specification function `symSpec` (error = `none`): on well-formed
    text the code never fails and returns the specified mode -/
theorem C11_symbolic_full_spec (k : EKind) (cur : Nat) (sym : List Char) (m : Nat)
    (hcur : IsMode cur) (hs : symSpec k cur sym = some m) : Chmod.mode k cur 0 sym = .ok m := by
  unfold symSpec at hs
  cases hp : parseExpr sym with
  | none => rw [hp] at hs; cases hs
  | some cs =>
    rw [hp] at hs
    cases hs
    exact Lemmas.mode_parsed k cur sym cs hp

/-- corollary: all clauses apply -/
theorem C11_symbolic_all_clauses_apply (k : EKind) (cur : Nat) (sym : List Char) (cs : List Clause)
    (hcur : IsMode cur) (hp : parseExpr sym = some cs) (hall : ∀ c ∈ cs, c.appliesTo k = true) :
    Chmod.mode k cur 0 sym = .ok (applyExpr k cs cur) :=
  Lemmas.mode_parsed k cur sym cs hp

/-- corollary: single clause, whatever the kind (a non-applicable clause leaves the mode) -/
theorem C11_symbolic_single_clause (k : EKind) (cur : Nat) (sym : List Char) (c : Clause)
    (hcur : IsMode cur) (hp : parseExpr sym = some [c]) :
    Chmod.mode k cur 0 sym = .ok (applyExpr k [c] cur) :=
  Lemmas.mode_parsed k cur sym [c] hp

/-- a symlink is never altered by a well-formed expression -/
theorem C11_symbolic_link_untouched (k : EKind) (cur : Nat) (sym : List Char) (cs : List Clause)
    (hl : k.link = true) (hp : parseExpr sym = some cs) : Chmod.mode k cur 0 sym = .ok cur := by
  rw [Lemmas.mode_parsed k cur sym cs hp, Lemmas.applyExpr_link k cs cur hl]

/-- ... nor by any other text: on a link the call fails or returns the mode unchanged -/
theorem C11_link_never_altered (k : EKind) (cur : Nat) (sym : List Char)
    (hl : k.link = true) (hne : sym ≠ []) :
    (∃ e, Chmod.mode k cur 0 sym = .err e) ∨ Chmod.mode k cur 0 sym = .ok cur := by
  rw [Lemmas.mode_eq_symLoop k cur sym hne _ (Nat.lt_succ_self _)]
  rcases Lemmas.targetLoop_cases k cur sym with ⟨e, hT⟩ | hT | ⟨hl', _⟩
  · exact .inl ⟨e, Lemmas.symLoop_ret k _ cur sym _ hne hT⟩
  · exact .inr (Lemmas.symLoop_ret k _ cur sym _ hne hT)
  · rw [hl] at hl'; cases hl'

/-- Former finding `sym_kind_specific_clauses` (before the repair the first line gave `0o100644`):
    a clause for another kind no longer hides the later ones. Positive examples, code = grammar;
    multi-letter target lists are tested per letter, which is the grammar's "every letter admits
    the kind". -/
theorem C11_finding_first_clause_other_kind :
    Chmod.mode ⟨false, true, false⟩ 0o100644 0 "d:u+x,f:a+x".toList = .ok 0o100755 ∧
    symSpec ⟨false, true, false⟩ 0o100644 "d:u+x,f:a+x".toList = some 0o100755 ∧
    Chmod.mode ⟨true, false, false⟩ 0o40700 0 "d:g+rx,f:a+x,a:o+r".toList = .ok 0o40754 ∧
    symSpec ⟨true, false, false⟩ 0o40700 "d:g+rx,f:a+x,a:o+r".toList = some 0o40754 ∧
    Chmod.mode ⟨false, true, false⟩ 0o100644 0 "df:a+x,fd:a+x,fa:g+w".toList = .ok 0o100664 ∧
    symSpec ⟨false, true, false⟩ 0o100644 "df:a+x,fd:a+x,fa:g+w".toList = some 0o100664 ∧
    Chmod.mode ⟨false, true, false⟩ 0o100644 0 "f:u+x,d:a+w".toList = .ok 0o100744 ∧
    symSpec ⟨false, true, false⟩ 0o100644 "f:u+x,d:a+w".toList = some 0o100744 := by decide +kernel

/-! ### file-type bits, octal, empty -/

/-- the file-type bits (everything above the 9 permission bits... up to bit 31) are kept by
    every symbolic expression that is accepted -/
theorem C11_type_bits_kept (k : EKind) (cur : Nat) (sym : List Char) (m : Nat)
    (hcur : IsMode cur) (h : Chmod.mode k cur 0 sym = .ok m) (hne : sym ≠ []) :
    m / 512 = cur / 512 ∧ IsMode m := by
  rw [Lemmas.mode_eq_symLoop k cur sym hne _ (Nat.lt_succ_self _)] at h
  exact Lemmas.symLoop_keeps k cur _ cur sym m rfl hcur h

theorem C11_octal_wins (k : EKind) (cur oct : Nat) (sym : List Char) (h : oct ≠ 0) :
    Chmod.mode k cur oct sym = .ok oct := by
  unfold Chmod.mode; rw [if_pos h]

theorem C11_nothing_requested (k : EKind) (cur : Nat) : Chmod.mode k cur 0 [] = .ok 0 := rfl

/-! ### malformed first clause (open finding `sym_malformed`) -/

/-- Full statement (false, see witnesses): a malformed first clause is always reported. -/
def C11_malformed_first_clause_full : Prop :=
  ∀ (k : EKind) (cur : Nat) (sym : List Char), sym ≠ [] →
    parseClause ((splitComma sym).headD []) = none → ∃ e, Chmod.mode k cur 0 sym = .err e

/-- findings (`sym_malformed`): truncated clauses are silently accepted; an empty target list is
    accepted as "all"; and — new with the repair — a clause for another kind is skipped UNREAD, so
    any garbage after the offending target letter is accepted, and the later clauses are applied.
    The grammar rejects every one of these texts. -/
theorem C11_finding_malformed_accepted :
    -- truncated
    Chmod.mode ⟨false, true, false⟩ 0o100644 0 "f:a+".toList = .ok 0o100644 ∧
    Chmod.mode ⟨false, true, false⟩ 0o100644 0 "f:".toList = .ok 0o100644 ∧
    -- empty target list
    Chmod.mode ⟨false, true, false⟩ 0o100644 0 ":a+x".toList = .ok 0o100755 ∧
    -- skipped unread: end of text
    Chmod.mode ⟨false, true, false⟩ 0o100644 0 "d:q+r".toList = .ok 0o100644 ∧
    Chmod.mode ⟨false, true, false⟩ 0o100644 0 "d".toList = .ok 0o100644 ∧
    Chmod.mode ⟨false, true, false⟩ 0o100644 0 "fd".toList = .ok 0o100644 ∧
    -- skipped unread: the later clauses are applied
    Chmod.mode ⟨false, true, false⟩ 0o100644 0 "d:q+r,f:a+x".toList = .ok 0o100755 ∧
    Chmod.mode ⟨false, true, false⟩ 0o100644 0 "d?!,f:a+x".toList = .ok 0o100755 ∧
    Chmod.mode ⟨false, true, false⟩ 0o100644 0 "fdz:u+,f:a+x".toList = .ok 0o100755 ∧
    Chmod.mode ⟨true, false, false⟩ 0o40755 0 "f,a:o-rx".toList = .ok 0o40750 ∧
    -- the grammar's verdict
    parseClause "f:a+".toList = none ∧ parseClause "f:".toList = none ∧
    parseClause ":a+x".toList = none ∧ parseClause "d:q+r".toList = none ∧
    parseClause "d".toList = none ∧ parseClause "fd".toList = none ∧
    parseExpr "d:q+r,f:a+x".toList = none ∧ parseExpr "d?!,f:a+x".toList = none ∧
    parseExpr "fdz:u+,f:a+x".toList = none ∧ parseExpr "f,a:o-rx".toList = none := by decide +kernel

/-- the same malformed clause IS reported on an entry of the kind it names: whether malformed text
    is noticed depends on the entry it is applied to -/
theorem C11_finding_malformed_kind_dependent :
    Chmod.mode ⟨true, false, false⟩ 0o40755 0 "d:q+r,f:a+x".toList = .err .invalidChmodGroup ∧
    Chmod.mode ⟨false, true, false⟩ 0o100644 0 "d:q+r,f:a+x".toList = .ok 0o100755 ∧
    Chmod.mode ⟨true, false, false⟩ 0o40755 0 "d?!,f:a+x".toList = .err .invalidChmodTarget ∧
    Chmod.mode ⟨false, true, false⟩ 0o100644 0 "d?!,f:a+x".toList = .ok 0o100755 := by decide +kernel

theorem C11_malformed_first_clause_full_is_false : ¬ C11_malformed_first_clause_full := by
  intro h
  obtain ⟨e, he⟩ := h ⟨false, true, false⟩ 0o100644 "f:a+".toList (by decide +kernel) (by decide +kernel)
  have hok : Chmod.mode ⟨false, true, false⟩ 0o100644 0 "f:a+".toList = .ok 0o100644 := by decide +kernel
  rw [hok] at he
  cases he

/-- the leading target letters of the text all admit the entry kind (decidable) -/
def LeadingTargetsAdmit (k : EKind) (sym : List Char) : Prop :=
  ∀ y ∈ sym.takeWhile isTargetCh, Lemmas.letterOk k y = true

instance (k : EKind) (sym : List Char) : Decidable (LeadingTargetsAdmit k sym) := by
  unfold LeadingTargetsAdmit; infer_instance

/-- Exact behaviour of a skip, for ARBITRARY text `r` after the offending letter (`r` is not
    validated): if the entry is not a link, `t` are target letters admitting the entry kind and
    `x` is `d`/`f` not admitting it, then `t ++ x :: r` means what the text after the next comma
    means — nothing if there is no comma or nothing after it. -/
theorem C11_skipped_clause_unread (k : EKind) (cur : Nat) (t : List Char) (x : Char) (r : List Char)
    (hl : k.link = false) (ht : ∀ y ∈ t, isTargetCh y = true ∧ Lemmas.letterOk k y = true)
    (hx : x = 'd' ∨ x = 'f') (hbad : Lemmas.letterOk k x = false) :
    Chmod.mode k cur 0 (t ++ x :: r) =
      if skipClause r = [] then .ok cur else Chmod.mode k cur 0 (skipClause r) :=
  Lemmas.mode_skip_first k cur t x r hl ht hx hbad

/-- partial: for every `sym` whose first segment does not parse, whose first character is one of
    `d f a` (non-empty target list) and whose leading target letters all admit the entry kind
    (so the clause is not skipped): the result is an error, or it is `.ok cur` (mode unchanged). -/
theorem C11_malformed_first_clause_partial (k : EKind) (cur : Nat) (sym : List Char)
    (hne : sym ≠ []) (hmal : parseClause ((splitComma sym).headD []) = none)
    (htl : ∃ c rest, sym = c :: rest ∧ (c = 'd' ∨ c = 'f' ∨ c = 'a'))
    (hadm : LeadingTargetsAdmit k sym) :
    (∃ e, Chmod.mode k cur 0 sym = .err e) ∨ Chmod.mode k cur 0 sym = .ok cur := by
  obtain ⟨c, rest, hsym, hc⟩ := htl
  rcases Lemmas.mode_malformed_any k cur sym hne hmal with h | h | ⟨r, h⟩ |
    ⟨_, t, x, r, h1, h2, h3, h4, _⟩
  · exact .inl h
  · exact .inr h
  · -- the text does not start with `:`
    rw [hsym] at h
    obtain rfl : c = ':' := (List.cons.inj h).1
    exact absurd hc (by decide)
  · -- the letter at which the clause would be skipped is one of the leading target letters
    exfalso
    have hxt : isTargetCh x = true := by rcases h3 with rfl | rfl <;> decide
    have hmem : x ∈ sym.takeWhile isTargetCh := by
      rw [h1, List.takeWhile_append_of_pos (fun y hy => (h2 y hy).1),
        List.takeWhile_cons_of_pos hxt]
      simp
    rw [hadm x hmem] at h4
    cases h4

/-- the hypothesis `LeadingTargetsAdmit` of the partial theorem cannot be dropped -/
theorem C11_malformed_first_clause_partial_needs_admit :
    ¬ ∀ (k : EKind) (cur : Nat) (sym : List Char), sym ≠ [] →
      parseClause ((splitComma sym).headD []) = none →
      (∃ c rest, sym = c :: rest ∧ (c = 'd' ∨ c = 'f' ∨ c = 'a')) →
      (∃ e, Chmod.mode k cur 0 sym = .err e) ∨ Chmod.mode k cur 0 sym = .ok cur := by
  intro h
  -- the text `d:q+r,f:a+x` on a file
  have hv : Chmod.mode ⟨false, true, false⟩ 0o100644 0
      ['d', ':', 'q', '+', 'r', ',', 'f', ':', 'a', '+', 'x'] = .ok 0o100755 := by
    decide +kernel
  rcases h ⟨false, true, false⟩ 0o100644 ['d', ':', 'q', '+', 'r', ',', 'f', ':', 'a', '+', 'x']
    (List.cons_ne_nil _ _) (by decide +kernel) ⟨_, _, rfl, .inl rfl⟩ with ⟨e, he⟩ | he
  · rw [hv] at he; cases he
  · rw [hv] at he; cases he

/-- complement (no hypothesis on the text): a malformed first clause is
    (1) reported, or (2) ignored (mode unchanged), or (3) starts with `:` (empty target list), or
    (4) is skipped unread at a target letter for another kind, and then the call means exactly
        what the text after the next comma means. -/
theorem C11_malformed_first_clause_classified (k : EKind) (cur : Nat) (sym : List Char)
    (hne : sym ≠ []) (hmal : parseClause ((splitComma sym).headD []) = none) :
    (∃ e, Chmod.mode k cur 0 sym = .err e) ∨ Chmod.mode k cur 0 sym = .ok cur ∨
      (∃ rest, sym = ':' :: rest) ∨
      (k.link = false ∧ ∃ t x r, sym = t ++ x :: r ∧
        (∀ y ∈ t, isTargetCh y = true ∧ Lemmas.letterOk k y = true) ∧ (x = 'd' ∨ x = 'f') ∧
        Lemmas.letterOk k x = false ∧ skipClause r ≠ [] ∧
        Chmod.mode k cur 0 sym = Chmod.mode k cur 0 (skipClause r)) :=
  Lemmas.mode_malformed_any k cur sym hne hmal

/-! ### revoking_mode -/
theorem C11_revoking_mode (old new : Nat) :
    revokingMode old new = true ↔
      (new &&& 0o500 < old &&& 0o500 ∨ new &&& 0o050 < old &&& 0o050 ∨ new &&& 0o005 < old &&& 0o005) := by
  simp [revokingMode, or_assoc]

-- non-vacuity / sanity (tests, labelled as such)
example : Chmod.mode ⟨false, true, false⟩ 0o100644 0 "f:a+r,f:a-wx".toList = .ok 0o100444 := by decide +kernel
example : parseExpr "a:go-rwx".toList = some [⟨['a'], ['g', 'o'], '-', ['r', 'w', 'x']⟩] := by decide +kernel
example : (⟨['f'], ['u'], '+', ['x']⟩ : Clause).appliesTo ⟨false, true, false⟩ = true := by decide +kernel
-- `C11_symbolic_full`: a parsed expression with clauses of both kinds
example : parseExpr "d:u+x,f:a+x".toList =
    some [⟨['d'], ['u'], '+', ['x']⟩, ⟨['f'], ['a'], '+', ['x']⟩] := by decide +kernel
-- `C11_malformed_first_clause_partial`: hypotheses satisfiable by a non-trivial value
example : parseClause ((splitComma "fa:u+q,f:a+x".toList).headD []) = none ∧
    LeadingTargetsAdmit ⟨false, true, false⟩ "fa:u+q,f:a+x".toList ∧
    Chmod.mode ⟨false, true, false⟩ 0o100644 0 "fa:u+q,f:a+x".toList = .err .invalidChmodPermissions := by
  decide +kernel
-- `C11_skipped_clause_unread`: hypotheses satisfiable
example : (∀ y ∈ ['f', 'a'], isTargetCh y = true ∧ Lemmas.letterOk ⟨false, true, false⟩ y = true) ∧
    Lemmas.letterOk ⟨false, true, false⟩ 'd' = false := by decide +kernel

end Rivia.Props
