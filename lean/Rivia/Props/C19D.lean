/-
  C19 (last clause) — "a defer guard runs its closure exactly once when its scope ends, in reverse
  order of creation, whether the scope is left normally, by early return or by unwinding."

  `Rivia.Model.Defer` models the Rust drop discipline the guard rests on (`defer!(e)` is a local whose
  `Drop` runs `e`); the model is validated against the compiled Rust by differential testing.  Here:
  what the model guarantees.  Property theorems ONLY (helper lemmas: Rivia/Lemmas/Defer.lean).
  `Balanced prog` = the blocks of the program are syntactically balanced (it compiles).
-/
import Rivia.Model.Defer
import Rivia.Lemmas.Defer

namespace Rivia.Props
open Rivia.Defer

/-! ### (a) exactly once -/

/-- Every guard created before the function ended (labels `0 … executedRegs prog - 1`) runs exactly
once, and nothing else runs. -/
theorem C19_defer_exactly_once (prog : List DItem) (hb : Balanced prog = true) (k : Nat) :
    (runDefer prog).log.count k = if k < executedRegs prog then 1 else 0 := by
  have h := (exitState_inv prog).count_final k
  have hn := exec_next prog DState.init (by simpa [DState.init, Balanced] using hb)
  simp only [DState.init, Nat.zero_add] at hn
  rw [← hn]; exact h

/-- the same as a permutation: the log is a rearrangement of `0, 1, …, n-1` -/
theorem C19_defer_log_perm (prog : List DItem) (hb : Balanced prog = true) :
    (runDefer prog).log.Perm (List.range (executedRegs prog)) := by
  rw [List.perm_iff_count]; intro k
  rw [C19_defer_exactly_once prog hb k, List.count_range]

/-- … spelled out: no duplicates, and exactly the labels below `executedRegs prog` -/
theorem C19_defer_nodup_mem (prog : List DItem) (hb : Balanced prog = true) :
    (runDefer prog).log.Nodup ∧ (∀ k, k ∈ (runDefer prog).log ↔ k < executedRegs prog) ∧
      (runDefer prog).log.length = executedRegs prog := by
  have hp := C19_defer_log_perm prog hb
  exact ⟨hp.nodup_iff.mpr List.nodup_range, fun k => by rw [hp.mem_iff, List.mem_range],
    by rw [hp.length_eq, List.length_range]⟩

/-- without any hypothesis on the program: no guard ever runs twice -/
theorem C19_defer_at_most_once (prog : List DItem) : (runDefer prog).log.Nodup := by
  rw [List.nodup_iff_count]; intro k
  have h := (exitState_inv prog).count_final k
  show List.count k (_ ++ _) ≤ 1
  rw [h]; split <;> omega

/-! ### (b) reverse order of creation inside one scope instance
`runDeferI` is the same machine with a ghost scope id attached to every label at creation. -/

/-- the ghost ids do not change what runs -/
theorem C19_defer_ghost_erase (prog : List DItem) :
    (runDeferI prog).map (·.2) = (runDefer prog).log := runDeferI_erase prog

/-- Two guards created in the same scope instance: the one that runs earlier has the larger label,
i.e. was created later.  (Positions `i < j` of the log.) -/
theorem C19_defer_reverse_order (prog : List DItem) (i j : Nat) (hi : i < (runDeferI prog).length)
    (hj : j < (runDeferI prog).length) (hij : i < j)
    (hsame : ((runDeferI prog)[i]).1 = ((runDeferI prog)[j]).1) :
    ((runDeferI prog)[i]).2 > ((runDeferI prog)[j]).2 :=
  List.pairwise_iff_getElem.mp (execI_iinv prog iinv_init).final i j hi hj hij hsame

theorem C19_defer_reverse_order_pairwise (prog : List DItem) :
    (runDeferI prog).Pairwise (fun x y => x.1 = y.1 → x.2 > y.2) :=
  (execI_iinv prog iinv_init).final

/-- The guards of one scope instance run as ONE contiguous block (all of them when the scope ends,
nothing of another scope in between): between two log entries of the same scope instance there are
only entries of that instance.  With `C19_defer_reverse_order`: a contiguous decreasing block. -/
theorem C19_defer_scope_contiguous (prog : List DItem) (i j k : Nat) (hij : i < j) (hjk : j < k)
    (hk : k < (runDeferI prog).length)
    (hsame : ((runDeferI prog)[i]).1 = ((runDeferI prog)[k]).1) :
    ((runDeferI prog)[j]).1 = ((runDeferI prog)[k]).1 :=
  runDeferI_contig prog i j k _ _ _ hij hjk (List.getElem?_eq_getElem _) (List.getElem?_eq_getElem _)
    (List.getElem?_eq_getElem hk) hsame

/-! ### (c) at a function exit (`return`, `panic!()`, end of body) everything still pending runs,
innermost scope first -/

/-- (restates the definition) the log is what had run before the exit followed by the guards pending
at the exit -/
theorem C19_defer_exit_split (prog : List DItem) :
    (runDefer prog).log = (exec .init prog).1.log ++ (exec .init prog).1.pending := rfl

/-- the guards pending at the exit run in strictly decreasing label order -/
theorem C19_defer_exit_decreasing (prog : List DItem) :
    (exec .init prog).1.pending.Pairwise (· > ·) := (exitState_inv prog).dec

/-- so of two guards pending at the exit, the one created later (`b`: same or inner scope) runs
before the one created earlier (`a`: same or enclosing scope) -/
theorem C19_defer_inner_before_outer (prog : List DItem) (a b : Nat)
    (ha : a ∈ (exec .init prog).1.pending) (hb : b ∈ (exec .init prog).1.pending) (hab : a < b) :
    (runDefer prog).log.idxOf b < (runDefer prog).log.idxOf a := by
  have hinv := exitState_inv prog
  rw [C19_defer_exit_split, List.idxOf_append, List.idxOf_append,
    if_neg (hinv.not_mem_log ha), if_neg (hinv.not_mem_log hb)]
  have := idxOf_lt_of_pairwise_gt hinv.dec ha hb hab
  omega

/-! ### (d) how the function is left does not matter -/

/-- replacing a `return` by `panic!()`, or cutting the body off at that point, does not change
what runs -/
theorem C19_defer_ending_irrelevant (pre post : List DItem) :
    (runDefer (pre ++ .ret :: post)).log = (runDefer (pre ++ .pan :: post)).log ∧
    (runDefer (pre ++ .ret :: post)).log = (runDefer pre).log := by
  simp only [runDefer, finish, exec_append_exit pre post .ret (Or.inl rfl),
    exec_append_exit pre post .pan (Or.inr rfl), and_self]

/-- … while the ending is reported faithfully (so the three runs above really differ) -/
theorem C19_defer_ending (pre post : List DItem) (x : DItem)
    (hb : Balanced (pre ++ x :: post) = true) (hpre : ∀ i ∈ pre, i ≠ .ret ∧ i ≠ .pan) :
    (runDefer (pre ++ x :: post)).ending = (exec (exec .init pre).1 (x :: post)).2 := by
  simp only [runDefer, finish]
  rw [exec_append_noExit pre (x :: post) hpre DState.init hb]

theorem C19_defer_ending_ret (pre post : List DItem)
    (hb : Balanced (pre ++ .ret :: post) = true) (hpre : ∀ i ∈ pre, i ≠ .ret ∧ i ≠ .pan) :
    (runDefer (pre ++ .ret :: post)).ending = .returned := by
  rw [C19_defer_ending pre post .ret hb hpre]; rfl

theorem C19_defer_ending_pan (pre post : List DItem)
    (hb : Balanced (pre ++ .pan :: post) = true) (hpre : ∀ i ∈ pre, i ≠ .ret ∧ i ≠ .pan) :
    (runDefer (pre ++ .pan :: post)).ending = .panicked := by
  rw [C19_defer_ending pre post .pan hb hpre]; rfl

/-! ### non-vacuity -/

/-- `d{dd}dr` -/
def exProg : List DItem := [.reg, .openS, .reg, .reg, .closeS, .reg, .ret]

example : parseDefer "d{dd}dr" = some exProg := by decide +kernel
example : Balanced exProg = true := by decide
example : executedRegs exProg = 4 := by decide
example : runDefer exProg = ⟨[2, 1, 3, 0], .returned⟩ := by decide +kernel
example : runDeferI exProg = [(1, 2), (1, 1), (0, 3), (0, 0)] := by decide
example : (exec .init exProg).1.pending = [3, 0] := by decide
/-- a panic inside two nested blocks: everything unwinds, innermost first -/
example : runDefer [.reg, .openS, .reg, .openS, .reg, .pan, .closeS, .reg, .closeS, .reg]
    = ⟨[2, 1, 0], .panicked⟩ := by decide
/-- guards of a closed block run at its `}`, before later guards of the enclosing scope are created -/
example : runDefer [.openS, .reg, .closeS, .reg] = ⟨[0, 1], .normal⟩ := by decide
/-- the hypotheses of `C19_defer_ending_ret` are satisfiable by a non-trivial program -/
example : Balanced ([.reg, .openS, .reg] ++ .ret :: [.closeS, .reg]) = true ∧
    ∀ i ∈ [DItem.reg, .openS, .reg], i ≠ .ret ∧ i ≠ .pan := by decide
/-- `Balanced` is needed in (a): an unbalanced `}` ends the function in the model, `executedRegs`
does not see that -/
example : Balanced [.reg, .closeS, .reg] = false ∧ (runDefer [.reg, .closeS, .reg]).log = [0] ∧
    executedRegs [.reg, .closeS, .reg] = 2 := by decide
#guard showDOut (runDefer exProg) == "ok d:2,1,3,0|r"
#guard showDOut (runDefer []) == "ok d:|n"
#guard parseDefer "dx" == none

end Rivia.Props
